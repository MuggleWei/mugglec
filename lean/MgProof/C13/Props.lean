import MgProof.C13.LemmasTrace
import MgProof.C13.LemmasPoll
import MgProof.C13.LemmasSelect
import MgProof.C13.LemmasEpoll
import MgProof.C13.LemmasReady
import MgProof.C13.LemmasEpollReady
import MgProof.C13.LemmasSelectFd
import MgProof.C13.LemmasAgree
/-!
# C13 — property theorems (event loop callback life-cycle; select, poll, epoll agree)

Statement (properties.jsonl): for any scripted history of descriptors becoming readable,
peers closing, contexts being added or flagged closed from inside callbacks, wake-ups and
exit, the event loop calls the read callback for every registered context that has pending
input, calls the close callback exactly once for each context that becomes closed and never
calls back on it afterwards, calls the clear callback exactly once for each context still
registered when the loop exits, and the exit callback once. The select, poll and epoll
back-ends agree, for the same script, on every context's outcome, and a context being added,
rejected for capacity or removed never disturbs the others.
For every script the close clause is proved as *at most once* and *only while registered*; that an
ended stream does get `cb_close`, for class P only.

Quantifiers of the theorems below: every back-end `b`, every `hints_max_fd`, both poll
accountings (`legacy`), both select scans (`lsel`), `cfd`, every list of descriptor kinds, every
list `pre` of actions before `muggle_evloop_run`, every script `sc` (arbitrary functions from
callback occurrences to action lists, arbitrary read modes), every iteration bound `fuel` — i.e.
every prefix of every run. `evs` is the chronological list of observable events of `scenario …`.
-/
namespace MgProof.C13
open MgModel.C13

/-- the state when the back-end's loop returns, before the clear / exit callbacks -/
def loopEnd (b : Backend) (hints : Nat) (legacy : Bool) (kinds : List Kind) (pre : List Act)
    (sc : Script) (fuel : Nat) (lsel cfd : Bool) : St :=
  backendRun sc fuel (runActs pre (initSt b hints legacy kinds lsel cfd))

theorem initSt_inv (b : Backend) (hints : Nat) (legacy : Bool) (kinds : List Kind) (lsel cfd : Bool) :
    Inv none (initSt b hints legacy kinds lsel cfd) := by
  constructor <;> simp [initSt, LoopWF]

section Start
variable (b : Backend) (hints : Nat) (legacy : Bool) (kinds : List Kind) (pre : List Act)
  (lsel cfd : Bool)

theorem pre_inv : Inv none (runActs pre (initSt b hints legacy kinds lsel cfd)) ∧
    (runActs pre (initSt b hints legacy kinds lsel cfd)).backend = b :=
  ⟨runActs_inv pre (initSt_inv _ _ _ _ _ _), (runActs_ext pre _).backend⟩

theorem pre_pinv : PollInv (runActs pre (initSt .poll hints legacy kinds lsel cfd)) :=
  ⟨runActs_pinv pre ⟨rfl, by simp [initSt], by simp [initSt], by simp [initSt, NoLost]⟩,
   (pre_inv ..).1⟩

theorem pre_selc : SelCInv (runActs pre (initSt .select hints legacy kinds lsel cfd)) :=
  ⟨SelC.step ⟨rfl, rfl, by simp [initSt], by simp [initSt, NoLost]⟩ (runActs_srel _ _), pre_inv ..⟩

theorem pre_selF : SelF (runActs pre (initSt .select hints legacy kinds false cfd)) :=
  selF_stable.runActs pre _
    ⟨rfl, by simp [initSt], by simp [initSt], by simp [initSt], by simp [initSt]⟩

theorem pre_einv : EpEInv (epStart (runActs pre (initSt .epoll hints legacy kinds lsel cfd))) :=
  ⟨epStart_einv (runActs_einv pre ⟨rfl, by simp [initSt], by simp [initSt],
    by intro c; simp [initSt, HupEof], by simp [initSt, NoLost]⟩), epStart_inv (pre_inv ..)⟩

end Start

theorem loopEnd_eq (b : Backend) (hints : Nat) (legacy : Bool) (kinds : List Kind) (pre : List Act)
    (sc : Script) (fuel : Nat) (lsel cfd : Bool) :
    loopEnd b hints legacy kinds pre sc fuel lsel cfd =
      match b with
      | .select => selLoop sc fuel (runActs pre (initSt b hints legacy kinds lsel cfd))
      | .poll => pollLoop sc fuel (runActs pre (initSt b hints legacy kinds lsel cfd))
      | .epoll => epLoop sc fuel (epStart (runActs pre (initSt b hints legacy kinds lsel cfd))) := by
  unfold loopEnd backendRun
  rw [(pre_inv b hints legacy kinds pre lsel cfd).2]
  cases b <;> rfl

theorem loopEnd_inv (b : Backend) (hints : Nat) (legacy : Bool) (kinds : List Kind) (pre : List Act)
    (sc : Script) (fuel : Nat) (lsel cfd : Bool) :
    Inv none (loopEnd b hints legacy kinds pre sc fuel lsel cfd) := by
  rw [loopEnd_eq]
  have h0 := pre_inv b hints legacy kinds pre lsel cfd
  cases b
  · exact selLoop_inv sc fuel h0
  · exact pollLoop_inv sc fuel h0.1
  · exact epLoop_inv sc fuel (epStart_inv h0)

theorem clearAll_eq (s : St) :
    clearAll s = { s with trace := (s.ctxList.map Ev.clear).reverse ++ s.trace } := by
  unfold clearAll
  have key : ∀ (l : List Nat) (t : St), l.foldl (fun s c => emit (.clear c) s) t =
      { t with trace := (l.map Ev.clear).reverse ++ t.trace } := by
    intro l
    induction l with
    | nil => intro t; simp
    | cons c l ih => intro t; rw [List.foldl_cons, ih]; simp [emit]
  exact key _ _

/-- **Shape of a run** (clauses "clear … when the loop exits, and the exit callback once"):
the events are the events of the back-end loop, then one `cb_clear` per context in
`ctx_list` in list order, then `cb_exit`. -/
theorem run_events (b : Backend) (hints : Nat) (legacy : Bool) (kinds : List Kind) (pre : List Act)
    (sc : Script) (fuel : Nat) (lsel cfd : Bool) :
    (scenario b hints legacy kinds pre sc fuel lsel cfd).events =
      (loopEnd b hints legacy kinds pre sc fuel lsel cfd).events ++
        (loopEnd b hints legacy kinds pre sc fuel lsel cfd).ctxList.map Ev.clear ++ [Ev.exit] := by
  unfold scenario run loopEnd
  rw [clearAll_eq]
  simp [St.events, emit]

theorem mem_events_iff {b : Backend} {hints : Nat} {legacy : Bool} {kinds : List Kind}
    {pre : List Act} {sc : Script} {fuel : Nat} {lsel cfd : Bool} {e : Ev}
    (h1 : ∀ c, e ≠ .clear c) (h2 : e ≠ .exit) :
    e ∈ (scenario b hints legacy kinds pre sc fuel lsel cfd).events ↔
      e ∈ (loopEnd b hints legacy kinds pre sc fuel lsel cfd).trace := by
  rw [run_events]
  simp [St.events, h2, fun c => (h1 c).symm]

section LifeCycle
variable (b : Backend) (hints : Nat) (legacy : Bool) (kinds : List Kind) (pre : List Act)
  (sc : Script) (fuel : Nat) (lsel cfd : Bool)

theorem scenario_runTrace : RunTrace (scenario b hints legacy kinds pre sc fuel lsel cfd).events :=
  have h := loopEnd_inv b hints legacy kinds pre sc fuel lsel cfd
  ⟨_, _, run_events .., h.wf, h.nodupL, fun c => ⟨registered_of_mem h, fun hr => h.complete c hr.1 hr.2⟩⟩

/-- **Life-cycle 1a** — `cb_close c` is called at most once for every context `c`. -/
theorem close_at_most_once (c : Nat) :
    (scenario b hints legacy kinds pre sc fuel lsel cfd).events.count (Ev.close c) ≤ 1 :=
  chrono_close_once (scenario_runTrace ..) c

/-- **Life-cycle 1b** — after `cb_close c` no callback (read, close, clear) mentions `c` again. -/
theorem no_callback_after_close {pre' post : List Ev} {c : Nat}
    (h : (scenario b hints legacy kinds pre sc fuel lsel cfd).events = pre' ++ Ev.close c :: post) :
    ∀ e ∈ post, ¬ Ev.callsBack c e :=
  chrono_after_close (scenario_runTrace ..) h

/-- **Life-cycle 1c** — `cb_read c` and `cb_close c` are only called while `c` is registered:
`muggle_evloop_add_ctx` accepted it earlier and it has not been closed. -/
theorem read_only_while_registered {pre' post : List Ev} {c n : Nat} {e : Bool}
    (h : (scenario b hints legacy kinds pre sc fuel lsel cfd).events = pre' ++ Ev.read c n e :: post) :
    Ev.addOk c ∈ pre' ∧ Ev.close c ∉ pre' :=
  chrono_registered (e := Ev.read c n e) (scenario_runTrace ..) (by simp) (fun _ h => h) h

theorem close_only_while_registered {pre' post : List Ev} {c : Nat}
    (h : (scenario b hints legacy kinds pre sc fuel lsel cfd).events = pre' ++ Ev.close c :: post) :
    Ev.addOk c ∈ pre' ∧ Ev.close c ∉ pre' :=
  chrono_registered (e := Ev.close c) (scenario_runTrace ..) (by simp) (fun _ h => h) h

/-- **Life-cycle 1d** — `cb_clear c` is called exactly once for every context that was accepted
and not closed (i.e. is still registered when the loop exits) and never for any other. -/
theorem clear_exactly_once_each_registered (c : Nat) :
    (scenario b hints legacy kinds pre sc fuel lsel cfd).events.count (Ev.clear c) =
      if Ev.addOk c ∈ (scenario b hints legacy kinds pre sc fuel lsel cfd).events ∧
         Ev.close c ∉ (scenario b hints legacy kinds pre sc fuel lsel cfd).events then 1 else 0 :=
  chrono_clear_count (scenario_runTrace ..) c

/-- **Life-cycle 1e** — `cb_exit` is called exactly once and is the last event. -/
theorem exit_once_and_last :
    (scenario b hints legacy kinds pre sc fuel lsel cfd).events.getLast? = some Ev.exit ∧
    (scenario b hints legacy kinds pre sc fuel lsel cfd).events.count Ev.exit = 1 :=
  chrono_exit (scenario_runTrace ..)

/-- every context is answered at most once by `muggle_evloop_add_ctx` (the harness adds a
context at most once; this is what makes "never called back after close" meaningful) -/
theorem add_at_most_once (c : Nat) :
    (scenario b hints legacy kinds pre sc fuel lsel cfd).events.count (Ev.addOk c) +
    (scenario b hints legacy kinds pre sc fuel lsel cfd).events.count (Ev.addRej c) ≤ 1 :=
  chrono_add_once (scenario_runTrace ..) c

end LifeCycle

/-! ### clause 2: pending input is never slept on (level-triggered back-ends) -/

/-- **Clause 2, poll** — whenever `poll` would block, no context of `ctx_list` is readable:
the loop never goes to sleep while a registered context has pending input (or a pending
end-of-stream). Every script, every `hints_max_fd`, both accountings. -/
theorem poll_never_sleeps_on_pending (hints : Nat) (legacy : Bool) (kinds : List Kind) (pre : List Act)
    (sc : Script) (fuel : Nat) (lsel cfd : Bool) :
    Ev.sleep true ∉ (scenario .poll hints legacy kinds pre sc fuel lsel cfd).events := by
  rw [mem_events_iff (by simp) (by simp)]
  rw [loopEnd_eq]
  exact (pollLoop_pinv sc fuel (pre_pinv hints legacy kinds pre lsel cfd)).1.noLost

/-- **Clause 2, select** — the same for `select`; it rests on the rebuild lemma `selScan_c`: at the
end of every dispatch `allset/nfds` again cover every context of `ctx_list` (survivors and the ones
added by callbacks), whatever was removed or added during the scan. -/
theorem select_never_sleeps_on_pending (hints : Nat) (legacy : Bool) (kinds : List Kind)
    (pre : List Act) (sc : Script) (fuel : Nat) (lsel cfd : Bool) :
    Ev.sleep true ∉ (scenario .select hints legacy kinds pre sc fuel lsel cfd).events := by
  rw [mem_events_iff (by simp) (by simp)]
  rw [loopEnd_eq]
  exact selLoop_c sc fuel (pre_selc hints legacy kinds pre lsel cfd)

/-- **Clause 2, epoll** — under the documented contract of an `EPOLLET` consumer (every read
callback drains its descriptor) the edge-triggered back-end never goes to sleep while a
registered context is readable either: every readable registered context is in the kernel's
ready list or still in the batch being dispatched. Every script whose read modes are `all`,
every `hints_max_fd` (truncated batches included), actions of every kind in every callback. -/
theorem epoll_never_sleeps_on_pending (hints : Nat) (legacy : Bool) (kinds : List Kind)
    (pre : List Act) (sc : Script) (hdrain : ∀ c, sc.rmode c = .all) (fuel : Nat) (lsel cfd : Bool) :
    Ev.sleep true ∉ (scenario .epoll hints legacy kinds pre sc fuel lsel cfd).events := by
  rw [mem_events_iff (by simp) (by simp)]
  rw [loopEnd_eq]
  exact epLoop_einv sc hdrain fuel (pre_einv hints legacy kinds pre lsel cfd)

/-- the contract is needed: a read callback that takes one byte of two leaves the second byte
unannounced (no new edge), and the loop sleeps on it -/
def lazyScript : Script :=
  { onRead := fun _ _ _ => [], onClose := fun _ => [], onWake := fun _ => [],
    onIdle := fun _ => [.write 0 2], nIdle := 1, rmode := fun _ => .upto 1 }

theorem epoll_partial_read_sleeps_on_pending :
    Ev.sleep true ∈ (scenario .epoll 4 false [.pipe] [.add 0] lazyScript 100).events := by decide

/-! ### the select defect repaired by fixes/C13-select-stale-fd.patch -/

/-- **No spontaneous exit (select, repaired scan).** With the `FD_CLR` of the patch, `select` never
has a closed descriptor in its set: the wait call never fails with `EBADF`, whatever the
callbacks add, shut down or close (including descriptors closed by the close callback). -/
theorem select_never_ebadf (hints : Nat) (legacy : Bool) (kinds : List Kind) (pre : List Act)
    (sc : Script) (fuel : Nat) (cfd : Bool) :
    Ev.waitErr ∉ (scenario .select hints legacy kinds pre sc fuel false cfd).events := by
  rw [mem_events_iff (by simp) (by simp)]
  rw [loopEnd_eq]
  exact selLoop_selF sc fuel ⟨pre_inv .select hints legacy kinds pre false cfd,
    pre_selF hints legacy kinds pre cfd⟩

/-- context 0 is a registered socket; while the loop sleeps its peer sends 2 bytes; its read
callback adds context 1 and shuts it down at once; the close callback closes the descriptor;
later the peer of context 0 sends 3 more bytes -/
def staleScript : Script :=
  { onRead := fun c b a => if c = 0 ∧ b < 1 ∧ 1 ≤ a then [.add 1, .shut 1] else [],
    onClose := fun _ => [], onWake := fun _ => [],
    onIdle := fun k => if k = 0 then [.write 0 2] else [.write 0 3],
    nIdle := 2, rmode := fun _ => .all }

/-- with the original scan (`legacySel = true`) the descriptor of context 1 stays in `allset`, the
next `select` fails, the loop gives up and context 0 never sees its last 3 bytes — poll delivers
all 5 (corpus/C13/select-stale-fd-read.ops, replayed on the implementation) -/
theorem legacy_select_gives_up :
    Ev.waitErr ∈ (scenario .select 4 false [.sock, .sock] [.add 0] staleScript 100 true true).events ∧
    outcome (scenario .select 4 false [.sock, .sock] [.add 0] staleScript 100 true true) 0 = (2, .cleared) ∧
    outcome (scenario .poll 4 false [.sock, .sock] [.add 0] staleScript 100 true true) 0 = (5, .cleared) := by
  decide

theorem fixed_select_agrees_on_witness :
    outcomes (scenario .select 4 false [.sock, .sock] [.add 0] staleScript 100 false true) =
    outcomes (scenario .poll 4 false [.sock, .sock] [.add 0] staleScript 100 false true) := by
  decide

/-! ### clause 3 (agreement), class P: the outcome is a function of the kernel history -/

theorem outcome_run (b : Backend) (hints : Nat) (legacy : Bool) (kinds : List Kind) (pre : List Act)
    (sc : Script) (fuel : Nat) (lsel cfd : Bool) (c : Nat) :
    outcome (scenario b hints legacy kinds pre sc fuel lsel cfd) c =
      ((loopEnd b hints legacy kinds pre sc fuel lsel cfd).delivered c,
        if Ev.close c ∈ (loopEnd b hints legacy kinds pre sc fuel lsel cfd).trace then Fate.closed
        else if c ∈ (loopEnd b hints legacy kinds pre sc fuel lsel cfd).ctxList then Fate.cleared
        else Fate.none) := by
  have hwf := (loopEnd_inv b hints legacy kinds pre sc fuel lsel cfd).wf
  unfold outcome
  rw [run_events]
  have hd : (scenario b hints legacy kinds pre sc fuel lsel cfd).delivered =
      (loopEnd b hints legacy kinds pre sc fuel lsel cfd).delivered := by
    unfold scenario run loopEnd
    rw [clearAll_eq]; rfl
  rw [hd]
  congr 1
  unfold fateOf
  generalize loopEnd b hints legacy kinds pre sc fuel lsel cfd = L at hwf
  have h1 : (L.events ++ L.ctxList.map Ev.clear ++ [Ev.exit]).contains (Ev.close c) = true ↔
      Ev.close c ∈ L.trace := by simp [St.events]
  have h2 : (L.events ++ L.ctxList.map Ev.clear ++ [Ev.exit]).contains (Ev.clear c) = true ↔
      c ∈ L.ctxList := by
    simp [St.events]
    intro hh
    exact absurd hh ((wf_no_clear_exit hwf).1 c)
  simp only [h1, h2]

theorem outcome_of_loop {kinds : List Kind} {pre : List Act} {sc : Script} {b : Backend} {hints : Nat}
    {legacy lsel cfd : Bool} {fuel : Nat}
    (hend : PCEnd kinds pre sc (loopEnd b hints legacy kinds pre sc fuel lsel cfd))
    (hfuel : Ev.fuel ∉ (scenario b hints legacy kinds pre sc fuel lsel cfd).events)
    (hrej : ∀ c, Ev.addRej c ∉ (scenario b hints legacy kinds pre sc fuel lsel cfd).events) (c : Nat) :
    outcome (scenario b hints legacy kinds pre sc fuel lsel cfd) c = specOutcome kinds pre sc c := by
  rw [outcome_run]
  exact outcome_of_pc hend.1 (loopEnd_inv b hints legacy kinds pre sc fuel lsel cfd)
    (hend.2.resolve_right fun h' => hfuel ((mem_events_iff (by simp) (by simp)).mpr h'))
    (fun c hh => hrej c ((mem_events_iff (by simp) (by simp)).mpr hh)) c

/-- **Agreement, select (class P).** For every externally driven draining script — read callbacks
drain and do nothing else, peers act before the run or while the loop sleeps — whose adds were all
accepted and whose run finished, every context's outcome (bytes offered, closed / cleared /
never registered) is exactly the one computed by the kernel-only specification `specOutcome`,
which does not mention the back-end. -/
theorem select_outcome_is_spec {kinds : List Kind} {pre : List Act} {sc : Script} (hp : ClassP pre sc)
    (hints : Nat) (legacy cfd : Bool) (fuel : Nat)
    (hfuel : Ev.fuel ∉ (scenario .select hints legacy kinds pre sc fuel false cfd).events)
    (hrej : ∀ c, Ev.addRej c ∉ (scenario .select hints legacy kinds pre sc fuel false cfd).events) (c : Nat) :
    outcome (scenario .select hints legacy kinds pre sc fuel false cfd) c = specOutcome kinds pre sc c := by
  refine outcome_of_loop ?_ hfuel hrej c
  rw [loopEnd_eq]
  exact selLoop_pc hp fuel ⟨pre_pc hp .select hints legacy false cfd,
    pre_selc hints legacy kinds pre false cfd, pre_selF hints legacy kinds pre cfd⟩

/-- **Agreement, poll (class P).** -/
theorem poll_outcome_is_spec {kinds : List Kind} {pre : List Act} {sc : Script} (hp : ClassP pre sc)
    (hints : Nat) (legacy lsel cfd : Bool) (fuel : Nat)
    (hfuel : Ev.fuel ∉ (scenario .poll hints legacy kinds pre sc fuel lsel cfd).events)
    (hrej : ∀ c, Ev.addRej c ∉ (scenario .poll hints legacy kinds pre sc fuel lsel cfd).events) (c : Nat) :
    outcome (scenario .poll hints legacy kinds pre sc fuel lsel cfd) c = specOutcome kinds pre sc c := by
  refine outcome_of_loop ?_ hfuel hrej c
  rw [loopEnd_eq]
  exact pollLoop_pc hp fuel ⟨pre_pc hp .poll hints legacy lsel cfd, pre_pinv hints legacy kinds pre lsel cfd⟩

/-- **Agreement, epoll (class P).** -/
theorem epoll_outcome_is_spec {kinds : List Kind} {pre : List Act} {sc : Script} (hp : ClassP pre sc)
    (hints : Nat) (legacy lsel cfd : Bool) (fuel : Nat)
    (hfuel : Ev.fuel ∉ (scenario .epoll hints legacy kinds pre sc fuel lsel cfd).events)
    (hrej : ∀ c, Ev.addRej c ∉ (scenario .epoll hints legacy kinds pre sc fuel lsel cfd).events) (c : Nat) :
    outcome (scenario .epoll hints legacy kinds pre sc fuel lsel cfd) c = specOutcome kinds pre sc c := by
  refine outcome_of_loop ?_ hfuel hrej c
  rw [loopEnd_eq]
  refine epLoop_pc hp fuel ⟨?_, pre_einv hints legacy kinds pre lsel cfd⟩
  obtain ⟨l, hl⟩ := epStart_spec (runActs pre (initSt .epoll hints legacy kinds lsel cfd))
  rw [hl]
  exact { pre_pc (kinds := kinds) hp .epoll hints legacy lsel cfd with }

/-- **Agreement (clause 3 of the property), class P.** For every externally driven draining
script — read callbacks drain and perform no actions, peers act before the run or while the loop
sleeps, every `hints_max_fd`, repaired select scan, close callback closing the descriptor or not — on
which no add was rejected for capacity and every run finished, select, poll and epoll give every
context the same outcome: the same number of bytes offered to its read callback (hence, the
stream being fixed, the same bytes) and the same fate (closed / cleared / never registered).
`_partial`: scripts whose callbacks act (add, shut down, wake, exit from inside callbacks) are
outside class P; for them agreement is checked on the three real back-ends by the differential
run of checks/C13 (classes Q and R there), not proved. -/
theorem backends_agree_partial {kinds : List Kind} {pre : List Act} {sc : Script} (hp : ClassP pre sc)
    (hints : Nat) (legacy cfd : Bool) (fuel : Nat) (b1 b2 : Backend)
    (hfuel : ∀ b, Ev.fuel ∉ (scenario b hints legacy kinds pre sc fuel false cfd).events)
    (hrej : ∀ b c, Ev.addRej c ∉ (scenario b hints legacy kinds pre sc fuel false cfd).events) (c : Nat) :
    outcome (scenario b1 hints legacy kinds pre sc fuel false cfd) c =
    outcome (scenario b2 hints legacy kinds pre sc fuel false cfd) c := by
  have key : ∀ b, outcome (scenario b hints legacy kinds pre sc fuel false cfd) c = specOutcome kinds pre sc c := by
    intro b
    cases b with
    | select => exact select_outcome_is_spec hp hints legacy cfd fuel (hfuel _) (hrej _) c
    | poll => exact poll_outcome_is_spec hp hints legacy false cfd fuel (hfuel _) (hrej _) c
    | epoll => exact epoll_outcome_is_spec hp hints legacy false cfd fuel (hfuel _) (hrej _) c
  rw [key b1, key b2]

/-- non-vacuity of class P: a script with three scripted sleeps on which all three back-ends
finish, accept every add and deliver bytes / close / clear -/
def classPScript : Script :=
  { onRead := fun _ _ _ => [], onClose := fun _ => [], onWake := fun _ => [],
    onIdle := fun k => if k = 0 then [.write 0 5, .write 1 2] else if k = 1 then [.pclose 0, .write 2 7]
      else [.hclose 2],
    nIdle := 3, rmode := fun _ => .all }

example : ClassP [.add 0, .add 1, .write 1 4, .add 2] classPScript :=
  ⟨fun _ => rfl, fun _ _ _ => rfl, fun _ => rfl, fun _ => rfl,
   by intro k a ha; simp only [classPScript] at ha; split at ha
      · simp at ha; rcases ha with rfl | rfl <;> rfl
      · split at ha
        · simp at ha; rcases ha with rfl | rfl <;> rfl
        · simp at ha; subst ha; rfl,
   by intro a ha; simp at ha; rcases ha with rfl | rfl | rfl | rfl <;> rfl⟩

example : ∀ b : Backend,
    outcomes (scenario b 4 false [.pipe, .sock, .tcp] [.add 0, .add 1, .write 1 4, .add 2] classPScript 100) =
      [(5, .closed), (6, .cleared), (7, .closed)] ∧
    Ev.fuel ∉ (scenario b 4 false [.pipe, .sock, .tcp] [.add 0, .add 1, .write 1 4, .add 2] classPScript 100).events := by
  intro b; cases b <;> decide

/-! ### clause 4: adding, rejecting and removing a context never disturbs the others -/

/-- **Isolation, rejected add** (poll, `nfd == capacity`): nothing but the answer and the harness's
`tried` mark is changed — the linked-list append is rolled back, no table, no descriptor, no flag
is touched. -/
theorem add_rejected_changes_nothing {s : St} {c : Nat} (hb : s.backend = .poll)
    (hfull : s.ptab.length = s.hints) (ht : s.tried c = false) (hc : c < s.nds) :
    addCtx c s = emit (.addRej c) { s with tried := upd s.tried c true } := by
  unfold addCtx
  simp [ht, hc, hb, hfull]

theorem mem_concat_ne {α : Type} {l : List α} {a b : α} (h : a ≠ b) : a ∈ l ++ [b] ↔ a ∈ l := by
  simp [h]

def AddIso (s : St) (c : Nat) (t : St) : Prop :=
  t.ds = s.ds ∧ t.flag = s.flag ∧ t.delivered = s.delivered ∧ t.evc = s.evc ∧ t.toExit = s.toExit ∧
  ∀ c', c' ≠ c →
    (c' ∈ t.ctxList ↔ c' ∈ s.ctxList) ∧ (∀ e : PEnt, e.node = c' → (e ∈ t.ptab ↔ e ∈ s.ptab)) ∧
    (c' ∈ t.allset ↔ c' ∈ s.allset) ∧ (c' ∈ t.epReg ↔ c' ∈ s.epReg) ∧
    (Src.ctx c' ∈ t.armed ↔ Src.ctx c' ∈ s.armed)

theorem addCtx_iso (s : St) (c : Nat) : AddIso s c (addCtx c s) := by
  refine addCtx_cases c s ?_ ?_ ?_ ?_ ?_ ?_
  · exact fun _ => ⟨rfl, rfl, rfl, rfl, rfl, fun c' _ => ⟨.rfl, fun _ _ => .rfl, .rfl, .rfl, .rfl⟩⟩
  · refine fun _ _ _ => ⟨rfl, rfl, rfl, rfl, rfl, fun c' hne =>
      ⟨mem_concat_ne hne, fun _ _ => .rfl, ?_, .rfl, .rfl⟩⟩
    show c' ∈ (if s.allset.contains c then s.allset else c :: s.allset) ↔ _
    split
    · exact .rfl
    · simp [hne]
  · exact fun _ _ _ => ⟨rfl, rfl, rfl, rfl, rfl, fun c' _ => ⟨.rfl, fun _ _ => .rfl, .rfl, .rfl, .rfl⟩⟩
  · exact fun _ _ _ => ⟨rfl, rfl, rfl, rfl, rfl, fun c' hne => ⟨mem_concat_ne hne,
      fun e he => mem_concat_ne fun h => hne (by rw [← he, h]), .rfl, .rfl, .rfl⟩⟩
  · exact fun _ _ _ _ => ⟨rfl, rfl, rfl, rfl, rfl, fun c' hne =>
      ⟨mem_concat_ne hne, fun _ _ => .rfl, .rfl, mem_concat_ne hne, .rfl⟩⟩
  · intro _ _ _ _
    obtain ⟨l, hl, _, hsub⟩ := arm_spec c (addedEpoll c s)
    rw [hl]
    refine ⟨rfl, rfl, rfl, rfl, rfl, fun c' hne =>
      ⟨mem_concat_ne hne, fun _ _ => .rfl, .rfl, mem_concat_ne hne, ?_⟩⟩
    show Src.ctx c' ∈ s.armed ++ l ↔ _
    refine ⟨fun h => (List.mem_append.mp h).resolve_right fun hx => hne ?_, List.mem_append_left _⟩
    exact Src.ctx.inj (hsub _ hx)

/-- **Isolation, accepted add**: for every other context `c'` membership in `ctx_list`, in the
poll table, in `allset`, in the epoll registration and in the epoll ready list is unchanged, and
no descriptor state, closed flag or delivered-byte count changes at all. -/
theorem add_isolation (s : St) (c : Nat) :
    (addCtx c s).ds = s.ds ∧ (addCtx c s).flag = s.flag ∧ (addCtx c s).delivered = s.delivered ∧
    (addCtx c s).evc = s.evc ∧ (addCtx c s).toExit = s.toExit ∧
    ∀ c', c' ≠ c →
      (c' ∈ (addCtx c s).ctxList ↔ c' ∈ s.ctxList) ∧
      (∀ e : PEnt, e.node = c' → (e ∈ (addCtx c s).ptab ↔ e ∈ s.ptab)) ∧
      (c' ∈ (addCtx c s).allset ↔ c' ∈ s.allset) ∧
      (c' ∈ (addCtx c s).epReg ↔ c' ∈ s.epReg) ∧
      (Src.ctx c' ∈ (addCtx c s).armed ↔ Src.ctx c' ∈ s.armed) :=
  addCtx_iso s c

/-- **Isolation, poll removal (swap-with-last lemma)**: unregistering slot `i` keeps every
other table entry (with its fd and its revents), removes every entry of the closed context,
and keeps every other context in `ctx_list`. -/
theorem poll_remove_isolation {pend : Option Nat} {s : St} (h : Inv pend s) {i : Nat} {e : PEnt}
    (hi : s.ptab[i]? = some e) :
    (∀ x : PEnt, x.node ≠ e.node → (x ∈ (pollRemove i e s).ptab ↔ x ∈ s.ptab)) ∧
    (∀ x ∈ (pollRemove i e s).ptab, x.node ≠ e.node) ∧
    (∀ c, c ≠ e.node → (c ∈ (pollRemove i e s).ctxList ↔ c ∈ s.ctxList)) ∧
    e.node ∉ (pollRemove i e s).ctxList ∧
    (pollRemove i e s).ds = s.ds ∧ (pollRemove i e s).flag = s.flag ∧
    (pollRemove i e s).delivered = s.delivered := by
  obtain ⟨_, f2, f3⟩ := swapRemove_facts (·.node) s.ptab i e hi h.pNodup
  refine ⟨fun x hx => ⟨fun hm => (f2 x hm).1, fun hm => f3 x hm hx⟩, fun x hm => (f2 x hm).2, ?_, ?_,
    rfl, rfl, rfl⟩
  · intro c hne
    exact List.mem_erase_of_ne hne
  · exact h.nodupL.not_mem_erase

/-- **Isolation, epoll removal** (`EPOLL_CTL_DEL`): every other registration and every other
pending event stays. -/
theorem epoll_remove_isolation (s : St) (c : Nat) :
    (∀ c', c' ≠ c → (c' ∈ (epDel c s).epReg ↔ c' ∈ s.epReg)) ∧
    (∀ x : Src, x ≠ .ctx c → (x ∈ (epDel c s).armed ↔ x ∈ s.armed)) ∧
    (epDel c s).ds = s.ds ∧ (epDel c s).ctxList = s.ctxList := by
  refine ⟨fun c' hne => List.mem_erase_of_ne hne, fun x hne => List.mem_erase_of_ne hne, rfl, rfl⟩

/-- **Isolation, select** (the rebuild lemma `selScan_c` for a whole dispatch): after a complete
dispatch — whatever the callbacks removed or added — `allset` contains every context of `ctx_list`, `nfds` is at least its fd,
and the eventfd is in the set. -/
theorem select_rebuild (sc : Script) {s : St} (h : SelC s) (hi : Inv none s) :
    (selDispatch sc s).allsig = true ∧
    ∀ c ∈ (selDispatch sc s).ctxList, c ∈ (selDispatch sc s).allset ∧ fdOf c ≤ (selDispatch sc s).nfds :=
  have r := selDispatch_c sc h.backend h.noLost hi
  ⟨r.allsig, r.cover⟩

/-! ### the defect repaired by fixes/C13-poll-ready-count.patch, as a negation witness -/

/-- two pipes; while the loop sleeps: peer 0 closes, peer 1 writes 11 bytes and closes;
the read callback of context 1 asks the loop to exit -/
def countScript : Script :=
  { onRead := fun c b a => if c = 1 ∧ b < 2 ∧ 2 ≤ a then [.exit] else [],
    onClose := fun _ => [], onWake := fun _ => [],
    onIdle := fun _ => [.pclose 0, .write 1 1, .write 1 10, .pclose 1],
    nIdle := 1, rmode := fun _ => .all }

/-- with the original `--n` accounting (`legacy = true`) the poll back-end leaves context 0 —
whose stream has ended — unvisited and clears it, while select closes it: the back-ends
disagree on its outcome. This is the input replayed on the implementation
(corpus/C13/poll-double-decrement.ops). -/
theorem legacy_poll_disagrees_with_select :
    outcome (scenario .poll 16 true [.pipe, .pipe] [.add 0, .add 1] countScript 100) 0 = (0, .cleared) ∧
    outcome (scenario .select 16 true [.pipe, .pipe] [.add 0, .add 1] countScript 100) 0 = (0, .closed) := by
  decide

theorem fixed_poll_agrees_with_select_on_witness :
    outcomes (scenario .poll 16 false [.pipe, .pipe] [.add 0, .add 1] countScript 100) =
    outcomes (scenario .select 16 false [.pipe, .pipe] [.add 0, .add 1] countScript 100) := by
  decide

/-! ### non-vacuity: a concrete script on which all the events above occur -/

/-- two pipes and a socket pair; context 2 is added from the close callback of context 0;
the read callback of context 1 shuts its own socket down after 3 bytes -/
def demoScript : Script :=
  { onRead := fun c b a => if c = 1 ∧ b < 3 ∧ 3 ≤ a then [.shut 1] else [],
    onClose := fun c => if c = 0 then [.add 2] else [],
    onWake := fun _ => [],
    onIdle := fun k => if k = 0 then [.write 0 5, .pclose 0, .write 1 4] else [.write 2 2],
    nIdle := 2,
    rmode := fun _ => .all }

def demoRun (b : Backend) : List Ev :=
  (scenario b 4 false [.pipe, .sock, .pipe] [.add 0, .add 1] demoScript 100).events

example : demoRun .poll =
    [.addOk 0, .addOk 1, .sleep false, .disp, .read 1 4 false, .close 1, .read 0 5 true, .close 0,
     .addOk 2, .sleep false, .disp, .read 2 2 false, .sleep false, .disp, .wake, .clear 2, .exit] := by
  decide

example : demoRun .select =
    [.addOk 0, .addOk 1, .sleep false, .disp, .read 0 5 true, .close 0, .addOk 2, .read 1 4 false,
     .close 1, .sleep false, .disp, .read 2 2 false, .sleep false, .disp, .wake, .clear 2, .exit] := by
  decide

example : demoRun .epoll =
    [.addOk 0, .addOk 1, .sleep false, .disp, .read 0 5 true, .close 0, .addOk 2, .read 1 4 false,
     .close 1, .sleep false, .disp, .read 2 2 false, .sleep false, .disp, .wake, .clear 2, .exit] := by
  decide

end MgProof.C13
