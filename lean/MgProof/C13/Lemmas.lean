import MgModel.C13.EvLoop
/-!
# C13 — life-cycle invariant, common part

`Inv pend s` ties the trace (newest first) to the registration state: the context list is
exactly the set of contexts that were accepted and not yet closed, the poll table and the epoll
registration and ready list only name registered contexts, and the trace so far is well formed
(`LoopWF`: callbacks only on registered, not yet closed contexts; at most one add per
context; no clear/exit inside the loop). `pend = some c` is the short window between
`cb_close c` and the unregistration of `c`.

Actions and callbacks are compositions of a few kinds of step; `Stable` carries what does not
look at descriptors through them.
-/
namespace MgProof.C13
open MgModel.C13

def Registered (tr : List Ev) (c : Nat) : Prop := Ev.addOk c ∈ tr ∧ Ev.close c ∉ tr

/-- may event `e` come next after the (newest-first) trace `tr`, inside the back-end loop? -/
def okNext (tr : List Ev) : Ev → Prop
  | .addOk c => Ev.addOk c ∉ tr ∧ Ev.addRej c ∉ tr
  | .addRej c => Ev.addOk c ∉ tr ∧ Ev.addRej c ∉ tr
  | .read c _ _ => Registered tr c
  | .close c => Registered tr c
  | .clear _ => False
  | .exit => False
  | _ => True

def LoopWF : List Ev → Prop
  | [] => True
  | e :: tr => okNext tr e ∧ LoopWF tr

structure Inv (pend : Option Nat) (s : St) : Prop where
  nodupL : s.ctxList.Nodup
  sound : ∀ c ∈ s.ctxList, Ev.addOk c ∈ s.trace ∧ (Ev.close c ∈ s.trace → pend = some c)
  complete : ∀ c, Ev.addOk c ∈ s.trace → Ev.close c ∉ s.trace → c ∈ s.ctxList
  triedOk : ∀ c, (Ev.addOk c ∈ s.trace ∨ Ev.addRej c ∈ s.trace) → s.tried c = true
  wf : LoopWF s.trace
  pNodup : (s.ptab.map (·.node)).Nodup
  pMem : ∀ e ∈ s.ptab, e.node ∈ s.ctxList
  eNodup : s.epReg.Nodup
  eMem : ∀ c ∈ s.epReg, c ∈ s.ctxList
  aNodup : s.armed.Nodup
  aMem : ∀ c, Src.ctx c ∈ s.armed → c ∈ s.epReg
  pOnly : s.backend ≠ .poll → s.ptab = []
  eOnly : s.backend ≠ .epoll → s.epReg = []

theorem wf_mem {tr : List Ev} (h : LoopWF tr) {e : Ev} (he : e ∈ tr) :
    ∃ r, (∀ x ∈ r, x ∈ tr) ∧ okNext r e := by
  induction tr with
  | nil => cases he
  | cons a tr ih =>
    rcases List.mem_cons.mp he with rfl | he
    · exact ⟨tr, fun x hx => List.mem_cons_of_mem _ hx, h.1⟩
    · obtain ⟨r, hr, hok⟩ := ih h.2 he
      exact ⟨r, fun x hx => List.mem_cons_of_mem _ (hr x hx), hok⟩

theorem close_mem_addOk {tr : List Ev} (h : LoopWF tr) {c : Nat} (hc : Ev.close c ∈ tr) :
    Ev.addOk c ∈ tr := by
  obtain ⟨r, hr, hok⟩ := wf_mem h hc
  exact hr _ hok.1

theorem mem_cons_ne {e e' : Ev} {tr : List Ev} (h : e ∈ e' :: tr) (hne : e ≠ e') : e ∈ tr :=
  (List.mem_cons.mp h).resolve_left hne

-- the model's own `upd` (it does not import Common/Conc); the laws are named as there
theorem upd_other {α : Type} (g : Nat → α) (d : Nat) (v : α) {x : Nat} (hx : x ≠ d) : upd g d v x = g x := by
  simp [upd, hx]

theorem upd_same {α : Type} (g : Nat → α) (d : Nat) (v : α) : upd g d v d = v := by
  simp [upd]

theorem upd_cases {α : Type} {P : Nat → α → Prop} {g : Nat → α} {d : Nat} {v : α} (hd : P d v)
    (hx : ∀ x, x ≠ d → P x (g x)) (x : Nat) : P x (upd g d v x) := by
  by_cases h : x = d
  · rw [h, upd_same]; exact hd
  · rw [upd_other _ _ _ h]; exact hx x h

theorem upd_all {α : Type} {Q : α → Prop} {g : Nat → α} {v : α} (hv : Q v) (h : ∀ x, Q (g x))
    (d x : Nat) : Q (upd g d v x) := by
  unfold upd; split
  · exact hv
  · exact h x

theorem upd_true {f : Nat → Bool} {c : Nat} (h : f c = true) (d : Nat) : upd f d true c = true := by
  unfold upd; split <;> simp [h]

theorem nodup_concat {α : Type} {l : List α} {a : α} (hl : l.Nodup) (ha : a ∉ l) :
    (l ++ [a]).Nodup := by
  rw [List.nodup_append]
  refine ⟨hl, by simp, ?_⟩
  intro x hx y hy
  simp at hy
  subst hy
  intro hxy; subst hxy; exact ha hx

/-- `t` is `s` but for kernel objects and bookkeeping, which no table and no trace property reads
(used as `⟨_, _, _, _, _, _, _, rfl⟩`) -/
def Quiet (s t : St) : Prop :=
  ∃ ds flag delivered toExit evc nWake nIdle,
    t = { s with ds := ds, flag := flag, delivered := delivered, toExit := toExit, evc := evc,
                 nWake := nWake, nIdle := nIdle }

theorem emit_arm (e : Ev) (c : Nat) (s : St) : emit e (arm c s) = arm c (emit e s) := by
  unfold arm emit
  split <;> rfl

theorem arm_spec (c : Nat) (s : St) :
    ∃ l, arm c s = { s with armed := s.armed ++ l } ∧ (c ∈ s.epReg → Src.ctx c ∈ s.armed ++ l) ∧
      ∀ x ∈ l, x = .ctx c := by
  unfold arm
  split
  · exact ⟨[.ctx c], rfl, fun _ => by simp, by simp⟩
  · next hc =>
    refine ⟨[], by simp, fun hr => ?_, by simp⟩
    simpa [hr] using hc

theorem armSig_spec (s : St) : ∃ l, armSig s = { s with armed := s.armed ++ l } := by
  unfold armSig
  split
  · exact ⟨_, rfl⟩
  · exact ⟨[], by simp⟩

theorem setDesc_spec (d : Nat) (r : Desc × Bool) (s : St) :
    ∃ l, setDesc d r s = { s with ds := upd s.ds d r.1, armed := s.armed ++ l } := by
  unfold setDesc
  simp only []
  split
  · obtain ⟨l, hl, _⟩ := arm_spec d { s with ds := upd s.ds d r.1 }
    exact ⟨l, hl⟩
  · exact ⟨[], by simp⟩

/-! What an answered `muggle_evloop_add_ctx c` leaves behind; for epoll before the new registration
is probed. -/

def addRejected (c : Nat) (s : St) : St := emit (.addRej c) { s with tried := upd s.tried c true }

def addedSelect (c : Nat) (s : St) : St :=
  emit (.addOk c) (selSetFd c { s with tried := upd s.tried c true, ctxList := s.ctxList ++ [c] })

def addedPoll (c : Nat) (s : St) : St :=
  emit (.addOk c) { s with tried := upd s.tried c true, ctxList := s.ctxList ++ [c],
                           ptab := s.ptab ++ [{ node := c, fd := c }] }

def addedEpoll (c : Nat) (s : St) : St :=
  emit (.addOk c) { s with tried := upd s.tried c true, ctxList := s.ctxList ++ [c],
                           epReg := s.epReg ++ [c] }

theorem addCtx_cases {P : St → Prop} (c : Nat) (s : St)
    (skip : (s.tried c = true ∨ s.nds ≤ c) → P s)
    (select : s.backend = .select → s.tried c = false → c < s.nds → P (addedSelect c s))
    (reject : s.backend = .poll → s.tried c = false → c < s.nds → P (addRejected c s))
    (poll : s.backend = .poll → s.tried c = false → c < s.nds → P (addedPoll c s))
    (epoll : s.backend = .epoll → s.tried c = false → c < s.nds → (s.ds c).mask.any = false →
      P (addedEpoll c s))
    (probe : s.backend = .epoll → s.tried c = false → c < s.nds → (s.ds c).mask.any = true →
      P (arm c (addedEpoll c s))) :
    P (addCtx c s) := by
  unfold addCtx
  split
  · next hc => exact skip (by simpa [Nat.not_lt] using hc)
  · next hc =>
    simp only [Bool.or_eq_true, Bool.not_eq_eq_eq_not, Bool.not_true, decide_eq_false_iff_not,
      not_or, Bool.not_eq_true, Decidable.not_not] at hc
    obtain ⟨ht, hlt⟩ := hc
    unfold addedSelect at select
    unfold addRejected at reject
    unfold addedPoll at poll
    unfold addedEpoll at epoll probe
    -- `cases` also rewrites the back-end inside the state records: the same is done to the shapes
    cases hb : s.backend with
    | select => have h := select hb ht hlt; rw [hb] at h; exact h
    | poll =>
      simp only []
      split
      · have h := reject hb ht hlt; rw [hb] at h; exact h
      · have h := poll hb ht hlt; rw [hb] at h; exact h
    | epoll =>
      simp only []
      split
      · next hm => have h := probe hb ht hlt hm; rw [hb] at h; rw [emit_arm]; exact h
      · next hm => have h := epoll hb ht hlt (by simpa using hm); rw [hb] at h; exact h

inductive PeerOp : (Desc → Desc × Bool) → Prop
  | write (n : Nat) : PeerOp (·.write n)
  | hclose : PeerOp Desc.hclose
  | pclose : PeerOp Desc.pclose

/-- `ended h`: `h` is the new `HUP` condition, which no peer operation takes back -/
inductive PeerEffect (d : Desc) : Desc × Bool → Prop
  | none : PeerEffect d (d, false)
  | bytes (n : Nat) : d.pwr = true → d.shut = false →
      PeerEffect d ({ d with avail := d.avail + n, arrived := d.arrived + n }, true)
  | reset : d.pwr = true → d.shut = true → d.err = false → PeerEffect d ({ d with err := true }, true)
  | ended (h : Bool) : (d.hup = true → h = true) →
      PeerEffect d ({ d with pwr := false, eof := true, hup := h }, true)

theorem PeerOp.effect {f : Desc → Desc × Bool} (hf : PeerOp f) (d : Desc) : PeerEffect d (f d) := by
  cases hf with
  | write n =>
    show PeerEffect d (d.write n)
    unfold Desc.write
    split
    · exact .none
    · next hp =>
      have hp : d.pwr = true := by simpa using hp
      split
      · next hs =>
        split
        · split
          · exact .none
          · next he => exact .reset hp hs (by simpa using he)
        · exact .none
      · next hs => exact .bytes n hp (by simpa using hs)
  | hclose =>
    unfold Desc.hclose
    split
    · exact .none
    · exact .ended d.hup id
  | pclose =>
    unfold Desc.pclose
    split
    · split
      · exact .none
      · exact .ended d.hup id
    · -- a socket pair: the peer's close also hangs up
      split
      · exact .none
      · exact .ended true fun _ => rfl
    · split
      · exact .none
      · exact .ended d.hup id

theorem act_cases {P : St → Prop} (a : Act) (s : St) (skip : P s)
    (peer : ∀ d f, PeerOp f → P (setDesc d (f (s.ds d)) s))
    (shut : ∀ d, P (setDesc d (s.ds d).shutdown { s with flag := upd s.flag d true }))
    (add : ∀ d, P (addCtx d s)) (wake : ∀ k, P (sigWakeup { s with toExit := k })) :
    P (act a s) := by
  cases a with
  | write d n => simp only [act]; split; exact peer d _ (.write n); exact skip
  | hclose d => simp only [act]; split; exact peer d _ .hclose; exact skip
  | pclose d => simp only [act]; split; exact peer d _ .pclose; exact skip
  | add d => exact add d
  | shut d => simp only [act]; split; exact shut d; exact skip
  | wakeup => exact wake s.toExit
  | exit => exact wake 1
  | xexit => exact wake 2

theorem runActs_ind {P : St → Prop} (hact : ∀ a s, P s → P (act a s)) (as : List Act) {s : St}
    (h : P s) : P (runActs as s) := by
  unfold runActs
  induction as generalizing s with
  | nil => exact h
  | cons a as ih => exact ih (hact a s h)

theorem setDesc_flag (d : Nat) (r : Desc × Bool) (s : St) : (setDesc d r s).flag = s.flag := by
  obtain ⟨l, hl⟩ := setDesc_spec d r s
  rw [hl]

/-- `MUGGLE_EV_CTX_FLAG_CLOSED` is only ever set (`muggle_ev_ctx_set_flag` is `flags |= flag`) -/
theorem act_flag (a : Act) {s : St} {c : Nat} (h : s.flag c = true) : (act a s).flag c = true :=
  act_cases (P := fun t => t.flag c = true) a s h (fun _ _ _ => by rw [setDesc_flag]; exact h)
    (fun d => by rw [setDesc_flag]; exact upd_true h d)
    (fun d => addCtx_cases (P := fun t => t.flag c = true) d s (fun _ => h) (fun _ _ _ => h)
      (fun _ _ _ => h) (fun _ _ _ => h) (fun _ _ _ _ => h)
      (fun _ _ _ _ => by obtain ⟨l, hl, _⟩ := arm_spec d (addedEpoll d s); rw [hl]; exact h))
    (fun k => by
      obtain ⟨l, hl⟩ := armSig_spec { s with toExit := k, evc := s.evc + 1 }
      show (armSig { s with toExit := k, evc := s.evc + 1 }).flag c = true
      rw [hl]; exact h)

theorem runActs_flag (as : List Act) {s : St} {c : Nat} (h : s.flag c = true) :
    (runActs as s).flag c = true :=
  runActs_ind (P := fun t => t.flag c = true) (fun a _ => act_flag a) as h

/-- A relation between a state and a later one that holds across each kind of step a scripted
action is made of; the readiness probe of epoll is an instance of `ready`. -/
structure Stable (R : St → St → Prop) : Prop where
  refl : ∀ s, R s s
  trans : ∀ {s t u}, R s t → R t u → R s u
  quiet : ∀ {s t}, Quiet s t → R s t
  ready : ∀ (x : Src) (s : St), x ∉ s.armed → (∀ c, x = .ctx c → c ∈ s.epReg) →
    R s { s with armed := s.armed ++ [x] }
  closed : ∀ c s, Ev.close c ∈ s.trace → R s { s with fdClosed := upd s.fdClosed c true }
  reject : ∀ c s, s.tried c = false → c < s.nds → R s (addRejected c s)
  select : ∀ c s, s.backend = .select → s.tried c = false → c < s.nds → R s (addedSelect c s)
  poll : ∀ c s, s.backend = .poll → s.tried c = false → c < s.nds → R s (addedPoll c s)
  epoll : ∀ c s, s.backend = .epoll → s.tried c = false → c < s.nds → R s (addedEpoll c s)

@[reducible] def Keeps (P : St → Prop) (s t : St) : Prop := P s → P t

protected theorem Stable.arm {R} (h : Stable R) (c : Nat) (s : St) : R s (arm c s) := by
  unfold MgModel.C13.arm
  split
  · next hc =>
    simp only [Bool.and_eq_true, Bool.not_eq_eq_eq_not, Bool.not_true] at hc
    exact h.ready (.ctx c) s (by simpa using hc.2) (fun c' hc' => by cases hc'; simpa using hc.1)
  · exact h.refl s

protected theorem Stable.armSig {R} (h : Stable R) (s : St) : R s (armSig s) := by
  unfold MgModel.C13.armSig
  split
  · next hc =>
    simp only [Bool.and_eq_true, Bool.not_eq_eq_eq_not, Bool.not_true] at hc
    exact h.ready .sig s (by simpa using hc.2) (fun _ hc' => by cases hc')
  · exact h.refl s

protected theorem Stable.setDesc {R} (h : Stable R) (c : Nat) (r : Desc × Bool) (s : St) :
    R s (setDesc c r s) := by
  unfold MgModel.C13.setDesc
  have h0 : R s { s with ds := upd s.ds c r.1 } := h.quiet ⟨_, _, _, _, _, _, _, rfl⟩
  split
  · exact h.trans h0 (h.arm c _)
  · exact h0

protected theorem Stable.sigWakeup {R} (h : Stable R) (s : St) : R s (sigWakeup s) :=
  h.trans (h.quiet (t := { s with evc := s.evc + 1 }) ⟨_, _, _, _, _, _, _, rfl⟩) (h.armSig _)

protected theorem Stable.addCtx {R} (h : Stable R) (c : Nat) (s : St) : R s (addCtx c s) :=
  addCtx_cases c s (fun _ => h.refl s) (h.select c s) (fun _ => h.reject c s) (h.poll c s)
    (fun hb ht hc _ => h.epoll c s hb ht hc)
    (fun hb ht hc _ => h.trans (h.epoll c s hb ht hc) (h.arm c _))

protected theorem Stable.act {R} (h : Stable R) (a : Act) (s : St) : R s (act a s) :=
  act_cases a s (h.refl s) (fun _ _ _ => h.setDesc _ _ _)
    (fun d => h.trans (h.quiet (t := { s with flag := upd s.flag d true }) ⟨_, _, _, _, _, _, _, rfl⟩)
      (h.setDesc _ _ _))
    (fun d => h.addCtx d s)
    (fun k => h.trans (h.quiet (t := { s with toExit := k }) ⟨_, _, _, _, _, _, _, rfl⟩)
      (h.sigWakeup _))

protected theorem Stable.runActs {R} (h : Stable R) (as : List Act) (s : St) :
    R s (runActs as s) :=
  runActs_ind (P := R s) (fun a _ ht => h.trans ht (h.act a _)) as (h.refl s)

/-! ### what callbacks can do to the tables: only extend them -/

structure Ext (s t : St) : Prop where
  ctx : ∃ l, t.ctxList = s.ctxList ++ l
  tr : ∃ l, t.trace = l ++ s.trace
  ptab : ∃ l, t.ptab = s.ptab ++ l
  backend : t.backend = s.backend

theorem Ext.refl (s : St) : Ext s s := ⟨⟨[], by simp⟩, ⟨[], by simp⟩, ⟨[], by simp⟩, rfl⟩

theorem Ext.trans {s t u : St} (a : Ext s t) (b : Ext t u) : Ext s u := by
  obtain ⟨⟨l1, h1⟩, ⟨l2, h2⟩, ⟨l3, h3⟩, h4⟩ := a
  obtain ⟨⟨m1, g1⟩, ⟨m2, g2⟩, ⟨m3, g3⟩, g4⟩ := b
  exact ⟨⟨l1 ++ m1, by rw [g1, h1, List.append_assoc]⟩, ⟨m2 ++ l2, by rw [g2, h2, List.append_assoc]⟩,
    ⟨l3 ++ m3, by rw [g3, h3, List.append_assoc]⟩, by rw [g4, h4]⟩

theorem Ext.of_eq {s t : St} (h1 : t.ctxList = s.ctxList) (h2 : t.trace = s.trace)
    (h3 : t.ptab = s.ptab) (h4 : t.backend = s.backend) : Ext s t :=
  ⟨⟨[], by simp [h1]⟩, ⟨[], by simp [h2]⟩, ⟨[], by simp [h3]⟩, h4⟩

theorem emit_ext (e : Ev) (s : St) : Ext s (emit e s) :=
  ⟨⟨[], by simp [emit]⟩, ⟨[e], by simp [emit]⟩, ⟨[], by simp [emit]⟩, rfl⟩

theorem ext_stable : Stable Ext where
  refl := Ext.refl
  trans := Ext.trans
  quiet := by rintro s t ⟨_, _, _, _, _, _, _, rfl⟩; exact Ext.of_eq rfl rfl rfl rfl
  ready _ _ _ _ := Ext.of_eq rfl rfl rfl rfl
  closed _ _ _ := Ext.of_eq rfl rfl rfl rfl
  reject c _ _ _ :=
    ⟨⟨[], (List.append_nil _).symm⟩, ⟨[.addRej c], rfl⟩, ⟨[], (List.append_nil _).symm⟩, rfl⟩
  select c _ _ _ _ := ⟨⟨[c], rfl⟩, ⟨[.addOk c], rfl⟩, ⟨[], (List.append_nil _).symm⟩, rfl⟩
  poll c _ _ _ _ := ⟨⟨[c], rfl⟩, ⟨[.addOk c], rfl⟩, ⟨[_], rfl⟩, rfl⟩
  epoll c _ _ _ _ := ⟨⟨[c], rfl⟩, ⟨[.addOk c], rfl⟩, ⟨[], (List.append_nil _).symm⟩, rfl⟩

theorem runActs_ext (as : List Act) (s : St) : Ext s (runActs as s) := ext_stable.runActs as s

theorem Ext.mem_ctx {s t : St} (h : Ext s t) {c : Nat} (hc : c ∈ s.ctxList) : c ∈ t.ctxList := by
  obtain ⟨l, hl⟩ := h.ctx; rw [hl]; simp [hc]

theorem Ext.mem_tr {s t : St} (h : Ext s t) {e : Ev} (hc : e ∈ s.trace) : e ∈ t.trace := by
  obtain ⟨l, hl⟩ := h.tr; rw [hl]; simp [hc]

theorem getElem?_append_of_some {α : Type} {l : List α} {i : Nat} {a : α} (h : l[i]? = some a)
    (m : List α) : (l ++ m)[i]? = some a := by
  rw [List.getElem?_append_left (List.getElem?_eq_some_iff.mp h).1]; exact h

theorem Ext.ctx_get {s t : St} (h : Ext s t) {i c : Nat} (hc : s.ctxList[i]? = some c) :
    t.ctxList[i]? = some c := by
  obtain ⟨l, hl⟩ := h.ctx
  rw [hl]; exact getElem?_append_of_some hc l

theorem Ext.ptab_get {s t : St} (h : Ext s t) {i : Nat} {e : PEnt} (hc : s.ptab[i]? = some e) :
    t.ptab[i]? = some e := by
  obtain ⟨l, hl⟩ := h.ptab
  rw [hl]; exact getElem?_append_of_some hc l

protected theorem Stable.cbRead {R} (h : Stable R) (sc : Script) (c : Nat) (s : St)
    (he : ∀ s', Quiet s s' → ∀ n b, R s' (emit (.read c n b) s')) : R s (cbRead sc c s) := by
  unfold MgModel.C13.cbRead
  simp only []
  refine h.trans (h.trans (h.quiet ?_) (he _ ?_ _ _)) (h.runActs _ _) <;>
    exact ⟨_, _, _, _, _, _, _, rfl⟩

protected theorem Stable.cbClose {R} (h : Stable R) (sc : Script) (c : Nat) (s : St) :
    R (emit (.close c) s) (cbClose sc c s) := by
  have h1 := h.runActs (sc.onClose c) (emit (.close c) s)
  unfold MgModel.C13.cbClose
  simp only []
  split
  · exact h.trans h1 (h.closed c _ ((runActs_ext _ _).mem_tr (by simp [emit])))
  · exact h1

protected theorem Stable.handleWake {R} (h : Stable R) (sc : Script) (s : St)
    (he : ∀ s', Quiet s s' → R s' (emit .wake s')) : R s (handleWake sc s) := by
  have hq : Quiet s { s with evc := 0, nWake := s.nWake + 1 } := ⟨_, _, _, _, _, _, _, rfl⟩
  have h1 := h.trans (h.trans (h.quiet hq) (he _ hq)) (h.runActs (sc.onWake s.nWake) _)
  unfold MgModel.C13.handleWake
  simp only []
  split
  · exact h.trans h1 (h.quiet ⟨_, _, _, _, _, _, _, rfl⟩)
  · exact h1

protected theorem Stable.idle {R} (h : Stable R) (sc : Script) (s : St)
    (he : ∀ s', Quiet s s' → R s' (emit (.sleep (s.ctxList.any fun c => (s.ds c).readable)) s')) :
    R s (idle sc s) := by
  have hq : Quiet s { s with nIdle := s.nIdle + 1 } := ⟨_, _, _, _, _, _, _, rfl⟩
  have h1 := h.trans (h.quiet hq) (he _ hq)
  unfold MgModel.C13.idle
  simp only []
  split
  · exact h.trans h1 (h.runActs _ _)
  · exact h.trans h1 (h.act _ _)

theorem cbClose_ext (sc : Script) (c : Nat) (s : St) : Ext s (cbClose sc c s) :=
  (emit_ext _ _).trans (ext_stable.cbClose sc c s)

theorem cbClose_closed (sc : Script) (c : Nat) (s : St) : Ev.close c ∈ (cbClose sc c s).trace := by
  have h1 : Ev.close c ∈ (runActs (sc.onClose c) (emit (.close c) s)).trace :=
    (runActs_ext _ _).mem_tr (by simp [emit])
  unfold cbClose
  simp only []
  split <;> exact h1

theorem handleWake_ext (sc : Script) (s : St) : Ext s (handleWake sc s) :=
  ext_stable.handleWake sc s fun _ _ => emit_ext _ _

theorem idle_backend (sc : Script) (s : St) : (idle sc s).backend = s.backend :=
  (ext_stable.idle sc s fun _ _ => emit_ext _ _).backend

theorem Inv.fresh {pend} {s : St} {c : Nat} (h : Inv pend s) (hc : s.tried c = false) :
    Ev.addOk c ∉ s.trace ∧ Ev.addRej c ∉ s.trace ∧ c ∉ s.ctxList := by
  have hnOk : Ev.addOk c ∉ s.trace := fun hh => by simpa [hc] using h.triedOk c (Or.inl hh)
  exact ⟨hnOk, fun hh => by simpa [hc] using h.triedOk c (Or.inr hh), fun hh => hnOk (h.sound c hh).1⟩

theorem Inv.accept {pend} {s : St} {c : Nat} (h : Inv pend s) (hc : s.tried c = false) :
    Inv pend (emit (.addOk c) { s with tried := upd s.tried c true, ctxList := s.ctxList ++ [c] }) := by
  obtain ⟨hnOk, hnRej, hcl⟩ := h.fresh hc
  exact { h with
    nodupL := nodup_concat h.nodupL hcl
    sound := fun c' hc' => by
      rcases List.mem_append.mp hc' with hc' | hc'
      · exact ⟨List.mem_cons_of_mem _ (h.sound c' hc').1,
          fun hcl' => (h.sound c' hc').2 (mem_cons_ne hcl' (by simp))⟩
      · rw [List.mem_singleton.mp hc']
        -- a close in the trace means it was registered before: contradiction with freshness
        exact ⟨List.mem_cons_self ..,
          fun hcl' => absurd (close_mem_addOk h.wf (mem_cons_ne hcl' (by simp))) hnOk⟩
    complete := fun c' hok hncl => by
      rcases List.mem_cons.mp hok with hok | hok
      · rw [Ev.addOk.inj hok]; exact List.mem_append_right _ (List.mem_singleton_self _)
      · exact List.mem_append_left _ (h.complete c' hok fun hh => hncl (List.mem_cons_of_mem _ hh))
    triedOk := fun c' hh => by
      by_cases hcc : c' = c
      · rw [hcc]; exact upd_same _ _ _
      · exact upd_true (h.triedOk c'
          (hh.imp (mem_cons_ne · (by simp [hcc])) (mem_cons_ne · (by simp)))) c
    wf := ⟨⟨hnOk, hnRej⟩, h.wf⟩
    pMem := fun e he => List.mem_append_left _ (h.pMem e he)
    eMem := fun c' hc' => List.mem_append_left _ (h.eMem c' hc') }

theorem Inv.acceptPoll {pend} {s : St} {c : Nat} (h : Inv pend s) (hb : s.backend = .poll)
    (hc : s.tried c = false) {e : PEnt} (he : e.node = c) :
    Inv pend (emit (.addOk c) { s with tried := upd s.tried c true, ctxList := s.ctxList ++ [c],
                                       ptab := s.ptab ++ [e] }) :=
  { h.accept hc with
    pNodup := by
      show ((s.ptab ++ [e]).map _).Nodup
      rw [List.map_append]
      refine nodup_concat h.pNodup fun ha => ?_
      obtain ⟨e', he', hen⟩ := List.mem_map.mp ha
      have hen : e'.node = c := hen.trans he
      exact (h.fresh hc).2.2 (hen ▸ h.pMem e' he')
    pMem := fun e' he' => by
      rcases List.mem_append.mp he' with he' | he'
      · exact List.mem_append_left _ (h.pMem e' he')
      · rw [List.mem_singleton.mp he', he]; exact List.mem_append_right _ (List.mem_singleton_self _)
    pOnly := fun hb' => absurd hb hb' }

theorem Inv.acceptEpoll {pend} {s : St} {c : Nat} (h : Inv pend s) (hb : s.backend = .epoll)
    (hc : s.tried c = false) :
    Inv pend (addedEpoll c s) :=
  { h.accept hc with
    eNodup := nodup_concat h.eNodup fun ha => (h.fresh hc).2.2 (h.eMem _ ha)
    eMem := fun c' hc' => by
      rcases List.mem_append.mp hc' with hc' | hc'
      · exact List.mem_append_left _ (h.eMem c' hc')
      · exact List.mem_append_right _ hc'
    aMem := fun c' hc' => List.mem_append_left _ (h.aMem c' hc')
    eOnly := fun hb' => absurd hb hb' }

theorem inv_emit_of {pend} {s : St} {e : Ev} (h : Inv pend s)
    (h1 : ∀ c, e ≠ .addOk c) (h2 : ∀ c, e = .addRej c → s.tried c = true) (h3 : ∀ c, e ≠ .close c)
    (hok : okNext s.trace e) : Inv pend (emit e s) :=
  { h with
    sound := fun c hc => ⟨List.mem_cons_of_mem _ (h.sound c hc).1,
      fun hh => (h.sound c hc).2 (mem_cons_ne hh (h3 c).symm)⟩
    complete := fun c hok' hncl => h.complete c (mem_cons_ne hok' (h1 c).symm)
      fun hh => hncl (List.mem_cons_of_mem _ hh)
    triedOk := fun c hh => by
      by_cases he : e = .addRej c
      · exact h2 c he
      · exact h.triedOk c (hh.imp (mem_cons_ne · (h1 c).symm) (mem_cons_ne · (Ne.symm he)))
    wf := ⟨hok, h.wf⟩ }

def Ev.silent : Ev → Bool
  | .addOk _ | .addRej _ | .close _ => false
  | _ => true

theorem inv_emit_silent {pend} {s : St} {e : Ev} (h : Inv pend s) (he : Ev.silent e = true)
    (hok : okNext s.trace e) : Inv pend (emit e s) :=
  inv_emit_of h (fun c hc => by rw [hc] at he; cases he) (fun c hc => by rw [hc] at he; cases he)
    (fun c hc => by rw [hc] at he; cases he) hok

theorem registered_of_mem {s : St} (h : Inv none s) {c : Nat} (hc : c ∈ s.ctxList) :
    Registered s.trace c :=
  ⟨(h.sound c hc).1, fun hh => by simpa using (h.sound c hc).2 hh⟩

theorem emit_read_inv {s : St} (h : Inv none s) {c : Nat} (hc : c ∈ s.ctxList) (n : Nat) (e : Bool) :
    Inv none (emit (.read c n e) s) :=
  inv_emit_silent h rfl (registered_of_mem h hc)

theorem emit_disp_inv {s : St} (h : Inv none s) : Inv none (emit .disp s) :=
  inv_emit_silent h rfl trivial

theorem emit_fuel_inv {s : St} (h : Inv none s) : Inv none (emit .fuel s) :=
  inv_emit_silent h rfl trivial

theorem emit_close_inv {s : St} (h : Inv none s) {c : Nat} (hc : c ∈ s.ctxList) :
    Inv (some c) (emit (.close c) s) :=
  { h with
    sound := fun c' hc' => ⟨List.mem_cons_of_mem _ (h.sound c' hc').1, fun hh => by
      rcases List.mem_cons.mp hh with hh' | hh'
      · rw [Ev.close.inj hh']
      · exact absurd ((h.sound c' hc').2 hh') (by simp)⟩
    complete := fun c' hok hncl => h.complete c' (mem_cons_ne hok (by simp))
      fun hh => hncl (List.mem_cons_of_mem _ hh)
    triedOk := fun c' hh =>
      h.triedOk c' (hh.imp (mem_cons_ne · (by simp)) (mem_cons_ne · (by simp)))
    wf := ⟨registered_of_mem h hc, h.wf⟩ }

theorem inv_stable {pend : Option Nat} : Stable (Keeps (Inv pend)) where
  refl _ h := h
  trans a b h := b (a h)
  quiet := by rintro s t ⟨_, _, _, _, _, _, _, rfl⟩ h; exact { h with }
  ready x s hx hreg h :=
    { h with
      aNodup := nodup_concat h.aNodup hx
      aMem := fun c hc => by
        rcases List.mem_append.mp hc with hc | hc
        · exact h.aMem c hc
        · exact hreg c (List.mem_singleton.mp hc).symm }
  closed _ _ _ h := { h with }
  reject c s ht _ h := by
    have h' : Inv pend { s with tried := upd s.tried c true } :=
      { h with triedOk := fun c' hc' => upd_true (h.triedOk c' hc') c }
    exact inv_emit_of h' (by simp) (fun c' hc' => by cases hc'; simp [upd]) (by simp)
      ⟨(h.fresh ht).1, (h.fresh ht).2.1⟩
  select _ _ _ ht _ h := { h.accept ht with }
  poll _ _ hb ht _ h := h.acceptPoll hb ht rfl
  epoll _ _ hb ht _ h := h.acceptEpoll hb ht

theorem act_inv {pend} {s : St} (a : Act) (h : Inv pend s) : Inv pend (act a s) :=
  inv_stable.act a s h

theorem runActs_inv {pend} (as : List Act) {s : St} (h : Inv pend s) : Inv pend (runActs as s) :=
  inv_stable.runActs as s h

theorem cbClose_inv (sc : Script) {s : St} (h : Inv none s) {c : Nat} (hc : c ∈ s.ctxList) :
    Inv (some c) (cbClose sc c s) :=
  inv_stable.cbClose sc c s (emit_close_inv h hc)

theorem handleWake_inv (sc : Script) {pend} {s : St} (h : Inv pend s) : Inv pend (handleWake sc s) :=
  inv_stable.handleWake sc s (fun _ _ h' => inv_emit_silent h' rfl trivial) h

theorem idle_inv (sc : Script) {pend} {s : St} (h : Inv pend s) : Inv pend (idle sc s) :=
  inv_stable.idle sc s (fun _ _ h' => inv_emit_silent h' rfl trivial) h

/-- a visit before it decides whether to close, alike in the three back-ends: the read callback if
input was reported (`rd`), then perhaps the closed flag (`fl`) -/
def touch (sc : Script) (c : Nat) (rd fl : Bool) (s : St) : St :=
  let s := if rd then cbRead sc c s else s
  if fl then { s with flag := upd s.flag c true } else s

protected theorem Stable.touch {R} (h : Stable R) (sc : Script) (c : Nat) (rd fl : Bool) (s : St)
    (he : ∀ s', Quiet s s' → ∀ n b, R s' (emit (.read c n b) s')) : R s (touch sc c rd fl s) := by
  have h1 : R s (if rd then cbRead sc c s else s) := by
    split
    · exact h.cbRead sc c s he
    · exact h.refl s
  unfold MgProof.C13.touch
  simp only []
  generalize (if rd then cbRead sc c s else s) = s1 at h1 ⊢
  split
  · exact h.trans h1 (h.quiet ⟨_, _, _, _, _, _, _, rfl⟩)
  · exact h1

theorem touch_ext (sc : Script) (c : Nat) (rd fl : Bool) (s : St) : Ext s (touch sc c rd fl s) :=
  ext_stable.touch sc c rd fl s fun _ _ _ _ => emit_ext _ _

theorem touch_inv (sc : Script) {s : St} (h : Inv none s) {c : Nat} (hc : c ∈ s.ctxList) (rd fl : Bool) :
    Inv none (touch sc c rd fl s) :=
  inv_stable.touch sc c rd fl s
    (by rintro _ ⟨_, _, _, _, _, _, _, rfl⟩ n b h'; exact emit_read_inv h' hc n b) h

theorem Inv.unregister {s : St} {c : Nat} (h : Inv (some c) s) (hcl : Ev.close c ∈ s.trace)
    (hp : ∀ e ∈ s.ptab, e.node ≠ c) (he : c ∉ s.epReg) :
    Inv none { s with ctxList := s.ctxList.erase c } :=
  have hne : ∀ c' ∈ s.ctxList.erase c, c ≠ c' := fun c' hc' hh => by
    subst hh; exact h.nodupL.not_mem_erase hc'
  { h with
    nodupL := h.nodupL.erase c
    sound := fun c' hc' => ⟨(h.sound c' (List.mem_of_mem_erase hc')).1, fun hh =>
      absurd (Option.some.inj ((h.sound c' (List.mem_of_mem_erase hc')).2 hh)) (hne c' hc')⟩
    complete := fun c' hok hncl =>
      (List.mem_erase_of_ne fun (hh : c' = c) => hncl (by rw [hh]; exact hcl)).mpr (h.complete c' hok hncl)
    pMem := fun e he => (List.mem_erase_of_ne (hp e he)).mpr (h.pMem e he)
    eMem := fun c' hc' =>
      (List.mem_erase_of_ne fun (hh : c' = c) => he (by rw [← hh]; exact hc')).mpr (h.eMem c' hc') }

end MgProof.C13
