import MgProof.C13.LemmasEpollReady
import MgProof.C13.LemmasSelectFd
/-!
# C13 — agreement: for externally driven, draining scripts (class P) the outcome of every
context is a function of the kernel history alone, whatever the back-end

Class P: read callbacks drain and perform no actions, close / wake callbacks perform no
actions, peers act only while the loop sleeps (`onIdle`: write / half-close / close) or
before the run (`pre`: the same, plus the adds).
-/
namespace MgProof.C13
open MgModel.C13

structure ClassP (pre : List Act) (sc : Script) : Prop where
  drain : ∀ c, sc.rmode c = .all
  noRead : ∀ c b a, sc.onRead c b a = []
  noClose : ∀ c, sc.onClose c = []
  noWake : ∀ k, sc.onWake k = []
  idlePeer : ∀ k, ∀ a ∈ sc.onIdle k, peerOnly a = true
  preOk : ∀ a ∈ pre, preOk a = true

/-! ### descriptors: what a peer operation keeps -/

/-- `d` is `k` with some bytes already consumed: same stream state, same total -/
def SameBut (d k : Desc) : Prop :=
  d.kind = k.kind ∧ d.arrived = k.arrived ∧ d.pwr = k.pwr ∧ d.eof = k.eof ∧ d.hup = k.hup ∧
  d.err = k.err ∧ d.shut = k.shut

/-- all that peers alone can produce -/
def Plain (d : Desc) : Prop :=
  d.shut = false ∧ d.err = false ∧ (d.hup = true → d.eof = true) ∧ (d.eof = true → d.pwr = false)

theorem SameBut.refl (d : Desc) : SameBut d d := ⟨rfl, rfl, rfl, rfl, rfl, rfl, rfl⟩

/-- a peer operation sees only what `SameBut` keeps: it acts alike on both descriptors -/
theorem PeerOp.sameBut {f : Desc → Desc × Bool} (hf : PeerOp f) {d k : Desc} (h : SameBut d k) :
    SameBut (f d).1 (f k).1 := by
  obtain ⟨dk, da, dar, dp, de, dh, der, dsh⟩ := d
  obtain ⟨kk, ka, kar, kp, ke, kh, ker, ksh⟩ := k
  simp only [SameBut] at h
  obtain ⟨rfl, rfl, rfl, rfl, rfl, rfl, rfl⟩ := h
  cases hf with
  | write n => unfold Desc.write SameBut; cases dp <;> cases dsh <;> cases dk <;> cases der <;> simp
  | hclose => unfold Desc.hclose SameBut; cases dp <;> simp
  | pclose => unfold Desc.pclose SameBut; cases dp <;> cases dk <;> cases dh <;> simp

theorem PeerOp.cons {f : Desc → Desc × Bool} (hf : PeerOp f) (d : Desc) :
    (f d).1.avail + d.arrived = d.avail + (f d).1.arrived := by
  have e := hf.effect d
  generalize f d = r at e
  cases e with
  | none => rfl
  | bytes => simp only []; omega
  | reset => rfl
  | ended => rfl

theorem PeerOp.plain {f : Desc → Desc × Bool} (hf : PeerOp f) {d : Desc} (h : Plain d) :
    Plain (f d).1 := by
  have e := hf.effect d
  generalize f d = r at e
  cases e with
  | none => exact h
  | bytes => exact h
  | reset _ hs => rw [h.1] at hs; cases hs
  | ended => exact ⟨h.1, h.2.1, fun _ => rfl, fun _ => rfl⟩

/-- once the stream has ended a peer cannot change what the read end still has to see -/
theorem PeerOp.ended {f : Desc → Desc × Bool} (hf : PeerOp f) {d : Desc} (h : Plain d)
    (he : d.eof = true) : (f d).1.eof = true ∧ (f d).1.avail = d.avail := by
  have hp := h.2.2.2 he
  have e := hf.effect d
  generalize f d = r at e
  cases e with
  | none => exact ⟨he, rfl⟩
  | bytes _ hw => rw [hp] at hw; cases hw
  | reset hw => rw [hp] at hw; cases hw
  | ended => exact ⟨rfl, rfl⟩

theorem plain_quiet {d : Desc} (h : Plain d) (hq : d.readable = false) : d.avail = 0 ∧ d.eof = false := by
  obtain ⟨_, h2, h3, _⟩ := h
  unfold Desc.readable Desc.mask Mask.any at hq
  cases hk : d.kind <;> simp [hk] at hq
  · exact ⟨hq.1, hq.2⟩
  · exact hq.1.1
  · exact hq.1.1

theorem plain_eof_readable {d : Desc} (he : d.eof = true) : d.readable = true := by
  unfold Desc.readable Desc.mask Mask.any
  cases hk : d.kind <;> simp [he]

/-! ### the invariant: lock-step with the kernel-only world -/

def doneActs (sc : Script) (n : Nat) : List Act := (List.range (min n sc.nIdle)).flatMap sc.onIdle

def K0 (kinds : List Kind) : KSt := ⟨fun d => { kind := kinds.getD d .pipe }⟩

/-- the kernel-only world after the actions performed so far -/
def Kof (kinds : List Kind) (pre : List Act) (sc : Script) (s : St) : KSt :=
  kacts s.nds (pre ++ doneActs sc s.nIdle) (K0 kinds)

/-- lock-step with the kernel-only world; the closed flag is only ever set on a stream that has ended
and is used up (and stays so: `PeerOp.ended`), and `cb_close` is only called on a flagged context.
Not a `Stable` instance: it reads descriptors and flags. -/
structure PC (kinds : List Kind) (pre : List Act) (sc : Script) (s : St) : Prop where
  sync : ∀ d, SameBut (s.ds d) ((Kof kinds pre sc s).ds d)
  cons : ∀ d, s.delivered d + (s.ds d).avail = (s.ds d).arrived
  plain : ∀ d, Plain (s.ds d)
  flagDone : ∀ c, s.flag c = true → (s.ds c).eof = true ∧ (s.ds c).avail = 0
  closedFlag : ∀ c, Ev.close c ∈ s.trace → s.flag c = true
  exitPhase : s.toExit = 0 ∨ sc.nIdle < s.nIdle
  quiet : sc.nIdle < s.nIdle → ∀ c ∈ s.ctxList, (s.ds c).readable = false
  adds : ∀ c, (Ev.addOk c ∈ s.trace ∨ Ev.addRej c ∈ s.trace) ↔ (Act.add c ∈ pre ∧ c < s.nds)
  unreg : ∀ c, Ev.addOk c ∉ s.trace → s.delivered c = 0
  ndsOk : s.nds = kinds.length

theorem answered_cons {e : Ev} {tr : List Ev} (h1 : ∀ c, e ≠ .addOk c) (h2 : ∀ c, e ≠ .addRej c)
    (c : Nat) :
    (Ev.addOk c ∈ e :: tr ∨ Ev.addRej c ∈ e :: tr) ↔ (Ev.addOk c ∈ tr ∨ Ev.addRej c ∈ tr) := by
  simp [Ne.symm (h1 c), Ne.symm (h2 c)]

theorem PC.emit {kinds pre sc} {s : St} {e : Ev} (h : PC kinds pre sc s)
    (h1 : ∀ c, e ≠ .addOk c) (h2 : ∀ c, e ≠ .addRej c) (h3 : ∀ c, e = .close c → s.flag c = true) :
    PC kinds pre sc (emit e s) :=
  { h with
    closedFlag := fun c hc => (List.mem_cons.mp hc).elim (fun he => h3 c he.symm) (h.closedFlag c)
    adds := fun c => (answered_cons h1 h2 c).trans (h.adds c)
    unreg := fun c hc => h.unreg c fun hh => hc (List.mem_cons_of_mem _ hh) }

theorem pc_emit_silent {kinds pre sc} {s : St} {e : Ev} (h : PC kinds pre sc s) (he : Ev.silent e = true) :
    PC kinds pre sc (emit e s) :=
  h.emit (fun c hc => by rw [hc] at he; cases he) (fun c hc => by rw [hc] at he; cases he)
    (fun c hc => by rw [hc] at he; cases he)

/-! ### the callbacks in class P -/

theorem cbRead_P {pre : List Act} {sc : Script} (hp : ClassP pre sc) (c : Nat) (s : St) :
    cbRead sc c s = emit (.read c (s.ds c).avail ((s.ds c).eof || (s.ds c).err))
      { s with ds := upd s.ds c { s.ds c with avail := 0 },
               flag := if ((s.ds c).eof || (s.ds c).err) then upd s.flag c true else s.flag,
               delivered := upd s.delivered c (s.delivered c + (s.ds c).avail) } := by
  unfold cbRead
  simp only [hp.drain c, doRead, Desc.drain, hp.noRead, runActs, List.foldl_nil]

theorem cbClose_P {pre : List Act} {sc : Script} (hp : ClassP pre sc) (c : Nat) (s : St) :
    ∃ f, cbClose sc c s = { emit (.close c) s with fdClosed := f } := by
  unfold cbClose
  simp only [hp.noClose, runActs, List.foldl_nil]
  split
  · exact ⟨_, rfl⟩
  · exact ⟨s.fdClosed, rfl⟩

theorem handleWake_P {pre : List Act} {sc : Script} (hp : ClassP pre sc) (s : St) :
    handleWake sc s =
      (if s.toExit = 2 then { emit .wake { s with evc := 0, nWake := s.nWake + 1 } with toExit := 1 }
       else emit .wake { s with evc := 0, nWake := s.nWake + 1 }) := by
  unfold handleWake
  simp only [hp.noWake, runActs, List.foldl_nil]
  rfl

/-- what a dispatch does to the kernel: it only consumes bytes -/
def DrainRel (s t : St) : Prop := ∀ d, (t.ds d).avail ≤ (s.ds d).avail ∧ SameBut (t.ds d) (s.ds d)

theorem DrainRel.refl (s : St) : DrainRel s s := fun _ => ⟨Nat.le_refl _, rfl, rfl, rfl, rfl, rfl, rfl, rfl⟩

theorem SameBut.trans {a b c : Desc} (h1 : SameBut a b) (h2 : SameBut b c) : SameBut a c := by
  obtain ⟨a1, a2, a3, a4, a5, a6, a7⟩ := h1
  obtain ⟨b1, b2, b3, b4, b5, b6, b7⟩ := h2
  exact ⟨a1.trans b1, a2.trans b2, a3.trans b3, a4.trans b4, a5.trans b5, a6.trans b6, a7.trans b7⟩

theorem DrainRel.trans {s t u : St} (a : DrainRel s t) (b : DrainRel t u) : DrainRel s u :=
  fun d => ⟨Nat.le_trans (b d).1 (a d).1, (b d).2.trans (a d).2⟩

theorem cbRead_pc {kinds pre sc} (hp : ClassP pre sc) {s : St} (h : PC kinds pre sc s) {c : Nat}
    (hreg : Ev.addOk c ∈ s.trace) :
    PC kinds pre sc (cbRead sc c s) ∧ DrainRel s (cbRead sc c s) := by
  rw [cbRead_P hp]
  have herr : (s.ds c).err = false := (h.plain c).2.1
  have hsb : ∀ d, SameBut (upd s.ds c { s.ds c with avail := 0 } d) (s.ds d) :=
    upd_cases (P := fun d v => SameBut v (s.ds d)) ⟨rfl, rfl, rfl, rfl, rfl, rfl, rfl⟩
      fun _ _ => SameBut.refl _
  refine ⟨?_, ?_⟩
  · refine pc_emit_silent ?_ rfl
    refine ⟨?_, ?_, ?_, ?_, ?_, h.exitPhase, ?_, h.adds, ?_, h.ndsOk⟩
    · intro d; exact (hsb d).trans (h.sync d)
    · intro d
      dsimp only [emit]
      by_cases hd : d = c
      · subst hd; rw [upd_same]; simp [upd]; exact h.cons d
      · rw [upd_other _ _ _ hd]; simp [upd, hd]; exact h.cons d
    · exact fun d => upd_all (Q := Plain) (v := { s.ds c with avail := 0 }) (h.plain c) h.plain c d
    · -- a drained descriptor is used up; the flag is new only if the stream has ended
      intro c' hf
      dsimp only [emit] at hf ⊢
      by_cases hd : c' = c
      · subst hd
        rw [upd_same]
        refine ⟨?_, rfl⟩
        split at hf
        · next he => simpa [herr] using he
        · exact (h.flagDone c' hf).1
      · rw [upd_other _ _ _ hd]
        refine h.flagDone c' ?_
        split at hf
        · rwa [upd_other _ _ _ hd] at hf
        · exact hf
    · intro c' hcl
      have := h.closedFlag c' hcl
      dsimp only [emit]
      split
      · exact upd_true this c
      · exact this
    · intro hph c' hc'
      have := h.quiet hph c' hc'
      dsimp only [emit]
      by_cases hd : c' = c
      · subst hd; rw [upd_same]
        have hq := plain_quiet (h.plain c') this
        have : ({ s.ds c' with avail := 0 } : Desc) = s.ds c' := by
          cases hx : s.ds c'; simp [hx] at hq ⊢; exact hq.1.symm
        rw [this]; assumption
      · rw [upd_other _ _ _ hd]; exact this
    · intro c' hc'
      dsimp only [emit]
      have hne : c' ≠ c := fun hh => hc' (hh ▸ hreg)
      simp [upd, hne]; exact h.unreg c' hc'
  · exact fun d => ⟨upd_cases (P := fun d (v : Desc) => v.avail ≤ (s.ds d).avail) (Nat.zero_le _)
      (fun _ _ => Nat.le_refl _) d, hsb d⟩

theorem pc_close {kinds pre sc} {s : St} {c : Nat} (h : PC kinds pre sc s) (hf : s.flag c = true)
    {L : List Nat} (hL : ∀ c' ∈ L, c' ∈ s.ctxList) :
    PC kinds pre sc { emit (.close c) s with ctxList := L } :=
  { h.emit (by simp) (by simp) (fun c' hc' => by cases hc'; exact hf) with
    quiet := fun hph c' hc' => h.quiet hph c' (hL c' hc') }

theorem handleWake_pc {kinds pre sc} (hp : ClassP pre sc) {s : St} (h : PC kinds pre sc s) :
    PC kinds pre sc (handleWake sc s) := by
  rw [handleWake_P hp]
  have h1 : PC kinds pre sc (emit .wake { s with evc := 0, nWake := s.nWake + 1 }) :=
    pc_emit_silent ({ h with }) rfl
  split
  · next h2 =>
    exact { h1 with exitPhase := Or.inr (h.exitPhase.resolve_left fun h' => by rw [h'] at h2; cases h2) }
  · exact h1

/-! ### peer actions while the loop sleeps -/

/-- everything a peer action leaves alone, and the lock-step with the kernel-only world -/
structure PeerStep (K K' : KSt) (s t : St) : Prop where
  sync : (∀ d, SameBut (s.ds d) (K.ds d)) → ∀ d, SameBut (t.ds d) (K'.ds d)
  cons : (∀ d, s.delivered d + (s.ds d).avail = (s.ds d).arrived) →
    ∀ d, t.delivered d + (t.ds d).avail = (t.ds d).arrived
  plain : (∀ d, Plain (s.ds d)) → ∀ d, Plain (t.ds d)
  untouched : (∀ d, Plain (s.ds d)) →
    ∀ d, (s.ds d).eof = true → (t.ds d).eof = true ∧ ((s.ds d).avail = 0 → (t.ds d).avail = 0)
  delivered : t.delivered = s.delivered
  flag : t.flag = s.flag
  ctxList : t.ctxList = s.ctxList
  trace : t.trace = s.trace
  toExit : t.toExit = s.toExit
  nIdle : t.nIdle = s.nIdle
  nds : t.nds = s.nds

theorem PeerStep.refl (K : KSt) (s : St) : PeerStep K K s s :=
  ⟨fun h => h, fun h => h, fun h => h, fun _ _ he => ⟨he, fun h => h⟩, rfl, rfl, rfl, rfl, rfl, rfl, rfl⟩

theorem PeerStep.trans {K K' K'' : KSt} {s t u : St} (a : PeerStep K K' s t) (b : PeerStep K' K'' t u) :
    PeerStep K K'' s u :=
  ⟨fun h => b.sync (a.sync h), fun h => b.cons (a.cons h), fun h => b.plain (a.plain h),
   fun hp d he => by
     obtain ⟨e1, e2⟩ := a.untouched hp d he
     obtain ⟨f1, f2⟩ := b.untouched (a.plain hp) d e1
     exact ⟨f1, fun h0 => f2 (e2 h0)⟩,
   by rw [b.delivered, a.delivered], by rw [b.flag, a.flag], by rw [b.ctxList, a.ctxList],
   by rw [b.trace, a.trace], by rw [b.toExit, a.toExit], by rw [b.nIdle, a.nIdle], by rw [b.nds, a.nds]⟩

theorem peer_setDesc {K : KSt} {s : St} (d : Nat) {f : Desc → Desc × Bool} (hf : PeerOp f) :
    PeerStep K ⟨upd K.ds d (f (K.ds d)).1⟩ s (setDesc d (f (s.ds d)) s) := by
  obtain ⟨l, hl⟩ := setDesc_spec d (f (s.ds d)) s
  rw [hl]
  refine ⟨fun h x => ?_, fun h x => ?_, fun h x => ?_, fun hp x he => ?_, rfl, rfl, rfl, rfl, rfl, rfl, rfl⟩
  · show SameBut (upd s.ds d _ x) (upd K.ds d _ x)
    by_cases hx : x = d
    · subst hx; rw [upd_same, upd_same]; exact hf.sameBut (h x)
    · rw [upd_other _ _ _ hx, upd_other _ _ _ hx]; exact h x
  · refine upd_cases (P := fun x (v : Desc) => s.delivered x + v.avail = v.arrived) ?_ (fun x _ => h x) x
    have := hf.cons (s.ds d); have := h d; omega
  · exact upd_all (hf.plain (h d)) h d x
  · refine upd_cases (P := fun x (v : Desc) => (s.ds x).eof = true → v.eof = true ∧ ((s.ds x).avail = 0 → v.avail = 0))
      (fun he => ?_) (fun _ _ he => ⟨he, fun h => h⟩) x he
    obtain ⟨e1, e2⟩ := hf.ended (hp d) he
    exact ⟨e1, fun h0 => by rw [e2]; exact h0⟩

theorem peerAct_cases {P : St → KSt → Prop} {a : Act} (ha : peerOnly a = true) (s : St) (K : KSt)
    (skip : P s K)
    (op : ∀ d f, PeerOp f → P (setDesc d (f (s.ds d)) s) ⟨upd K.ds d (f (K.ds d)).1⟩) :
    P (act a s) (kact s.nds K a) := by
  cases a with
  | write d n => simp only [act, kact]; split; exact op d _ (.write n); exact skip
  | hclose d => simp only [act, kact]; split; exact op d _ .hclose; exact skip
  | pclose d => simp only [act, kact]; split; exact op d _ .pclose; exact skip
  | _ => simp [peerOnly] at ha

theorem peer_act {K : KSt} {s : St} (a : Act) (ha : peerOnly a = true) :
    PeerStep K (kact s.nds K a) s (act a s) :=
  peerAct_cases (P := fun t K' => PeerStep K K' s t) ha s K (PeerStep.refl K s) fun d _ hf => peer_setDesc d hf

theorem peer_acts (as : List Act) : ∀ {K : KSt} {s : St}, (∀ a ∈ as, peerOnly a = true) →
    PeerStep K (kacts s.nds as K) s (runActs as s) := by
  induction as with
  | nil => intro K s _; exact PeerStep.refl K s
  | cons a as ih =>
    intro K s h
    have h1 := peer_act (K := K) (s := s) a (h a (by simp))
    have h2 := ih (K := kact s.nds K a) (s := act a s) (fun b hb => h b (List.mem_cons_of_mem _ hb))
    rw [h1.nds] at h2
    exact h1.trans h2

theorem xexit_spec (s : St) :
    ∃ l, act .xexit s = { s with toExit := 2, evc := s.evc + 1, armed := s.armed ++ l } :=
  armSig_spec { s with toExit := 2, evc := s.evc + 1 }

theorem doneActs_succ (sc : Script) {k : Nat} (hk : k < sc.nIdle) :
    doneActs sc (k + 1) = doneActs sc k ++ sc.onIdle k := by
  unfold doneActs
  have h1 : min (k + 1) sc.nIdle = k + 1 := by omega
  have h2 : min k sc.nIdle = k := by omega
  rw [h1, h2, List.range_succ, List.flatMap_append]
  simp

theorem doneActs_done (sc : Script) {k : Nat} (hk : sc.nIdle ≤ k) : doneActs sc k = idleActs sc := by
  unfold doneActs idleActs
  have : min k sc.nIdle = sc.nIdle := by omega
  rw [this]

theorem kacts_append (nds : Nat) (a b : List Act) (K : KSt) :
    kacts nds (a ++ b) K = kacts nds b (kacts nds a K) := by
  unfold kacts; rw [List.foldl_append]

theorem idle_pc {kinds pre sc} (hp : ClassP pre sc) {s : St} (h : PC kinds pre sc s)
    (hq : (s.ctxList.any fun c => (s.ds c).readable) = false) :
    PC kinds pre sc (idle sc s) := by
  unfold idle
  simp only []
  have h1 : PC kinds pre sc (emit (.sleep (s.ctxList.any fun c => (s.ds c).readable)) s) :=
    pc_emit_silent h rfl
  split
  · rename_i hk
    have ps := peer_acts (sc.onIdle s.nIdle) (K := Kof kinds pre sc s)
      (s := emit (.sleep (s.ctxList.any fun c => (s.ds c).readable)) { s with nIdle := s.nIdle + 1 })
      (hp.idlePeer s.nIdle)
    generalize runActs (sc.onIdle s.nIdle)
      (emit (.sleep (s.ctxList.any fun c => (s.ds c).readable)) { s with nIdle := s.nIdle + 1 }) = t at ps
    have hkof : Kof kinds pre sc t = kacts s.nds (sc.onIdle s.nIdle) (Kof kinds pre sc s) := by
      unfold Kof
      rw [ps.nIdle, ps.nds]
      show kacts s.nds (pre ++ doneActs sc (s.nIdle + 1)) _ = _
      rw [doneActs_succ sc hk, ← List.append_assoc, kacts_append]
    have htox : s.toExit = 0 := by
      rcases h.exitPhase with h' | h'
      · exact h'
      · omega
    refine ⟨?_, ps.cons h1.cons, ps.plain h1.plain, ?_, ?_, ?_, ?_, ?_, ?_, by rw [ps.nds]; exact h.ndsOk⟩
    · rw [hkof]; exact ps.sync h.sync
    · -- a peer cannot change what the read end of an ended stream still has to see
      intro c hf
      rw [ps.flag] at hf
      obtain ⟨e1, e2⟩ := h1.flagDone c hf
      obtain ⟨f1, f2⟩ := ps.untouched h1.plain c e1
      exact ⟨f1, f2 e2⟩
    · rw [ps.flag, ps.trace]; exact h1.closedFlag
    · left; rw [ps.toExit]; exact htox
    · intro hph
      rw [ps.nIdle] at hph
      have : sc.nIdle < s.nIdle + 1 := hph
      omega
    · intro c; rw [ps.trace, ps.nds]; exact h1.adds c
    · intro c hc; rw [ps.delivered]; rw [ps.trace] at hc; exact h1.unreg c hc
  · rename_i hk
    have hk' : sc.nIdle ≤ s.nIdle := by omega
    obtain ⟨l, hl⟩ := xexit_spec
      (emit (.sleep (s.ctxList.any fun c => (s.ds c).readable)) { s with nIdle := s.nIdle + 1 })
    rw [hl]
    refine ⟨fun d => ?_, h.cons, h.plain, h.flagDone, h1.closedFlag, Or.inr (Nat.lt_succ_of_le hk'),
      fun _ c hc => ?_, h1.adds, h1.unreg, h.ndsOk⟩
    · have := h.sync d
      unfold Kof at this ⊢
      rw [doneActs_done sc hk'] at this
      show SameBut (s.ds d) ((kacts s.nds (pre ++ doneActs sc (s.nIdle + 1)) (K0 kinds)).ds d)
      rw [doneActs_done sc (by omega)]; exact this
    · exact Bool.eq_false_iff.mpr (List.any_eq_false.mp hq c hc)

/-! ### before the run: `pre` is executed in lock-step by the kernel-only world -/

structure PreQ (kinds : List Kind) (done : List Act) (K : KSt) (s : St) : Prop where
  ds : ∀ d, s.ds d = K.ds d
  delivered : ∀ d, s.delivered d = 0
  flag : ∀ d, s.flag d = false
  noClose : ∀ c, Ev.close c ∉ s.trace
  toExit : s.toExit = 0
  nIdle : s.nIdle = 0
  ndsOk : s.nds = kinds.length
  plain : ∀ d, Plain (s.ds d)
  full : ∀ d, (s.ds d).avail = (s.ds d).arrived
  adds : ∀ c, (Ev.addOk c ∈ s.trace ∨ Ev.addRej c ∈ s.trace) ↔ (Act.add c ∈ done ∧ c < s.nds)
  triedEv : ∀ c, s.tried c = true → Ev.addOk c ∈ s.trace ∨ Ev.addRej c ∈ s.trace

theorem PreQ.skip {kinds done K} {s : St} (h : PreQ kinds done K s) (a : Act) (ha : ∀ c, a ≠ .add c) :
    PreQ kinds (done ++ [a]) K s := by
  refine ⟨h.ds, h.delivered, h.flag, h.noClose, h.toExit, h.nIdle, h.ndsOk, h.plain, h.full, ?_, h.triedEv⟩
  intro c
  rw [h.adds c]
  simp [Ne.symm (ha c)]

theorem PreQ.stale {kinds done K} {s : St} (h : PreQ kinds done K s) {d : Nat}
    (hs : s.tried d = true ∨ s.nds ≤ d) : PreQ kinds (done ++ [.add d]) K s := by
  refine ⟨h.ds, h.delivered, h.flag, h.noClose, h.toExit, h.nIdle, h.ndsOk, h.plain, h.full, ?_, h.triedEv⟩
  intro c
  rw [h.adds c]
  simp only [List.mem_append, List.mem_singleton, Act.add.injEq]
  refine ⟨fun ⟨a, b⟩ => ⟨Or.inl a, b⟩, ?_⟩
  rintro ⟨a | rfl, b⟩
  · exact ⟨a, b⟩
  · rcases hs with hs | hs
    · exact ⟨((h.adds c).mp (h.triedEv c hs)).1, b⟩
    · omega

def FreshAdd (s : St) (d : Nat) (t : St) : Prop :=
  ∃ e ctxList ptab allset nfds epReg armed, (e = Ev.addOk d ∨ e = Ev.addRej d) ∧
    t = { s with trace := e :: s.trace, tried := upd s.tried d true, ctxList := ctxList, ptab := ptab,
                 allset := allset, nfds := nfds, epReg := epReg, armed := armed }

theorem PreQ.fresh {kinds done K} {s t : St} {d : Nat} (h : PreQ kinds done K s) (hd : d < s.nds)
    (ht : FreshAdd s d t) : PreQ kinds (done ++ [.add d]) K t := by
  obtain ⟨e, _, _, _, _, _, _, he, rfl⟩ := ht
  have hA : ∀ c, (Ev.addOk c ∈ e :: s.trace ∨ Ev.addRej c ∈ e :: s.trace) ↔
      (c = d ∨ Ev.addOk c ∈ s.trace ∨ Ev.addRej c ∈ s.trace) := by
    intro c
    rcases he with rfl | rfl <;> simp [or_assoc, or_left_comm]
  refine ⟨h.ds, h.delivered, h.flag, fun c hc => ?_, h.toExit, h.nIdle, h.ndsOk, h.plain, h.full,
    fun c => ?_, fun c hc => ?_⟩
  · exact h.noClose c (mem_cons_ne hc (by rcases he with rfl | rfl <;> simp))
  · show (Ev.addOk c ∈ e :: s.trace ∨ Ev.addRej c ∈ e :: s.trace) ↔ _ ∧ c < s.nds
    rw [hA, h.adds c]
    simp only [List.mem_append, List.mem_singleton, Act.add.injEq]
    constructor
    · rintro (rfl | ⟨a, b⟩)
      · exact ⟨Or.inr rfl, hd⟩
      · exact ⟨Or.inl a, b⟩
    · rintro ⟨a | rfl, b⟩
      · exact Or.inr ⟨a, b⟩
      · exact Or.inl rfl
  · show Ev.addOk c ∈ e :: s.trace ∨ Ev.addRej c ∈ e :: s.trace
    have hc : upd s.tried d true c = true := hc
    rw [hA]
    by_cases hcd : c = d
    · exact Or.inl hcd
    · rw [upd_other _ _ _ hcd] at hc
      exact Or.inr (h.triedEv c hc)

theorem preQ_setDesc {kinds done K} {s : St} (h : PreQ kinds done K s) (d : Nat)
    {f : Desc → Desc × Bool} (hf : PeerOp f) (a : Act) (ha : ∀ c, a ≠ .add c) :
    PreQ kinds (done ++ [a]) ⟨upd K.ds d (f (K.ds d)).1⟩ (setDesc d (f (s.ds d)) s) := by
  obtain ⟨l, hl⟩ := setDesc_spec d (f (s.ds d)) s
  rw [hl]
  refine ⟨fun x => ?_, h.delivered, h.flag, h.noClose, h.toExit, h.nIdle, h.ndsOk, fun x => ?_,
    fun x => ?_, (h.skip a ha).adds, h.triedEv⟩
  · show upd s.ds d _ x = upd K.ds d _ x
    by_cases hx : x = d
    · subst hx; rw [upd_same, upd_same, h.ds x]
    · rw [upd_other _ _ _ hx, upd_other _ _ _ hx]; exact h.ds x
  · exact upd_all (hf.plain (h.plain d)) h.plain d x
  · refine upd_cases (P := fun _ (v : Desc) => v.avail = v.arrived) ?_ (fun x _ => h.full x) x
    have := hf.cons (s.ds d); have := h.full d; omega

theorem preQ_peer {kinds done K} {s : St} (h : PreQ kinds done K s) {a : Act}
    (ha : peerOnly a = true) : PreQ kinds (done ++ [a]) (kact s.nds K a) (act a s) :=
  have hna : ∀ c, a ≠ .add c := fun c hc => by rw [hc] at ha; cases ha
  peerAct_cases (P := fun t K' => PreQ kinds (done ++ [a]) K' t) ha s K (h.skip a hna)
    fun d _ hf => preQ_setDesc h d hf a hna

theorem preQ_act {kinds done K} {s : St} (h : PreQ kinds done K s) (a : Act)
    (ha : preOk a = true) : PreQ kinds (done ++ [a]) (kact s.nds K a) (act a s) := by
  cases a with
  | write _ _ | hclose _ | pclose _ => exact preQ_peer h rfl
  | add d =>
    show PreQ kinds (done ++ [Act.add d]) K (addCtx d s)
    refine addCtx_cases d s h.stale
      (fun _ _ hd => h.fresh hd ⟨_, _, _, _, _, _, _, Or.inl rfl, rfl⟩)
      (fun _ _ hd => h.fresh hd ⟨_, _, _, _, _, _, _, Or.inr rfl, rfl⟩)
      (fun _ _ hd => h.fresh hd ⟨_, _, _, _, _, _, _, Or.inl rfl, rfl⟩)
      (fun _ _ hd _ => h.fresh hd ⟨_, _, _, _, _, _, _, Or.inl rfl, rfl⟩)
      (fun _ _ hd _ => ?_)
    obtain ⟨l, hl, _⟩ := arm_spec d (addedEpoll d s)
    rw [hl]
    exact h.fresh hd ⟨_, _, _, _, _, _, _, Or.inl rfl, rfl⟩
  | _ => simp [preOk] at ha

theorem preQ_acts {kinds} (as : List Act) : ∀ {done K} {s : St}, PreQ kinds done K s →
    (∀ a ∈ as, preOk a = true) → PreQ kinds (done ++ as) (kacts s.nds as K) (runActs as s) := by
  induction as with
  | nil => intro done K s h _; simpa [kacts, runActs] using h
  | cons a as ih =>
    intro done K s h hall
    have h1 := preQ_act h a (hall a (by simp))
    have h2 := ih h1 (fun b hb => hall b (List.mem_cons_of_mem _ hb))
    have hn : (act a s).nds = s.nds := (mle_stable.act a s).nds
    rw [hn] at h2
    simpa [kacts, runActs, List.append_assoc] using h2

theorem doneActs_zero (sc : Script) : doneActs sc 0 = [] := by
  unfold doneActs; simp

theorem pre_pc {kinds pre sc} (hp : ClassP pre sc) (b : Backend) (hints : Nat) (legacy lsel cfd : Bool) :
    PC kinds pre sc (runActs pre (initSt b hints legacy kinds lsel cfd)) := by
  have q0 : PreQ kinds [] (K0 kinds) (initSt b hints legacy kinds lsel cfd) := by
    refine ⟨fun _ => rfl, fun _ => rfl, fun _ => rfl, by simp [initSt], rfl, rfl, rfl, ?_, fun _ => rfl,
      by simp [initSt], by simp [initSt]⟩
    intro d; simp [Plain, initSt]
  have q := preQ_acts pre q0 hp.preOk
  simp only [List.nil_append] at q
  generalize runActs pre (initSt b hints legacy kinds lsel cfd) = s at q
  have hn : (initSt b hints legacy kinds lsel cfd).nds = s.nds := by
    rw [q.ndsOk]; rfl
  have hk : Kof kinds pre sc s = kacts (initSt b hints legacy kinds lsel cfd).nds pre (K0 kinds) := by
    unfold Kof
    rw [q.nIdle, doneActs_zero, List.append_nil, hn]
  refine ⟨?_, ?_, q.plain, fun c hf => absurd hf (by simp [q.flag c]), fun c hc => absurd hc (q.noClose c), Or.inl q.toExit, ?_,
    q.adds, fun c _ => q.delivered c, q.ndsOk⟩
  · intro d
    rw [hk, q.ds d]
    exact ⟨rfl, rfl, rfl, rfl, rfl, rfl, rfl⟩
  · intro d
    rw [q.delivered d, q.full d]; simp
  · intro hph
    rw [q.nIdle] at hph
    exact absurd hph (Nat.not_lt_zero _)

/-! ### a context being visited -/

/-- since the wait call returned (`D0`) the dispatch has only consumed bytes -/
def Drained (D0 : Nat → Desc) (s : St) : Prop :=
  ∀ d, (s.ds d).avail ≤ (D0 d).avail ∧ SameBut (s.ds d) (D0 d)

theorem Drained.refl (s : St) : Drained s.ds s := fun _ => ⟨Nat.le_refl _, SameBut.refl _⟩

theorem Drained.step {D0 : Nat → Desc} {s t : St} (h : Drained D0 s) (r : DrainRel s t) : Drained D0 t :=
  fun d => ⟨Nat.le_trans (r d).1 (h d).1, (r d).2.trans (h d).2⟩

theorem mask_hup_eof {d : Desc} (h : Plain d) (hh : d.mask.hup = true ∨ d.mask.err = true) : d.eof = true := by
  obtain ⟨_, h2, h3, _⟩ := h
  unfold Desc.mask at hh
  cases hk : d.kind <;> simp [hk, h2] at hh
  · exact hh
  · exact h3 hh
  · exact h3 hh

theorem mask_noin_avail {d : Desc} (hi : d.mask.inn = false) : d.avail = 0 := by
  unfold Desc.mask at hi
  cases hk : d.kind <;> simp [hk] at hi
  · exact hi
  · exact hi.1
  · exact hi.1

theorem SameBut.plain {a b : Desc} (h : SameBut a b) (hp : Plain a) : Plain b := by
  obtain ⟨_, _, a3, a4, a5, a6, a7⟩ := h
  obtain ⟨p1, p2, p3, p4⟩ := hp
  exact ⟨by rw [← a7]; exact p1, by rw [← a6]; exact p2, by rw [← a5, ← a4]; exact p3,
    by rw [← a4, ← a3]; exact p4⟩

theorem Drained.noin {D0 : Nat → Desc} {s : St} (h : Drained D0 s) {c : Nat}
    (hin : (D0 c).mask.inn = false) : (s.ds c).avail = 0 :=
  Nat.le_zero.mp (mask_noin_avail hin ▸ (h c).1)

structure Visiting (kinds : List Kind) (pre : List Act) (sc : Script) (D0 : Nat → Desc) (s0 s : St) :
    Prop where
  pc : PC kinds pre sc s
  drained : Drained D0 s
  ptab : s.ptab = s0.ptab

theorem Visiting.read {kinds pre sc D0} (hp : ClassP pre sc) {s : St} {c : Nat}
    (h : PC kinds pre sc s) (hreg : Ev.addOk c ∈ s.trace) (hd : Drained D0 s) :
    Visiting kinds pre sc D0 s (cbRead sc c s) :=
  have ⟨p1, p3⟩ := cbRead_pc hp h hreg
  ⟨p1, hd.step p3, by rw [cbRead_P hp]; rfl⟩

theorem Visiting.flag {kinds pre sc D0} {s0 s : St} {c : Nat} (v : Visiting kinds pre sc D0 s0 s)
    (hm : (D0 c).mask.hup = true ∨ (D0 c).mask.err = true) (hav : (s.ds c).avail = 0) :
    Visiting kinds pre sc D0 s0 { s with flag := upd s.flag c true } :=
  ⟨{ v.pc with
      flagDone := upd_cases (P := fun c' b => b = true → (s.ds c').eof = true ∧ (s.ds c').avail = 0)
        (fun _ => ⟨(v.drained c).2.2.2.2.1.trans (mask_hup_eof ((v.drained c).2.plain (v.pc.plain c)) hm), hav⟩)
        fun c' _ => v.pc.flagDone c'
      closedFlag := fun c' hc' => upd_true (v.pc.closedFlag c' hc') c },
   v.drained, v.ptab⟩

/-- the flag is only set on a reported `HUP`/`ERR`, and then no input is left: none was reported,
or the read callback has just drained it -/
theorem Visiting.touch {kinds pre sc D0} (hp : ClassP pre sc) {s : St} {c : Nat} {rd fl : Bool}
    (h : PC kinds pre sc s) (hreg : Ev.addOk c ∈ s.trace) (hd : Drained D0 s)
    (hfl : fl = true → ((D0 c).mask.hup = true ∨ (D0 c).mask.err = true) ∧
      (rd = false → (D0 c).mask.inn = false)) :
    Visiting kinds pre sc D0 s (touch sc c rd fl s) := by
  have v1 : Visiting kinds pre sc D0 s (if rd then cbRead sc c s else s) ∧
      (rd = true → ((if rd then cbRead sc c s else s).ds c).avail = 0) := by
    split
    · exact ⟨Visiting.read hp h hreg hd, fun _ => by rw [cbRead_P hp]; simp [emit, upd]⟩
    · next hr => exact ⟨⟨h, hd, rfl⟩, fun h' => absurd h' hr⟩
  unfold MgProof.C13.touch
  simp only []
  generalize (if rd then cbRead sc c s else s) = s1 at v1 ⊢
  split
  · next hf =>
    refine v1.1.flag (hfl hf).1 ?_
    cases hr : rd
    · exact v1.1.drained.noin ((hfl hf).2 hr)
    · exact v1.2 hr
  · exact v1.1

/-! ### select -/

theorem selRead_pc {kinds pre sc} (hp : ClassP pre sc) {s : St} (h : PC kinds pre sc s)
    (hi : Inv none s) {c : Nat} (hc : c ∈ s.ctxList) :
    Visiting kinds pre sc s.ds s (selRead sc c s) :=
  Visiting.touch (rd := s.rset.contains c) (fl := false) hp h (hi.sound c hc).1 (Drained.refl s)
    fun hf => by cases hf

theorem selClose_pc {kinds pre sc} (hp : ClassP pre sc) {s : St} {c : Nat} (h : PC kinds pre sc s)
    (i : Nat) (hf : s.flag c = true) : PC kinds pre sc (selClose sc i c s) := by
  unfold selClose
  obtain ⟨f, hf'⟩ := cbClose_P hp c s
  rw [hf']
  exact { pc_close h hf (L := s.ctxList.eraseIdx i) fun c' hc' => (List.eraseIdx_sublist ..).subset hc' with }

structure SelPC (kinds : List Kind) (pre : List Act) (sc : Script) (s : St) : Prop where
  pc : PC kinds pre sc s
  inv : SelInv s

theorem selScan_pc {kinds pre sc} (hp : ClassP pre sc) (f i : Nat) {s : St} (h : SelPC kinds pre sc s) :
    SelPC kinds pre sc (selScan sc f i s) :=
  selScan_ind (P := fun _ _ => SelPC kinds pre sc) sc
    (fun _ i _ _ h hi hf =>
      ⟨selClose_pc hp (selRead_pc hp h.pc h.inv.1 (List.mem_of_getElem? hi)).pc i hf,
        selScan_close_inv sc h.inv hi⟩)
    (fun _ _ _ _ h hi _ =>
      have hc := List.mem_of_getElem? hi
      ⟨{ (selRead_pc hp h.pc h.inv.1 hc).pc with }, selScan_keep_inv sc h.inv hc⟩)
    (fun _ _ _ h _ => h) (fun _ _ h => ⟨{ h.pc with }, { h.inv.1 with }, h.inv.2⟩) f i s h

theorem selDispatch_pc {kinds pre sc} (hp : ClassP pre sc) {s : St} (h : SelPC kinds pre sc s) :
    SelPC kinds pre sc (selDispatch sc s) :=
  selDispatch_ind (P1 := SelPC kinds pre sc) sc
    (fun _ h => ⟨{ h.pc with }, { h.inv.1 with }, h.inv.2⟩)
    (fun _ h => ⟨handleWake_pc hp h.pc, handleWake_selInv sc h.inv⟩)
    (fun _ h => selScan_pc hp _ 0 ⟨{ h.pc with }, { h.inv.1 with }, h.inv.2⟩) h

def PCEnd (kinds : List Kind) (pre : List Act) (sc : Script) (s : St) : Prop :=
  PC kinds pre sc s ∧ (s.toExit = 1 ∨ Ev.fuel ∈ s.trace)

theorem pc_fuel {kinds pre sc} {s : St} (h : PC kinds pre sc s) : PCEnd kinds pre sc (emit .fuel s) :=
  ⟨pc_emit_silent h rfl, Or.inr (List.mem_cons_self ..)⟩

structure SelLoopPC (kinds : List Kind) (pre : List Act) (sc : Script) (s : St) : Prop where
  pc : PC kinds pre sc s
  selc : SelCInv s
  selF : SelF s

theorem selLoop_pc {kinds pre sc} (hp : ClassP pre sc) (f : Nat) {s : St} (h : SelLoopPC kinds pre sc s) :
    PCEnd kinds pre sc (selLoop sc f s) :=
  selLoop_ind sc
    (fun s h hz =>
      ⟨idle_pc hp { h.pc with } (select_block_none_readable (s := s) h.selc.1 hz),
       selLoop_idle_c sc h.selc hz, (selLoop_idle_selF sc ⟨h.selc.2, h.selF⟩).2⟩)
    (fun s h =>
      have hpq : PC kinds pre sc (selQuery s) := { h.pc with }
      ⟨(selDispatch_pc hp ⟨pc_emit_silent hpq rfl,
          emit_disp_inv (selQuery_inv h.selc.2).1, h.selc.2.2⟩).pc,
       selLoop_disp_c sc h.selc, (selLoop_disp_selF sc ⟨h.selc.2, h.selF⟩).2⟩)
    (fun _ h hb => by rw [selBad_false ⟨h.selc.2, h.selF⟩] at hb; cases hb)
    (fun _ h => pc_fuel h.pc) (fun _ h hx => ⟨h.pc, Or.inl hx⟩) f s h

/-! ### poll -/

/-- the revents of the table are the masks of the descriptors as they were when `poll` returned
(`D0`), and since then the dispatch has only consumed bytes -/
structure RevOK (D0 : Nat → Desc) (s : St) : Prop where
  rev : ∀ e ∈ s.ptab, e.rev = (D0 e.fd).mask
  drained : ∀ d, (s.ds d).avail ≤ (D0 d).avail ∧ SameBut (s.ds d) (D0 d)

theorem pollVisit_pc {kinds pre sc} (hp : ClassP pre sc) {D0 : Nat → Desc} {s : St}
    (h : PC kinds pre sc s) (hi : Inv none s) (hv : PInv s) (hr : RevOK D0 s) {i : Nat} {e : PEnt}
    (he : s.ptab[i]? = some e) :
    PC kinds pre sc (pollVisit sc i e s) ∧ RevOK D0 (pollVisit sc i e s) := by
  have hmem := List.mem_of_getElem? he
  have hc : e.node ∈ s.ctxList := hi.pMem e hmem
  have hrev : e.rev = (D0 e.node).mask := by rw [← hv.fdNode e hmem]; exact hr.rev e hmem
  rw [pollVisit_eq]
  have v2 : Visiting kinds pre sc D0 s (touch sc e.node e.rev.inn (e.rev.hup || e.rev.err) s) :=
    Visiting.touch hp h (hi.sound _ hc).1 hr.drained fun hh =>
      ⟨by rw [← hrev]; simpa using hh, fun hin => by rw [← hrev]; exact hin⟩
  generalize touch sc e.node e.rev.inn (e.rev.hup || e.rev.err) s = s2 at v2
  have hrev2 : ∀ x ∈ s2.ptab, x.rev = (D0 x.fd).mask := by rw [v2.ptab]; exact hr.rev
  unfold pollFinish
  split
  · next hf =>
    obtain ⟨fc, hfc⟩ := cbClose_P hp e.node s2
    rw [hfc]
    obtain ⟨_, f2, _⟩ := swapRemove_facts (·.node) s2.ptab i e (by rw [v2.ptab]; exact he)
      (by rw [v2.ptab]; exact hi.pNodup)
    exact ⟨{ pc_close v2.pc hf (L := s2.ctxList.erase e.node) fun c' hc' => List.mem_of_mem_erase hc' with },
      fun x hx => hrev2 x (f2 x hx).1, v2.drained⟩
  · exact ⟨v2.pc, hrev2, v2.drained⟩

theorem handleWake_ds {pre : List Act} {sc : Script} (hp : ClassP pre sc) (s : St) :
    (handleWake sc s).ds = s.ds ∧ (handleWake sc s).ptab = s.ptab := by
  rw [handleWake_P hp]; split <;> exact ⟨rfl, rfl⟩

structure PollScanPC (kinds : List Kind) (pre : List Act) (sc : Script) (D0 : Nat → Desc) (s : St) :
    Prop where
  pc : PC kinds pre sc s
  inv : PollInv s
  rev : RevOK D0 s

theorem pollScan_pc {kinds pre sc} (hp : ClassP pre sc) {D0 : Nat → Desc} (i : Nat) (n : Int) {s : St}
    (h : PollScanPC kinds pre sc D0 s) : PollScanPC kinds pre sc D0 (pollScan sc i n s) :=
  pollScan_ind sc
    (fun _ _ _ h he =>
      have v := pollVisit_pc hp h.pc h.inv.2 h.inv.1 h.rev he
      ⟨v.1, ⟨pollVisit_pinv sc h.inv.1 h.inv.2 he, pollVisit_inv sc h.inv.2 he⟩, v.2⟩)
    (fun s h => ⟨handleWake_pc hp h.pc, ⟨handleWake_pinv sc h.inv.1, handleWake_inv sc h.inv.2⟩,
      by rw [(handleWake_ds hp s).2]; exact h.rev.rev, by rw [(handleWake_ds hp s).1]; exact h.rev.drained⟩)
    (fun _ h => ⟨{ h.pc with }, ⟨{ h.inv.1 with }, { h.inv.2 with }⟩, h.rev.rev, h.rev.drained⟩)
    i n s h

structure PollLoopPC (kinds : List Kind) (pre : List Act) (sc : Script) (s : St) : Prop where
  pc : PC kinds pre sc s
  inv : PollInv s

theorem pollLoop_pc {kinds pre sc} (hp : ClassP pre sc) (f : Nat) {s : St} (h : PollLoopPC kinds pre sc s) :
    PCEnd kinds pre sc (pollLoop sc f s) :=
  pollLoop_ind sc
    (fun s h hz =>
      ⟨idle_pc hp { h.pc with } (poll_block_none_readable (s := s) h.inv.1 hz),
       pollLoop_idle_pinv sc h.inv hz⟩)
    (fun s h => by
      have hro : RevOK s.ds (emit .disp (pollQuery s)) :=
        ⟨fun e he => by obtain ⟨e0, _, rfl⟩ := List.mem_map.mp he; rfl,
         Drained.refl s⟩
      have p := pollScan_pc hp (pollQuery s).ptab.length (pollCount (pollQuery s))
        ⟨pc_emit_silent ({ h.pc with } : PC kinds pre sc (pollQuery s)) rfl,
         ⟨emit_pinv (by simp) (pollQuery_pinv h.inv.1), emit_disp_inv (pollQuery_inv h.inv.2)⟩, hro⟩
      exact ⟨p.pc, p.inv⟩)
    (fun _ h => pc_fuel h.pc) (fun _ h hx => ⟨h.pc, Or.inl hx⟩) f s h

/-! ### epoll -/

def BatchOK (D0 : Nat → Desc) (b : List (Src × Mask)) : Prop :=
  ∀ c mk, (Src.ctx c, mk) ∈ b → mk = (D0 c).mask

theorem epVisit_pc {kinds pre sc} (hp : ClassP pre sc) {D0 : Nat → Desc} {s : St} {c : Nat} {mk : Mask}
    (h : PC kinds pre sc s) (hi : Inv none s) (hc : c ∈ s.ctxList) (hmk : mk = (D0 c).mask)
    (hdr : Drained D0 s) :
    PC kinds pre sc (epVisit sc c mk s) ∧ Drained D0 (epVisit sc c mk s) := by
  unfold epVisit
  rw [epRead_eq]
  have v : Visiting kinds pre sc D0 s (touch sc c mk.inn (!mk.inn && (mk.err || mk.hup)) s) :=
    Visiting.touch hp h (hi.sound c hc).1 hdr fun hf => by
      simp only [Bool.and_eq_true, Bool.not_eq_eq_eq_not, Bool.not_true, Bool.or_eq_true] at hf
      exact ⟨by rw [← hmk]; exact hf.2.symm, fun _ => by rw [← hmk]; exact hf.1⟩
  generalize touch sc c mk.inn (!mk.inn && (mk.err || mk.hup)) s = s2 at v
  unfold epFinish
  split
  · next hf =>
    -- the deregistration first: nothing the invariant reads; naming its result keeps the
    -- comparison of the two records below from looking into it
    have hq : PC kinds pre sc (epDel c s2) := { v.pc with }
    have hfq : (epDel c s2).flag c = true := hf
    have hd : Drained D0 (epDel c s2) := v.drained
    obtain ⟨fc, hfc⟩ := cbClose_P hp c (epDel c s2)
    rw [hfc]
    generalize epDel c s2 = sd at hq hfq hd
    exact ⟨{ pc_close hq hfq (L := sd.ctxList.erase c) fun c' hc' => List.mem_of_mem_erase hc' with }, hd⟩
  · exact ⟨v.pc, v.drained⟩

structure BPC (kinds : List Kind) (pre : List Act) (sc : Script) (D0 : Nat → Desc)
    (b : List (Src × Mask)) (s : St) : Prop where
  pc : PC kinds pre sc s
  binv : BInv b s
  masks : BatchOK D0 b
  drained : Drained D0 s

theorem epBatch_pc {kinds pre sc} (hp : ClassP pre sc) {D0 : Nat → Desc} (b : List (Src × Mask))
    {s : St} (h : BPC kinds pre sc D0 b s) : BPC kinds pre sc D0 [] (epBatch sc b s) :=
  epBatch_ind sc
    (fun mk r s h =>
      ⟨by split
          · exact handleWake_pc hp h.pc
          · exact h.pc,
       h.binv.sig sc, fun c mk' hm => h.masks c mk' (List.mem_cons_of_mem _ hm),
       by split
          · unfold Drained; rw [(handleWake_ds hp s).1]; exact h.drained
          · exact h.drained⟩)
    (fun c mk r s h =>
      have v := epVisit_pc hp h.pc h.binv.inv h.binv.head.1 (h.masks c mk (by simp)) h.drained
      ⟨v.1, h.binv.visit sc, fun c' mk' hm => h.masks c' mk' (List.mem_cons_of_mem _ hm), v.2⟩) b s h

structure EpLoopPC (kinds : List Kind) (pre : List Act) (sc : Script) (s : St) : Prop where
  pc : PC kinds pre sc s
  inv : EpEInv s

theorem epLoop_pc {kinds pre sc} (hp : ClassP pre sc) (f : Nat) {s : St} (h : EpLoopPC kinds pre sc s) :
    PCEnd kinds pre sc (epLoop sc f s) :=
  epLoop_ind sc
    (fun s h he =>
      ⟨idle_pc hp { h.pc with } (epoll_block_none_readable (s := s) h.inv.1 he),
       epLoop_idle_einv sc h.inv he⟩)
    (fun s h => by
      have hpq : PC kinds pre sc { s with armed := (epCollect s s.armed (s.hints + 1)).2 } :=
        { h.pc with }
      exact ⟨(epBatch_pc hp (D0 := s.ds) _
        ⟨pc_emit_silent (e := .disp) hpq rfl,
         (epCollect_inv h.inv.2.1 h.inv.2.2 _).2,
         fun c mk hm => (epCollect_masks s s.armed (s.hints + 1) _ hm).1,
         Drained.refl s⟩).pc,
       epLoop_disp_einv sc hp.drain h.inv⟩)
    (fun _ h => pc_fuel h.pc) (fun _ h hx => ⟨h.pc, Or.inl hx⟩) f s h

/-! ### what a finished run leaves -/

/-- **Outcome characterisation.** A loop left through the exit request with the class-P invariant
gives every context the outcome of the kernel-only specification. -/
theorem outcome_of_pc {kinds pre sc} {s : St} (h : PC kinds pre sc s) (hi : Inv none s)
    (hexit : s.toExit = 1) (hrej : ∀ c, Ev.addRej c ∉ s.trace) (c : Nat) :
    (s.delivered c,
      if Ev.close c ∈ s.trace then Fate.closed else if c ∈ s.ctxList then Fate.cleared else Fate.none) =
    specOutcome kinds pre sc c := by
  have hph : sc.nIdle < s.nIdle := by
    rcases h.exitPhase with h' | h'
    · rw [hexit] at h'; cases h'
    · exact h'
  have hk : Kof kinds pre sc s = kacts kinds.length (pre ++ idleActs sc) (K0 kinds) := by
    unfold Kof
    rw [doneActs_done sc (Nat.le_of_lt hph), h.ndsOk]
  have hsync := h.sync c
  rw [hk] at hsync
  unfold K0 at hsync
  simp only [specOutcome]
  obtain ⟨_, harr, _, heof, _, _, _⟩ := hsync
  rw [← harr, ← heof]
  by_cases hadd : Act.add c ∈ pre ∧ c < kinds.length
  · have hcond : (pre.contains (Act.add c) && decide (c < kinds.length)) = true := by
      simp [hadd.1, hadd.2]
    rw [if_pos hcond]
    have hok : Ev.addOk c ∈ s.trace := by
      rcases (h.adds c).mpr ⟨hadd.1, by rw [h.ndsOk]; exact hadd.2⟩ with h' | h'
      · exact h'
      · exact absurd h' (hrej c)
    by_cases hcl : Ev.close c ∈ s.trace
    · obtain ⟨e1, e2⟩ := h.flagDone c (h.closedFlag c hcl)
      have := h.cons c
      rw [if_pos hcl, e1]
      simp only [↓reduceIte]
      congr 1
      omega
    · have hmem : c ∈ s.ctxList := hi.complete c hok hcl
      obtain ⟨e1, e2⟩ := plain_quiet (h.plain c) (h.quiet hph c hmem)
      have := h.cons c
      rw [if_neg hcl, if_pos hmem, e2]
      simp only [Bool.false_eq_true, ↓reduceIte]
      congr 1
      omega
  · have hcond : ¬ (pre.contains (Act.add c) && decide (c < kinds.length)) = true := by
      intro hh
      simp at hh
      exact hadd hh
    rw [if_neg hcond]
    have hnok : Ev.addOk c ∉ s.trace := by
      intro hok
      have := (h.adds c).mp (Or.inl hok)
      exact hadd ⟨this.1, by rw [← h.ndsOk]; exact this.2⟩
    have hncl : Ev.close c ∉ s.trace := fun hcl => hnok (close_mem_addOk hi.wf hcl)
    have hnmem : c ∉ s.ctxList := fun hm => hnok (hi.sound c hm).1
    rw [h.unreg c hnok, if_neg hncl, if_neg hnmem]

end MgProof.C13
