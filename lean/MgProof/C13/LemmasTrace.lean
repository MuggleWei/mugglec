import MgProof.C13.Lemmas
/-!
# C13 — from the well-formedness of the (newest-first) loop trace to statements about the
chronological event list `body ++ clears ++ [exit]`
-/
namespace MgProof.C13
open MgModel.C13

/-- in chronological order: every event was allowed after what preceded it -/
theorem wf_split {tr : List Ev} (h : LoopWF tr) {p q : List Ev} {e : Ev}
    (hs : tr.reverse = p ++ e :: q) : okNext p.reverse e := by
  have : tr = q.reverse ++ e :: p.reverse := by
    have := congrArg List.reverse hs
    simpa using this
  subst this
  clear hs
  generalize q.reverse = l at h
  induction l with
  | nil => exact h.1
  | cons a l ih => exact ih h.2

theorem split_body {body tail pre post : List Ev} {e : Ev}
    (h : body ++ tail = pre ++ e :: post) (he : e ∉ tail) :
    ∃ q, body = pre ++ e :: q ∧ post = q ++ tail := by
  rcases List.append_eq_append_iff.mp h with ⟨a', h1, h2⟩ | ⟨c', h1, h2⟩
  · exact absurd (by rw [h2]; simp) he
  · cases c' with
    | nil =>
      simp at h2
      exact absurd (by rw [← h2]; simp) he
    | cons e' q =>
      simp at h2
      obtain ⟨h3, h4⟩ := h2
      subst h3
      exact ⟨q, h1, h4⟩

theorem wf_no_clear_exit {tr : List Ev} (h : LoopWF tr) :
    (∀ c, Ev.clear c ∉ tr) ∧ Ev.exit ∉ tr :=
  ⟨fun _ hc => (wf_mem h hc).elim fun _ hr => hr.2, fun hc => (wf_mem h hc).elim fun _ hr => hr.2⟩

theorem count_cons_ev (a b : Ev) (l : List Ev) :
    (b :: l).count a = l.count a + (if b = a then 1 else 0) := by
  simp [List.count_cons]

theorem wf_count_close {tr : List Ev} (h : LoopWF tr) (c : Nat) : tr.count (Ev.close c) ≤ 1 := by
  induction tr with
  | nil => simp
  | cons e tr ih =>
    rw [count_cons_ev]
    by_cases he : e = Ev.close c
    · subst he
      have : Ev.close c ∉ tr := h.1.2
      simp [List.count_eq_zero_of_not_mem this]
    · simp [he]
      exact ih h.2

theorem wf_count_add {tr : List Ev} (h : LoopWF tr) (c : Nat) :
    tr.count (Ev.addOk c) + tr.count (Ev.addRej c) ≤ 1 := by
  induction tr with
  | nil => simp
  | cons e tr ih =>
    rw [count_cons_ev, count_cons_ev]
    by_cases he : e = Ev.addOk c ∨ e = Ev.addRej c
    · have h1 : Ev.addOk c ∉ tr := by rcases he with rfl | rfl <;> exact h.1.1
      have h2 : Ev.addRej c ∉ tr := by rcases he with rfl | rfl <;> exact h.1.2
      rcases he with rfl | rfl <;>
        simp [List.count_eq_zero_of_not_mem h1, List.count_eq_zero_of_not_mem h2]
    · simp [not_or.mp he]
      exact ih h.2

theorem count_map_clear (L : List Nat) (c : Nat) : (L.map Ev.clear).count (Ev.clear c) = L.count c := by
  induction L with
  | nil => simp
  | cons a L ih =>
    rw [List.map_cons, count_cons_ev, ih, List.count_cons]
    by_cases h : a = c <;> simp [h]

/-- The events of a run in order: the loop's trace, one `cb_clear` for each context still
registered when the loop returns, `cb_exit`. The life-cycle clauses are readings of this. -/
def RunTrace (evs : List Ev) : Prop :=
  ∃ (tr : List Ev) (L : List Nat), evs = tr.reverse ++ L.map Ev.clear ++ [Ev.exit] ∧ LoopWF tr ∧ L.Nodup ∧
    ∀ c, c ∈ L ↔ Registered tr c

def Ev.callsBack (c : Nat) : Ev → Prop
  | .read c' _ _ => c' = c
  | .close c' => c' = c
  | .clear c' => c' = c
  | _ => False

theorem tail_no_loop_event {L : List Nat} {e : Ev} (he : e ∈ L.map Ev.clear ++ [Ev.exit]) :
    (∃ c ∈ L, e = .clear c) ∨ e = .exit := by
  simp at he
  rcases he with ⟨c, hc, rfl⟩ | rfl
  · exact Or.inl ⟨c, hc, rfl⟩
  · exact Or.inr rfl

theorem count_run {tr : List Ev} {L : List Nat} {e : Ev} (h1 : ∀ c, e ≠ .clear c) (h2 : e ≠ .exit) :
    (tr.reverse ++ L.map Ev.clear ++ [Ev.exit]).count e = tr.count e := by
  rw [List.count_append, List.count_append, List.count_reverse,
    List.count_eq_zero_of_not_mem (l := L.map Ev.clear) (by simpa using fun c _ => (h1 c).symm),
    List.count_eq_zero_of_not_mem (l := [Ev.exit]) (by simpa using h2)]
  rfl

theorem chrono_close_once {evs : List Ev} (h : RunTrace evs) (c : Nat) : evs.count (Ev.close c) ≤ 1 := by
  obtain ⟨tr, L, rfl, hwf, -, -⟩ := h
  rw [count_run (by simp) (by simp)]
  exact wf_count_close hwf c

theorem chrono_registered {evs : List Ev} (h : RunTrace evs) {pre post : List Ev} {e : Ev} {c : Nat}
    (he : ∀ L : List Nat, e ∉ L.map Ev.clear ++ [Ev.exit]) (hok : ∀ p, okNext p e → Registered p c)
    (hs : evs = pre ++ e :: post) : Ev.addOk c ∈ pre ∧ Ev.close c ∉ pre := by
  obtain ⟨tr, L, rfl, hwf, -, -⟩ := h
  rw [List.append_assoc] at hs
  obtain ⟨q, hq, _⟩ := split_body hs (he L)
  simpa [Registered] using hok _ (wf_split hwf hq)

theorem chrono_after_close {evs : List Ev} (h : RunTrace evs) {pre post : List Ev} {c : Nat}
    (hs : evs = pre ++ Ev.close c :: post) : ∀ e ∈ post, ¬ Ev.callsBack c e := by
  obtain ⟨tr, L, rfl, hwf, -, hL⟩ := h
  rw [List.append_assoc] at hs
  obtain ⟨q, hq, hpost⟩ := split_body hs (by simp)
  intro e he hcb
  rw [hpost] at he
  rcases List.mem_append.mp he with he | he
  · obtain ⟨q1, q2, hq12⟩ := List.append_of_mem he
    have hs : tr.reverse = (pre ++ Ev.close c :: q1) ++ e :: q2 := by
      rw [hq, hq12]; simp
    have hok := wf_split hwf hs
    cases e with
    | read c' n b =>
      simp [Ev.callsBack] at hcb; subst hcb
      simp [okNext, Registered] at hok
    | close c' =>
      simp [Ev.callsBack] at hcb; subst hcb
      simp [okNext, Registered] at hok
    | clear c' => exact hok
    | _ => exact hcb
  · rcases tail_no_loop_event he with ⟨c', hc', rfl⟩ | rfl
    · simp [Ev.callsBack] at hcb; subst hcb
      have := ((hL c').mp hc').2
      apply this
      have : Ev.close c' ∈ tr.reverse := by rw [hq]; simp
      simpa using this
    · exact hcb

theorem chrono_clear_count {evs : List Ev} (h : RunTrace evs) (c : Nat) :
    evs.count (Ev.clear c) = if Ev.addOk c ∈ evs ∧ Ev.close c ∉ evs then 1 else 0 := by
  obtain ⟨tr, L, rfl, hwf, hnd, hL⟩ := h
  have hreg : (Ev.addOk c ∈ tr.reverse ++ L.map Ev.clear ++ [Ev.exit] ∧
      Ev.close c ∉ tr.reverse ++ L.map Ev.clear ++ [Ev.exit]) ↔ c ∈ L := by
    rw [hL c]; simp [Registered]
  rw [List.count_append, List.count_append, List.count_reverse,
    List.count_eq_zero_of_not_mem ((wf_no_clear_exit hwf).1 c)]
  have h2 : [Ev.exit].count (Ev.clear c) = 0 := List.count_eq_zero_of_not_mem (by simp)
  rw [h2, count_map_clear, hnd.count]
  simp only [hreg, Nat.zero_add, Nat.add_zero]

theorem chrono_exit {evs : List Ev} (h : RunTrace evs) :
    evs.getLast? = some Ev.exit ∧ evs.count Ev.exit = 1 := by
  obtain ⟨tr, L, rfl, hwf, -, -⟩ := h
  refine ⟨by simp, ?_⟩
  rw [List.count_append, List.count_append, List.count_reverse,
    List.count_eq_zero_of_not_mem (wf_no_clear_exit hwf).2]
  have : (L.map Ev.clear).count Ev.exit = 0 := List.count_eq_zero_of_not_mem (by simp)
  rw [this]; simp

theorem chrono_add_once {evs : List Ev} (h : RunTrace evs) (c : Nat) :
    evs.count (Ev.addOk c) + evs.count (Ev.addRej c) ≤ 1 := by
  obtain ⟨tr, L, rfl, hwf, -, -⟩ := h
  rw [count_run (by simp) (by simp), count_run (by simp) (by simp)]
  exact wf_count_add hwf c

end MgProof.C13
