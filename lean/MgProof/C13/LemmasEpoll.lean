import MgProof.C13.Lemmas
/-!
# C13 — epoll back-end: ready-list collection, induction over a batch and the loop, the life-cycle
invariant through them
-/
namespace MgProof.C13
open MgModel.C13

theorem epCollect_sub (s : St) (l : List Src) (m : Nat) :
    ((epCollect s l m).1.map (·.1)).Sublist l ∧ (epCollect s l m).2.Sublist l := by
  fun_induction epCollect s l m with
  | case1 => simp
  | case2 => simp
  | case3 a rest m mk hm r ih => exact ⟨by simpa using ih.1.cons_cons a, ih.2.cons a⟩
  | case4 a rest m mk hm ih => exact ⟨ih.1.cons a, ih.2.cons a⟩

/-! ### a context that was tried is never registered again -/

theorem notin_stable (c : Nat) : Stable (Keeps fun s => s.tried c = true ∧ c ∉ s.epReg) where
  refl _ h := h
  trans a b h := b (a h)
  quiet := by rintro s t ⟨_, _, _, _, _, _, _, rfl⟩ h; exact h
  ready _ _ _ _ h := h
  closed _ _ _ h := h
  reject _ _ _ _ h := ⟨upd_true h.1 _, h.2⟩
  select _ _ _ _ _ h := ⟨upd_true h.1 _, h.2⟩
  poll _ _ _ _ _ h := ⟨upd_true h.1 _, h.2⟩
  epoll d s _ ht _ h := by
    have hdc : c ≠ d := fun hh => by rw [hh, ht] at h; exact absurd h.1 (by simp)
    exact ⟨upd_true h.1 d, fun hm => (List.mem_append.mp hm).elim h.2 (by simp [hdc])⟩

theorem epDel_inv {pend} {s : St} (c : Nat) (h : Inv pend s) : Inv pend (epDel c s) :=
  { h with
    eNodup := h.eNodup.erase c
    eMem := fun c' hc' => h.eMem c' (List.mem_of_mem_erase hc')
    aNodup := h.aNodup.erase _
    aMem := fun c' hc' => by
      have hne : c' ≠ c := fun hh => by subst hh; exact h.aNodup.not_mem_erase hc'
      exact (List.mem_erase_of_ne hne).mpr (h.aMem c' (List.mem_of_mem_erase hc'))
    eOnly := fun hb => by
      show s.epReg.erase c = []
      rw [h.eOnly hb]; rfl }

theorem epRead_eq (sc : Script) (c : Nat) (mk : Mask) (s : St) :
    epRead sc c mk s = touch sc c mk.inn (!mk.inn && (mk.err || mk.hup)) s := by
  unfold epRead touch
  cases mk.inn <;> rfl

theorem epFinish_inv (sc : Script) {s : St} (h : Inv none s) (hb : s.backend = .epoll) {c : Nat}
    (hc : c ∈ s.ctxList) : Inv none (epFinish sc c s) := by
  unfold epFinish
  split
  · have hd := epDel_inv c h
    have hcd : c ∈ (epDel c s).ctxList := hc
    have hn : (epDel c s).tried c = true ∧ c ∉ (epDel c s).epReg :=
      ⟨h.triedOk c (Or.inl (h.sound c hc).1), h.eNodup.not_mem_erase⟩
    have hbd : (epDel c s).backend = .epoll := hb
    generalize epDel c s = sd at hd hcd hn hbd
    have h3 := cbClose_inv sc hd hcd
    have hcl := cbClose_closed sc c sd
    have hn3 := ((notin_stable c).cbClose sc c sd hn).2
    have hb3 : (cbClose sc c sd).backend = .epoll := by rw [(cbClose_ext sc c sd).backend, hbd]
    generalize cbClose sc c sd = s3 at h3 hcl hn3 hb3
    simp only []
    have hp : s3.ptab = [] := h3.pOnly (by rw [hb3]; decide)
    exact h3.unregister hcl (by rw [hp]; simp) hn3
  · exact h

theorem epFinish_backend (sc : Script) (c : Nat) (s : St) : (epFinish sc c s).backend = s.backend := by
  unfold epFinish
  split
  · simp only []
    rw [(cbClose_ext sc c _).backend]; rfl
  · rfl

theorem epFinish_mem (sc : Script) (c : Nat) (s : St) {c' : Nat} (hne : c' ≠ c) (hc : c' ∈ s.ctxList) :
    c' ∈ (epFinish sc c s).ctxList := by
  unfold epFinish
  split
  · simp only []
    exact (List.mem_erase_of_ne hne).mpr ((cbClose_ext sc c _).mem_ctx (by exact hc))
  · exact hc

theorem epBatch_ind {P : List (Src × Mask) → St → Prop} (sc : Script)
    (hsig : ∀ mk r s, P ((.sig, mk) :: r) s → P r (if mk.inn then handleWake sc s else s))
    (hctx : ∀ c mk r s, P ((.ctx c, mk) :: r) s → P r (epVisit sc c mk s)) :
    ∀ (b : List (Src × Mask)) (s : St), P b s → P [] (epBatch sc b s) := by
  intro b s h
  fun_induction epBatch sc b s with
  | case1 s => exact h
  | case2 mk r s ih => exact ih (hsig mk r s h)
  | case3 c mk r s ih => exact ih (hctx c mk r s h)

structure BInv (b : List (Src × Mask)) (s : St) : Prop where
  inv : Inv none s
  backend : s.backend = .epoll
  nodup : (b.map (·.1)).Nodup
  mem : ∀ c mk, (Src.ctx c, mk) ∈ b → c ∈ s.ctxList

theorem BInv.head {c : Nat} {mk : Mask} {r : List (Src × Mask)} {s : St}
    (h : BInv ((.ctx c, mk) :: r) s) : c ∈ s.ctxList ∧ Src.ctx c ∉ r.map (·.1) :=
  ⟨h.mem c mk (by simp), (List.nodup_cons.mp h.nodup).1⟩

theorem BInv.sig {mk : Mask} {r : List (Src × Mask)} {s : St} (sc : Script)
    (h : BInv ((.sig, mk) :: r) s) : BInv r (if mk.inn then handleWake sc s else s) := by
  have hr : BInv r s := ⟨h.inv, h.backend, (List.nodup_cons.mp h.nodup).2,
    fun c mk' hm => h.mem c mk' (List.mem_cons_of_mem _ hm)⟩
  split
  · have x := handleWake_ext sc s
    exact ⟨handleWake_inv sc hr.inv, by rw [x.backend, hr.backend], hr.nodup,
      fun c mk' hm => x.mem_ctx (hr.mem c mk' hm)⟩
  · exact hr

theorem BInv.visit {c : Nat} {mk : Mask} {r : List (Src × Mask)} {s : St} (sc : Script)
    (h : BInv ((.ctx c, mk) :: r) s) : BInv r (epVisit sc c mk s) := by
  obtain ⟨hc, hnr⟩ := h.head
  unfold epVisit
  rw [epRead_eq]
  have x1 := touch_ext sc c mk.inn (!mk.inn && (mk.err || mk.hup)) s
  have hb1 := x1.backend.trans h.backend
  refine ⟨epFinish_inv sc (touch_inv sc h.inv hc _ _) hb1 (x1.mem_ctx hc),
    by rw [epFinish_backend]; exact hb1, (List.nodup_cons.mp h.nodup).2, fun c' mk' hm => ?_⟩
  have hne : c' ≠ c := fun hh => hnr (hh ▸ List.mem_map_of_mem (f := (·.1)) hm)
  exact epFinish_mem sc c _ hne (x1.mem_ctx (h.mem c' mk' (List.mem_cons_of_mem _ hm)))

theorem epBatch_inv (sc : Script) (b : List (Src × Mask)) {s : St} (h : BInv b s) :
    BInv [] (epBatch sc b s) :=
  epBatch_ind sc (fun _ _ _ h => h.sig sc) (fun _ _ _ _ h => h.visit sc) b s h

theorem epCollect_inv {s : St} (h : Inv none s) (hb : s.backend = .epoll) (m : Nat) :
    Inv none { s with armed := (epCollect s s.armed m).2 } ∧
    BInv (epCollect s s.armed m).1 (emit .disp { s with armed := (epCollect s s.armed m).2 }) := by
  obtain ⟨c1, c2⟩ := epCollect_sub s s.armed m
  have hq : Inv none { s with armed := (epCollect s s.armed m).2 } :=
    { h with aNodup := h.aNodup.sublist c2, aMem := fun c hc => h.aMem c (c2.subset hc) }
  refine ⟨hq, emit_disp_inv hq, hb, h.aNodup.sublist c1, fun c mk hm => ?_⟩
  exact h.eMem c (h.aMem c (c1.subset (List.mem_map_of_mem (f := (·.1)) hm)))

theorem epLoop_ind {P Q : St → Prop} (sc : Script)
    (hidle : ∀ s, P s → (epCollect s s.armed (s.hints + 1)).1 = [] →
      P (idle sc { s with armed := (epCollect s s.armed (s.hints + 1)).2 }))
    (hdisp : ∀ s, P s → P (epBatch sc (epCollect s s.armed (s.hints + 1)).1
      (emit .disp { s with armed := (epCollect s s.armed (s.hints + 1)).2 })))
    (hfuel : ∀ s, P s → Q (emit .fuel s)) (hexit : ∀ s, P s → s.toExit = 1 → Q s) :
    ∀ (f : Nat) (s : St), P s → Q (epLoop sc f s) := by
  intro f s h
  fun_induction epLoop sc f s with
  | case1 s => exact hfuel s h
  | case2 f s r s1 he ih => exact ih (hidle s h (by simpa using he))
  | case3 f s r s1 he s2 hx => exact hexit _ (hdisp s h) hx
  | case4 f s r s1 he s2 hx ih => exact ih (hdisp s h)

def EpInv (s : St) : Prop := Inv none s ∧ s.backend = .epoll

theorem epLoop_disp_inv (sc : Script) {s : St} (h : EpInv s) :
    EpInv (epBatch sc (epCollect s s.armed (s.hints + 1)).1
      (emit .disp { s with armed := (epCollect s s.armed (s.hints + 1)).2 })) :=
  have b := epBatch_inv sc _ (epCollect_inv h.1 h.2 (s.hints + 1)).2
  ⟨b.inv, b.backend⟩

theorem epLoop_idle_inv (sc : Script) {s : St} (h : EpInv s) :
    EpInv (idle sc { s with armed := (epCollect s s.armed (s.hints + 1)).2 }) :=
  ⟨idle_inv sc (epCollect_inv h.1 h.2 _).1, by rw [idle_backend]; exact h.2⟩

theorem epLoop_inv (sc : Script) (f : Nat) {s : St} (h : EpInv s) : Inv none (epLoop sc f s) :=
  epLoop_ind sc (fun _ h _ => epLoop_idle_inv sc h) (fun _ h => epLoop_disp_inv sc h)
    (fun _ h => emit_fuel_inv h.1) (fun _ h _ => h.1) f s h

theorem epStart_spec (s : St) : ∃ l, epStart s = { s with epSig := true, armed := s.armed ++ l } := by
  unfold epStart
  simp only []
  split
  · exact armSig_spec _
  · exact ⟨[], by simp⟩

theorem epStart_inv {s : St} (h : EpInv s) : EpInv (epStart s) := by
  unfold epStart
  simp only []
  have h0 : Inv none { s with epSig := true } := { h.1 with }
  split
  · exact ⟨inv_stable.armSig _ h0, by rw [(ext_stable.armSig _).backend]; exact h.2⟩
  · exact ⟨h0, h.2⟩

end MgProof.C13
