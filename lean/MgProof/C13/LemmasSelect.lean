import MgProof.C13.Lemmas
/-!
# C13 — select back-end: induction over the list scan, a dispatch and the loop, the life-cycle
invariant through them
-/
namespace MgProof.C13
open MgModel.C13

theorem eraseIdx_eq_erase_of_nodup {l : List Nat} (hn : l.Nodup) {i c : Nat} (hi : l[i]? = some c) :
    l.eraseIdx i = l.erase c := by
  induction l generalizing i with
  | nil => simp at hi
  | cons a l ih =>
    cases i with
    | zero =>
      simp at hi; subst hi; simp
    | succ i =>
      simp at hi
      have hmem : c ∈ l := List.mem_of_getElem? hi
      have hne : a ≠ c := by
        intro h; subst h
        exact (List.nodup_cons.mp hn).1 hmem
      rw [List.eraseIdx_cons_succ, List.erase_cons_tail (by simpa using hne)]
      rw [ih (List.nodup_cons.mp hn).2 hi]

theorem selSetFd_inv {pend} {s : St} (c : Nat) (h : Inv pend s) : Inv pend (selSetFd c s) :=
  { h with }

theorem selSetFd_ext (c : Nat) (s : St) : Ext s (selSetFd c s) := Ext.of_eq rfl rfl rfl rfl

theorem selRead_eq (sc : Script) (c : Nat) (s : St) :
    selRead sc c s = touch sc c (s.rset.contains c) false s := rfl

theorem selClose_inv (sc : Script) {s : St} (h : Inv none s) (hb : s.backend = .select) {i c : Nat}
    (hi : s.ctxList[i]? = some c) : Inv none (selClose sc i c s) := by
  have hc : c ∈ s.ctxList := List.mem_of_getElem? hi
  unfold selClose
  have h3 := cbClose_inv sc h hc
  have x3 := cbClose_ext sc c s
  have hi3 := x3.ctx_get hi
  have hcl := cbClose_closed sc c s
  have hb3 : (cbClose sc c s).backend = .select := by rw [x3.backend, hb]
  generalize cbClose sc c s = s3 at h3 x3 hi3 hcl hb3
  simp only []
  have hp : s3.ptab = [] := h3.pOnly (by rw [hb3]; decide)
  have he : s3.epReg = [] := h3.eOnly (by rw [hb3]; decide)
  rw [eraseIdx_eq_erase_of_nodup h3.nodupL hi3]
  exact { h3.unregister hcl (by rw [hp]; simp) (by rw [he]; simp) with }

theorem selClose_backend (sc : Script) (i c : Nat) (s : St) :
    (selClose sc i c s).backend = s.backend := by
  unfold selClose
  exact (cbClose_ext sc c s).backend

theorem selScan_ind {P : Nat → Nat → St → Prop} {Q : St → Prop} (sc : Script)
    (hclose : ∀ (f i c : Nat) s, P (f + 1) i s → s.ctxList[i]? = some c →
      (selRead sc c s).flag c = true → P f i (selClose sc i c (selRead sc c s)))
    (hkeep : ∀ (f i c : Nat) s, P (f + 1) i s → s.ctxList[i]? = some c →
      (selRead sc c s).flag c = false → P f (i + 1) (selSetFd c (selRead sc c s)))
    (hend : ∀ (f i : Nat) s, P (f + 1) i s → s.ctxList[i]? = none → Q s)
    (hoob : ∀ (i : Nat) s, P 0 i s → Q { s with oob := true }) :
    ∀ (f i : Nat) (s : St), P f i s → Q (selScan sc f i s) := by
  intro f i s h
  fun_induction selScan sc f i s with
  | case1 i s => exact hoob i s h
  | case2 f i s hi => exact hend f i s h hi
  | case3 f i s c hi s1 hf ih => exact ih (hclose f i c s h hi hf)
  | case4 f i s c hi s1 hf ih => exact ih (hkeep f i c s h hi (by simpa using hf))

theorem selDispatch_ind {P P1 Q : St → Prop} (sc : Script) {s : St}
    (hclear : ∀ s, P s → P1 { s with nfds := 0, allset := [], allsig := false })
    (hwake : ∀ s, P1 s → P1 (handleWake sc s))
    (hscan : ∀ s, P1 s →
      Q (selScan sc (s.ctxList.length + s.nds + 1) 0 { s with allsig := true, nfds := 0 }))
    (h : P s) : Q (selDispatch sc s) := by
  unfold selDispatch
  simp only []
  have h1 : P1 (if s.rsig then handleWake sc { s with nfds := 0, allset := [], allsig := false }
      else { s with nfds := 0, allset := [], allsig := false }) := by
    split
    · exact hwake _ (hclear s h)
    · exact hclear s h
  exact hscan _ h1

theorem selLoop_ind {P Q : St → Prop} (sc : Script)
    (hidle : ∀ s, P s → selCount (selQuery s) = 0 → P (idle sc (selQuery s)))
    (hdisp : ∀ s, P s → P (selDispatch sc (emit .disp (selQuery s))))
    (hbad : ∀ s, P s → selBad s = true → Q (act .exit (emit .waitErr s)))
    (hfuel : ∀ s, P s → Q (emit .fuel s)) (hexit : ∀ s, P s → s.toExit = 1 → Q s) :
    ∀ (f : Nat) (s : St), P s → Q (selLoop sc f s) := by
  intro f s h
  fun_induction selLoop sc f s with
  | case1 s => exact hfuel s h
  | case2 f s hb => exact hbad s h hb
  | case3 f s hb s1 hz ih => exact ih (hidle s h hz)
  | case4 f s hb s1 hz s2 hx => exact hexit _ (hdisp s h) hx
  | case5 f s hb s1 hz s2 hx ih => exact ih (hdisp s h)

/-- the unregistration of a closed node needs the back-end beside the life-cycle invariant -/
def SelInv (s : St) : Prop := Inv none s ∧ s.backend = .select

theorem selScan_close_inv (sc : Script) {s : St} (h : SelInv s) {i c : Nat}
    (hi : s.ctxList[i]? = some c) : SelInv (selClose sc i c (selRead sc c s)) := by
  rw [selRead_eq]
  have x1 := touch_ext sc c (s.rset.contains c) false s
  have hb1 := x1.backend.trans h.2
  exact ⟨selClose_inv sc (touch_inv sc h.1 (List.mem_of_getElem? hi) _ _) hb1 (x1.ctx_get hi),
    by rw [selClose_backend, hb1]⟩

theorem selScan_keep_inv (sc : Script) {s : St} (h : SelInv s) {c : Nat} (hc : c ∈ s.ctxList) :
    SelInv (selSetFd c (selRead sc c s)) := by
  rw [selRead_eq]
  exact ⟨selSetFd_inv c (touch_inv sc h.1 hc _ _), (touch_ext sc c _ _ s).backend.trans h.2⟩

theorem handleWake_selInv (sc : Script) {s : St} (h : SelInv s) : SelInv (handleWake sc s) :=
  ⟨handleWake_inv sc h.1, by rw [(handleWake_ext sc s).backend]; exact h.2⟩

theorem selScan_inv (sc : Script) (f i : Nat) {s : St} (h : SelInv s) : SelInv (selScan sc f i s) :=
  selScan_ind (P := fun _ _ => SelInv) sc (fun _ _ _ _ h hi _ => selScan_close_inv sc h hi)
    (fun _ _ _ _ h hi _ => selScan_keep_inv sc h (List.mem_of_getElem? hi))
    (fun _ _ _ h _ => h) (fun _ _ h => ⟨{ h.1 with }, h.2⟩) f i s h

theorem selDispatch_inv (sc : Script) {s : St} (h : SelInv s) : SelInv (selDispatch sc s) :=
  selDispatch_ind (P1 := SelInv) sc (fun _ h => ⟨{ h.1 with }, h.2⟩) (fun _ h => handleWake_selInv sc h)
    (fun _ h => selScan_inv sc _ 0 ⟨{ h.1 with }, h.2⟩) h

theorem selQuery_inv {s : St} (h : SelInv s) : SelInv (selQuery s) :=
  ⟨{ h.1 with }, h.2⟩

theorem selLoop_idle_inv (sc : Script) {s : St} (h : SelInv s) : SelInv (idle sc (selQuery s)) :=
  ⟨idle_inv sc (selQuery_inv h).1, by rw [idle_backend]; exact h.2⟩

theorem selLoop_disp_inv (sc : Script) {s : St} (h : SelInv s) :
    SelInv (selDispatch sc (emit .disp (selQuery s))) :=
  selDispatch_inv sc ⟨emit_disp_inv (selQuery_inv h).1, h.2⟩

theorem selLoop_inv (sc : Script) (f : Nat) {s : St} (h : SelInv s) : Inv none (selLoop sc f s) :=
  selLoop_ind sc (fun _ h _ => selLoop_idle_inv sc h) (fun _ h => selLoop_disp_inv sc h)
    (fun _ h _ => act_inv _ (inv_emit_silent h.1 rfl trivial))
    (fun _ h => emit_fuel_inv h.1) (fun _ h _ => h.1) f s h

end MgProof.C13
