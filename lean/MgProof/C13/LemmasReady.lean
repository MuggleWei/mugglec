import MgProof.C13.LemmasPoll
import MgProof.C13.LemmasSelect
/-!
# C13 — clause 2 for the level-triggered back-ends: the loop never goes to sleep while a
registered context is readable

`idle` records in the `sleep` event whether some context of `ctx_list` is readable at the
moment the wait call would block. For poll this cannot happen because the `fds/nodes`
table always covers `ctx_list` (`PInv`); for select because `allset/nfds` are rebuilt to
cover it at the end of every dispatch (`SelC`, the rebuild lemma).
-/
namespace MgProof.C13
open MgModel.C13

def NoLost (tr : List Ev) : Prop := Ev.sleep true ∉ tr

theorem noLost_cons {tr : List Ev} {e : Ev} (h : NoLost tr) (he : e ≠ Ev.sleep true) : NoLost (e :: tr) :=
  fun hh => h (mem_cons_ne hh (Ne.symm he))

structure PInv (s : St) : Prop where
  backend : s.backend = .poll
  fdNode : ∀ e ∈ s.ptab, e.fd = e.node
  cover : ∀ c ∈ s.ctxList, ∃ e ∈ s.ptab, e.node = c
  noLost : NoLost s.trace

theorem emit_pinv {s : St} {e : Ev} (he : e ≠ Ev.sleep true) (h : PInv s) : PInv (emit e s) :=
  ⟨h.backend, h.fdNode, h.cover, noLost_cons h.noLost he⟩

theorem pinv_stable : Stable (Keeps PInv) where
  refl _ h := h
  trans a b h := b (a h)
  quiet := by rintro s t ⟨_, _, _, _, _, _, _, rfl⟩ h; exact { h with }
  ready _ _ _ _ h := { h with }
  closed _ _ _ h := { h with }
  reject _ _ _ _ h := emit_pinv (by simp) ({ h with })
  select _ _ hb _ _ h := by rw [h.backend] at hb; cases hb
  epoll _ _ hb _ _ h := by rw [h.backend] at hb; cases hb
  poll c s _ _ _ h := by
    refine emit_pinv (by simp) ⟨h.backend, fun e he => ?_, fun c' hc' => ?_, h.noLost⟩
    · rcases List.mem_append.mp he with he | he
      · exact h.fdNode e he
      · rw [List.mem_singleton.mp he]
    · rcases List.mem_append.mp hc' with hc' | hc'
      · obtain ⟨e, he, hen⟩ := h.cover c' hc'
        exact ⟨e, List.mem_append_left _ he, hen⟩
      · exact ⟨_, List.mem_append_right _ (List.mem_singleton_self _), (List.mem_singleton.mp hc').symm⟩

theorem runActs_pinv (as : List Act) {s : St} (h : PInv s) : PInv (runActs as s) :=
  pinv_stable.runActs as s h

theorem cbClose_pinv (sc : Script) (c : Nat) {s : St} (h : PInv s) : PInv (cbClose sc c s) :=
  pinv_stable.cbClose sc c s (emit_pinv (by simp) h)

theorem handleWake_pinv (sc : Script) {s : St} (h : PInv s) : PInv (handleWake sc s) :=
  pinv_stable.handleWake sc s (fun _ _ => emit_pinv (by simp)) h

theorem idle_pinv (sc : Script) {s : St} (h : PInv s)
    (hq : (s.ctxList.any fun c => (s.ds c).readable) = false) : PInv (idle sc s) :=
  pinv_stable.idle sc s (fun _ _ => by rw [hq]; exact emit_pinv (by simp)) h

theorem pollQuery_pinv {s : St} (h : PInv s) : PInv (pollQuery s) := by
  refine ⟨h.backend, fun e he => ?_, fun c hc => ?_, h.noLost⟩
  · obtain ⟨e0, he0, rfl⟩ := List.mem_map.mp he
    exact h.fdNode e0 he0
  · obtain ⟨e, he, hen⟩ := h.cover c hc
    exact ⟨{ e with rev := (s.ds e.fd).mask }, List.mem_map_of_mem he, hen⟩

theorem touch_pinv (sc : Script) (c : Nat) (rd fl : Bool) {s : St} (h : PInv s) :
    PInv (touch sc c rd fl s) :=
  pinv_stable.touch sc c rd fl s (fun _ _ _ _ => emit_pinv (by simp)) h

theorem pollVisit_pinv (sc : Script) {s : St} (h : PInv s) (hi : Inv none s) {i : Nat} {e : PEnt}
    (he : s.ptab[i]? = some e) : PInv (pollVisit sc i e s) := by
  rw [pollVisit_eq]
  have hc : e.node ∈ s.ctxList := hi.pMem e (List.mem_of_getElem? he)
  have h1 := touch_pinv sc e.node e.rev.inn (e.rev.hup || e.rev.err) h
  have i1 := touch_inv sc hi hc e.rev.inn (e.rev.hup || e.rev.err)
  have x1 := touch_ext sc e.node e.rev.inn (e.rev.hup || e.rev.err) s
  have he1 := x1.ptab_get he
  have hc1 := x1.mem_ctx hc
  generalize touch sc e.node e.rev.inn (e.rev.hup || e.rev.err) s = s1 at h1 i1 he1 hc1
  unfold pollFinish
  split
  · have h3 := cbClose_pinv sc e.node h1
    have i3 := cbClose_inv sc i1 hc1
    have he3 := (cbClose_ext sc e.node s1).ptab_get he1
    generalize cbClose sc e.node s1 = s3 at h3 i3 he3
    obtain ⟨f1, f2, f3⟩ := swapRemove_facts (·.node) s3.ptab i e he3 i3.pNodup
    refine ⟨h3.backend, fun x hx => h3.fdNode x (f2 x hx).1, fun c hc => ?_, h3.noLost⟩
    have hne : c ≠ e.node := fun hh => by subst hh; exact i3.nodupL.not_mem_erase hc
    obtain ⟨x, hx, hxn⟩ := h3.cover c (List.mem_of_mem_erase hc)
    exact ⟨x, f3 x hx (by rw [hxn]; exact hne), hxn⟩
  · exact h1

def PollInv (s : St) : Prop := PInv s ∧ Inv none s

theorem pollScan_pinv (sc : Script) (i : Nat) (n : Int) {s : St} (h : PollInv s) :
    PollInv (pollScan sc i n s) :=
  pollScan_ind sc (fun _ _ _ h he => ⟨pollVisit_pinv sc h.1 h.2 he, pollVisit_inv sc h.2 he⟩)
    (fun _ h => ⟨handleWake_pinv sc h.1, handleWake_inv sc h.2⟩)
    (fun _ h => ⟨{ h.1 with }, { h.2 with }⟩) i n s h

theorem poll_block_none_readable {s : St} (h : PInv s) (hz : pollCount (pollQuery s) = 0) :
    (s.ctxList.any fun c => (s.ds c).readable) = false := by
  rw [List.any_eq_false]
  intro c hc
  obtain ⟨e, he, hen⟩ := h.cover c hc
  have hfd := h.fdNode e he
  unfold pollCount pollQuery at hz
  simp only [] at hz
  have hz1 : (List.filter (fun e => e.rev.any)
      (s.ptab.map fun e => { e with rev := (s.ds e.fd).mask })).length = 0 := by omega
  have hnil := List.length_eq_zero_iff.mp hz1
  have hmem : ({ e with rev := (s.ds e.fd).mask } : PEnt) ∈
      s.ptab.map (fun e => { e with rev := (s.ds e.fd).mask }) := List.mem_map_of_mem he
  have := (List.filter_eq_nil_iff.mp hnil) _ hmem
  simp only [] at this
  rw [hfd, hen] at this
  simpa [Desc.readable] using this

theorem pollLoop_idle_pinv (sc : Script) {s : St} (h : PollInv s) (hz : pollCount (pollQuery s) = 0) :
    PollInv (idle sc (pollQuery s)) :=
  ⟨idle_pinv sc (pollQuery_pinv h.1) (poll_block_none_readable (s := s) h.1 hz), idle_inv sc (pollQuery_inv h.2)⟩

theorem pollLoop_disp_pinv (sc : Script) {s : St} (h : PollInv s) :
    PollInv (pollScan sc (pollQuery s).ptab.length (pollCount (pollQuery s)) (emit .disp (pollQuery s))) :=
  pollScan_pinv sc _ _ ⟨emit_pinv (by simp) (pollQuery_pinv h.1), emit_disp_inv (pollQuery_inv h.2)⟩

theorem pollLoop_pinv (sc : Script) (f : Nat) {s : St} (h : PollInv s) : PollInv (pollLoop sc f s) :=
  pollLoop_ind sc (fun _ h hz => pollLoop_idle_pinv sc h hz) (fun _ h => pollLoop_disp_pinv sc h)
    (fun _ h => ⟨emit_pinv (by simp) h.1, emit_fuel_inv h.2⟩) (fun _ h _ => h) f s h

structure SMono (s t : St) : Prop where
  allset : ∀ c ∈ s.allset, c ∈ t.allset
  nfds : s.nfds ≤ t.nfds
  allsig : t.allsig = s.allsig
  nds : t.nds = s.nds
  nosleep : Ev.sleep true ∈ t.trace → Ev.sleep true ∈ s.trace

theorem SMono.refl (s : St) : SMono s s := ⟨fun _ h => h, Nat.le_refl _, rfl, rfl, fun h => h⟩

theorem SMono.trans {s t u : St} (a : SMono s t) (b : SMono t u) : SMono s u :=
  ⟨fun c h => b.allset c (a.allset c h), Nat.le_trans a.nfds b.nfds, by rw [b.allsig, a.allsig],
   by rw [b.nds, a.nds], fun h => a.nosleep (b.nosleep h)⟩

theorem SMono.of_eq {s t : St} (h1 : t.allset = s.allset) (h2 : t.nfds = s.nfds)
    (h3 : t.allsig = s.allsig) (h4 : t.nds = s.nds) (h5 : t.trace = s.trace) : SMono s t :=
  ⟨fun c h => by rw [h1]; exact h, by rw [h2]; exact Nat.le_refl _, h3, h4, fun h => by rw [← h5]; exact h⟩

theorem SMono.of_emit {s t : St} {e : Ev} (he : e ≠ Ev.sleep true) (h1 : t.allset = s.allset)
    (h2 : t.nfds = s.nfds) (h3 : t.allsig = s.allsig) (h4 : t.nds = s.nds)
    (h5 : t.trace = e :: s.trace) : SMono s t :=
  ⟨fun c h => by rw [h1]; exact h, by rw [h2]; exact Nat.le_refl _, h3, h4,
   fun h => mem_cons_ne (h5 ▸ h) (Ne.symm he)⟩

theorem emit_smono {e : Ev} (he : e ≠ Ev.sleep true) (s : St) : SMono s (emit e s) :=
  .of_emit he rfl rfl rfl rfl rfl

theorem selSetFd_smono (c : Nat) (s : St) : SMono s (selSetFd c s) := by
  unfold selSetFd
  refine ⟨?_, ?_, rfl, rfl, fun h => h⟩
  · intro c' hc'
    show c' ∈ (if s.allset.contains c then s.allset else c :: s.allset)
    split
    · exact hc'
    · exact List.mem_cons_of_mem _ hc'
  · show s.nfds ≤ (if fdOf c > s.nfds then fdOf c else s.nfds)
    split <;> omega

theorem selSetFd_mem (c : Nat) (s : St) :
    c ∈ (selSetFd c s).allset ∧ fdOf c ≤ (selSetFd c s).nfds := by
  unfold selSetFd
  constructor
  · show c ∈ (if s.allset.contains c then s.allset else c :: s.allset)
    split
    · rename_i h; simpa using h
    · simp
  · show fdOf c ≤ (if fdOf c > s.nfds then fdOf c else s.nfds)
    split <;> omega

theorem smono_stable : Stable SMono where
  refl := SMono.refl
  trans := SMono.trans
  quiet := by rintro s t ⟨_, _, _, _, _, _, _, rfl⟩; exact SMono.of_eq rfl rfl rfl rfl rfl
  ready _ _ _ _ := SMono.of_eq rfl rfl rfl rfl rfl
  closed _ _ _ := SMono.of_eq rfl rfl rfl rfl rfl
  reject c _ _ _ := .of_emit (e := .addRej c) (by simp) rfl rfl rfl rfl rfl
  poll c _ _ _ _ := .of_emit (e := .addOk c) (by simp) rfl rfl rfl rfl rfl
  epoll c _ _ _ _ := .of_emit (e := .addOk c) (by simp) rfl rfl rfl rfl rfl
  select c s _ _ _ :=
    have m := selSetFd_smono c { s with tried := upd s.tried c true, ctxList := s.ctxList ++ [c] }
    -- `m` starts from the state with `tried`, `ctxList` updated, which `SMono` does not read: re-packed for `s`
    SMono.trans ⟨m.allset, m.nfds, m.allsig, m.nds, m.nosleep⟩ (emit_smono (e := .addOk c) (by simp) _)

theorem cbRead_smono (sc : Script) (c : Nat) (s : St) : SMono s (cbRead sc c s) :=
  smono_stable.cbRead sc c s fun _ _ _ _ => emit_smono (by simp) _

theorem cbClose_smono (sc : Script) (c : Nat) (s : St) : SMono s (cbClose sc c s) :=
  (emit_smono (by simp) s).trans (smono_stable.cbClose sc c s)

/-! ### the scan of `ctx_list` terminates within its fuel -/

def untried (s : St) : Nat := (List.range s.nds).countP (fun d => !s.tried d)

/-- contexts in the list + contexts that can still be added: never increased by callbacks -/
def scanM (s : St) : Nat := s.ctxList.length + untried s

-- for the model's own `upd`; `IsSum.upd` of `MgProof/Conc.lean` is the same fact for the interleaving models'
theorem countP_upd {l : List Nat} (hn : l.Nodup) {c : Nat} (hc : c ∈ l) (f : Nat → Bool)
    (hf : f c = false) :
    l.countP (fun d => !(upd f c true d)) + 1 = l.countP (fun d => !f d) := by
  induction l with
  | nil => simp at hc
  | cons a l ih =>
    obtain ⟨h1, h2⟩ := List.nodup_cons.mp hn
    rw [List.countP_cons, List.countP_cons]
    by_cases hac : a = c
    · subst hac
      have hrest : l.countP (fun d => !(upd f a true d)) = l.countP (fun d => !f d) := by
        apply List.countP_congr
        intro d hd
        have : d ≠ a := fun hh => h1 (hh ▸ hd)
        rw [upd_other _ _ _ this]
      rw [hrest]
      simp [upd_same, hf]
    · have hc' : c ∈ l := by
        simp at hc
        rcases hc with hc | hc
        · exact absurd hc.symm hac
        · exact hc
      have := ih h2 hc'
      rw [upd_other _ _ _ hac]
      omega

structure MLe (s t : St) : Prop where
  le : scanM t ≤ scanM s
  nds : t.nds = s.nds

theorem MLe.refl (s : St) : MLe s s := ⟨Nat.le_refl _, rfl⟩
theorem MLe.trans {s t u : St} (a : MLe s t) (b : MLe t u) : MLe s u :=
  ⟨Nat.le_trans b.le a.le, by rw [b.nds, a.nds]⟩
theorem MLe.of_eq {s t : St} (h1 : t.ctxList = s.ctxList) (h2 : t.tried = s.tried) (h3 : t.nds = s.nds) :
    MLe s t := ⟨by unfold scanM untried; rw [h1, h2, h3]; exact Nat.le_refl _, h3⟩

theorem MLe.of_add {s t : St} {c : Nat} (ht : s.tried c = false) (hc : c < s.nds)
    (h1 : t.ctxList.length ≤ s.ctxList.length + 1) (h2 : t.tried = upd s.tried c true)
    (h3 : t.nds = s.nds) : MLe s t := by
  have := countP_upd (l := List.range s.nds) List.nodup_range (by simpa using hc) s.tried ht
  refine ⟨?_, h3⟩
  unfold scanM untried
  rw [h2, h3]
  omega

theorem mle_stable : Stable MLe where
  refl := MLe.refl
  trans := MLe.trans
  quiet := by rintro s t ⟨_, _, _, _, _, _, _, rfl⟩; exact MLe.of_eq rfl rfl rfl
  ready _ _ _ _ := MLe.of_eq rfl rfl rfl
  closed _ _ _ := MLe.of_eq rfl rfl rfl
  reject _ _ ht hc := MLe.of_add ht hc (Nat.le_succ _) rfl rfl
  select _ s _ ht hc := MLe.of_add ht hc (by show (s.ctxList ++ _).length ≤ _; simp) rfl rfl
  poll _ s _ ht hc := MLe.of_add ht hc (by show (s.ctxList ++ _).length ≤ _; simp) rfl rfl
  epoll _ s _ ht hc := MLe.of_add ht hc (by show (s.ctxList ++ _).length ≤ _; simp) rfl rfl

theorem cbClose_mle (sc : Script) (c : Nat) (s : St) : MLe s (cbClose sc c s) :=
  MLe.trans (t := emit (.close c) s) (MLe.of_eq rfl rfl rfl) (mle_stable.cbClose sc c s)

theorem handleWake_mle (sc : Script) (s : St) : MLe s (handleWake sc s) :=
  mle_stable.handleWake sc s fun _ _ => MLe.of_eq rfl rfl rfl

theorem untried_le (s : St) : untried s ≤ s.nds := by
  unfold untried
  have := List.countP_le_length (p := fun d => !s.tried d) (l := List.range s.nds)
  simpa using this

/-! ### select: every context appended by a callback is put into `allset` -/

def Covered (s : St) (c : Nat) : Prop := c ∈ s.allset ∧ fdOf c ≤ s.nfds

structure SRel (s t : St) : Prop where
  mono : SMono s t
  backend : t.backend = s.backend
  newcov : s.backend = .select → ∀ c ∈ t.ctxList, c ∈ s.ctxList ∨ Covered t c

theorem Covered.mono {s t : St} (m : SMono s t) {c : Nat} (h : Covered s c) : Covered t c :=
  ⟨m.allset c h.1, Nat.le_trans h.2 m.nfds⟩

theorem SRel.refl (s : St) : SRel s s := ⟨SMono.refl s, rfl, fun _ _ h => Or.inl h⟩

theorem SRel.trans {s t u : St} (a : SRel s t) (b : SRel t u) : SRel s u := by
  refine ⟨a.mono.trans b.mono, by rw [b.backend, a.backend], ?_⟩
  intro hb c hc
  rcases b.newcov (by rw [a.backend]; exact hb) c hc with h | h
  · rcases a.newcov hb c h with h' | h'
    · exact Or.inl h'
    · exact Or.inr (h'.mono b.mono)
  · exact Or.inr h

theorem SRel.of_mono {s t : St} (m : SMono s t) (h0 : t.backend = s.backend)
    (hc : t.ctxList = s.ctxList) : SRel s t :=
  ⟨m, h0, fun _ _ h => Or.inl (by rw [← hc]; exact h)⟩

theorem SRel.of_eq {s t : St} (h0 : t.backend = s.backend) (hc : t.ctxList = s.ctxList)
    (h1 : t.allset = s.allset) (h2 : t.nfds = s.nfds)
    (h3 : t.allsig = s.allsig) (h4 : t.nds = s.nds) (h5 : t.trace = s.trace) : SRel s t :=
  .of_mono (SMono.of_eq h1 h2 h3 h4 h5) h0 hc

theorem emit_srel {e : Ev} (he : e ≠ Ev.sleep true) (s : St) : SRel s (emit e s) :=
  .of_mono (emit_smono he s) rfl rfl

theorem SRel.of_other {s t : St} (m : SMono s t) (h0 : t.backend = s.backend)
    (hb : s.backend ≠ .select) : SRel s t :=
  ⟨m, h0, fun h => absurd h hb⟩

theorem srel_stable : Stable SRel where
  refl := SRel.refl
  trans := SRel.trans
  quiet := by rintro s t ⟨_, _, _, _, _, _, _, rfl⟩; exact SRel.of_eq rfl rfl rfl rfl rfl rfl rfl
  ready _ _ _ _ := SRel.of_eq rfl rfl rfl rfl rfl rfl rfl
  closed _ _ _ := SRel.of_eq rfl rfl rfl rfl rfl rfl rfl
  reject c s ht hc := .of_mono (smono_stable.reject c s ht hc) rfl rfl
  select c s hb ht hc := ⟨smono_stable.select c s hb ht hc, rfl, fun _ c' hc' => by
    rcases List.mem_append.mp hc' with h | h
    · exact Or.inl h
    · rw [List.mem_singleton.mp h]; exact Or.inr (selSetFd_mem c _)⟩
  poll c s hb ht hc := .of_other (smono_stable.poll c s hb ht hc) rfl (by rw [hb]; decide)
  epoll c s hb ht hc := .of_other (smono_stable.epoll c s hb ht hc) rfl (by rw [hb]; decide)

theorem act_srel (a : Act) (s : St) : SRel s (act a s) := srel_stable.act a s

theorem runActs_srel (as : List Act) (s : St) : SRel s (runActs as s) := srel_stable.runActs as s

theorem handleWake_srel (sc : Script) (s : St) : SRel s (handleWake sc s) :=
  srel_stable.handleWake sc s fun _ _ => emit_srel (by simp) _

/-- what must hold whenever `select` is called -/
structure SelC (s : St) : Prop where
  backend : s.backend = .select
  allsig : s.allsig = true
  cover : ∀ c ∈ s.ctxList, Covered s c
  noLost : NoLost s.trace

theorem SelC.step {s t : St} (h : SelC s) (r : SRel s t) : SelC t := by
  refine ⟨by rw [r.backend, h.backend], by rw [r.mono.allsig, h.allsig], ?_, fun hh => h.noLost (r.mono.nosleep hh)⟩
  intro c hc
  rcases r.newcov h.backend c hc with h' | h'
  · exact (h.cover c h').mono r.mono
  · exact h'

structure SelPart (i : Nat) (s : St) : Prop where
  backend : s.backend = .select
  allsig : s.allsig = true
  cover : ∀ j c, j < i → s.ctxList[j]? = some c → Covered s c
  noLost : NoLost s.trace

/-- what a callback appends stands behind every position of the scan: the part already scanned
needs only that `allset/nfds` grow -/
theorem SelPart.step {i : Nat} {s t : St} (h : SelPart i s) (hi : i ≤ s.ctxList.length)
    (m : SMono s t) (x : Ext s t) : SelPart i t := by
  refine ⟨by rw [x.backend, h.backend], by rw [m.allsig, h.allsig], ?_, fun hh => h.noLost (m.nosleep hh)⟩
  intro j c hj hc
  obtain ⟨l, hl⟩ := x.ctx
  rw [hl, List.getElem?_append_left (by omega)] at hc
  exact (h.cover j c hj hc).mono m

theorem Ext.len_le {s t : St} (x : Ext s t) : s.ctxList.length ≤ t.ctxList.length := by
  obtain ⟨l, hl⟩ := x.ctx
  rw [hl]; simp

/-- the fuel outlasts the nodes still to visit plus the contexts a callback can still add -/
structure ScanC (f i : Nat) (s : St) : Prop where
  part : SelPart i s
  inv : Inv none s
  le : i ≤ s.ctxList.length
  fuel : (s.ctxList.length - i) + untried s < f

theorem ScanC.read {f i c : Nat} {s : St} (sc : Script) (h : ScanC f i s) (hic : s.ctxList[i]? = some c) :
    ScanC f i (selRead sc c s) ∧ (selRead sc c s).ctxList[i]? = some c := by
  rw [selRead_eq]
  have r1 := smono_stable.touch sc c (s.rset.contains c) false s fun _ _ _ _ => emit_smono (by simp) _
  have m1 := (mle_stable.touch sc c (s.rset.contains c) false s fun _ _ _ _ => MLe.of_eq rfl rfl rfl).le
  have x1 := touch_ext sc c (s.rset.contains c) false s
  have hlen := x1.len_le
  unfold scanM at m1
  exact ⟨⟨h.part.step h.le r1 x1, touch_inv sc h.inv (List.mem_of_getElem? hic) _ _,
    Nat.le_trans h.le hlen, by have := h.fuel; have := h.le; omega⟩, x1.ctx_get hic⟩

theorem ScanC.close {f i c : Nat} {s : St} (sc : Script) (h : ScanC (f + 1) i s)
    (hic : s.ctxList[i]? = some c) : ScanC f i (selClose sc i c s) := by
  have hilt : i < s.ctxList.length := (List.getElem?_eq_some_iff.mp hic).1
  have r3 := cbClose_smono sc c s
  have m3 := (cbClose_mle sc c s).le
  have x3 := cbClose_ext sc c s
  have p3 := h.part.step h.le r3 x3
  have hic3 := x3.ctx_get hic
  have hlen3 := x3.len_le
  have i2 := selClose_inv sc h.inv h.part.backend hic
  have i3 := cbClose_inv sc h.inv (List.mem_of_getElem? hic)
  have hf := h.fuel
  unfold selClose at i2 ⊢
  generalize cbClose sc c s = s3 at r3 m3 x3 p3 hic3 hlen3 i2 i3
  unfold scanM at m3
  simp only [] at i2 ⊢
  have hlen2 : (s3.ctxList.eraseIdx i).length = s3.ctxList.length - 1 := by
    rw [List.length_eraseIdx]; simp; omega
  refine ⟨⟨p3.backend, p3.allsig, fun j c' hj hc' => ?_, p3.noLost⟩, i2, ?_, ?_⟩
  · have hc'' : (s3.ctxList.eraseIdx i)[j]? = some c' := hc'
    rw [List.getElem?_eraseIdx_of_lt hj] at hc''
    obtain ⟨q1, q2⟩ := p3.cover j c' hj hc''
    refine ⟨?_, q2⟩
    show c' ∈ (if s3.legacySel then s3.allset else s3.allset.erase c)
    split
    · exact q1
    · -- the closed context is at position i, c' at position j < i: different contexts
      have hne : c' ≠ c := by
        intro hh; subst hh
        have hm : c' ∈ s3.ctxList.eraseIdx i := List.mem_of_getElem? hc'
        rw [eraseIdx_eq_erase_of_nodup i3.nodupL hic3] at hm
        exact i3.nodupL.not_mem_erase hm
      exact (List.mem_erase_of_ne hne).mpr q1
  · show i ≤ (s3.ctxList.eraseIdx i).length
    rw [hlen2]; omega
  · show (s3.ctxList.eraseIdx i).length - i + untried s3 < f
    rw [hlen2]; omega

theorem ScanC.keep {f i c : Nat} {s : St} (h : ScanC (f + 1) i s) (hic : s.ctxList[i]? = some c) :
    ScanC f (i + 1) (selSetFd c s) := by
  have hilt : i < s.ctxList.length := (List.getElem?_eq_some_iff.mp hic).1
  have r2 := selSetFd_smono c s
  refine ⟨⟨h.part.backend, by rw [r2.allsig]; exact h.part.allsig, fun j c' hj hc' => ?_, h.part.noLost⟩,
    selSetFd_inv c h.inv, hilt, ?_⟩
  · have hc'' : s.ctxList[j]? = some c' := hc'
    rcases Nat.lt_or_ge j i with hji | hji
    · exact (h.part.cover j c' hji hc'').mono r2
    · have : j = i := by omega
      subst this
      rw [hic] at hc''
      cases hc''
      exact selSetFd_mem c s
  · show s.ctxList.length - (i + 1) + untried s < f
    have := h.fuel; omega

/-- **Rebuild lemma.** A scan that starts with enough fuel ends with `allset/nfds` covering
the surviving and the newly added contexts. -/
theorem selScan_c (sc : Script) (f i : Nat) {s : St} (h : ScanC f i s) : SelC (selScan sc f i s) :=
  selScan_ind (P := ScanC) sc
    (fun _ _ _ _ h hic _ => have r := h.read sc hic; r.1.close sc r.2)
    (fun _ _ _ _ h hic _ => have r := h.read sc hic; r.1.keep r.2)
    (fun _ i s h hnone => by
      have hlen : s.ctxList.length ≤ i := List.getElem?_eq_none_iff.mp hnone
      refine ⟨h.part.backend, h.part.allsig, fun c hc => ?_, h.part.noLost⟩
      obtain ⟨j, hj, hjc⟩ := List.getElem_of_mem hc
      exact h.part.cover j c (by omega) (by rw [List.getElem?_eq_getElem hj, hjc]))
    (fun _ _ h => absurd h.fuel (Nat.not_lt_zero _)) f i s h

/-- nothing of the old cover is used: the dispatch clears the tables first -/
theorem selDispatch_c (sc : Script) {s : St} (hb : s.backend = .select) (hn : NoLost s.trace)
    (hi : Inv none s) : SelC (selDispatch sc s) :=
  selDispatch_ind (P := fun s => Inv none s ∧ s.backend = .select ∧ NoLost s.trace)
    (P1 := fun s => Inv none s ∧ s.backend = .select ∧ NoLost s.trace) sc
    (fun _ h => ⟨{ h.1 with }, h.2⟩)
    (fun s h => ⟨handleWake_inv sc h.1, (handleWake_ext sc s).backend.trans h.2.1,
      fun hh => h.2.2 ((handleWake_srel sc s).mono.nosleep hh)⟩)
    (fun s h => selScan_c sc _ 0
      ⟨⟨h.2.1, rfl, fun _ _ hj _ => absurd hj (Nat.not_lt_zero _), h.2.2⟩, { h.1 with }, Nat.zero_le _, by
        show s.ctxList.length - 0 + untried s < s.ctxList.length + s.nds + 1
        have := untried_le s; omega⟩)
    ⟨hi, hb, hn⟩

theorem select_block_none_readable {s : St} (h : SelC s) (hz : selCount (selQuery s) = 0) :
    (s.ctxList.any fun c => (s.ds c).readable) = false := by
  rw [List.any_eq_false]
  intro c hc
  obtain ⟨hmem, hfd⟩ := h.cover c hc
  unfold selCount selQuery at hz
  simp only [] at hz
  have hz1 : (List.filter (fun c => decide (fdOf c ≤ s.nfds) && (s.ds c).readable) s.allset).length = 0 := by
    omega
  have hnil := List.length_eq_zero_iff.mp hz1
  have := (List.filter_eq_nil_iff.mp hnil) c hmem
  simpa [hfd] using this

theorem idle_selc (sc : Script) {s : St} (h : SelC s)
    (hq : (s.ctxList.any fun c => (s.ds c).readable) = false) : SelC (idle sc s) :=
  h.step (srel_stable.idle sc s fun _ _ => by rw [hq]; exact emit_srel (by simp) _)

theorem selQuery_c {s : St} (h : SelC s) : SelC (selQuery s) :=
  h.step (SRel.of_eq rfl rfl rfl rfl rfl rfl rfl)

def SelCInv (s : St) : Prop := SelC s ∧ SelInv s

theorem selLoop_idle_c (sc : Script) {s : St} (h : SelCInv s) (hz : selCount (selQuery s) = 0) :
    SelCInv (idle sc (selQuery s)) :=
  ⟨idle_selc sc (selQuery_c h.1) (select_block_none_readable (s := s) h.1 hz), selLoop_idle_inv sc h.2⟩

theorem selLoop_disp_c (sc : Script) {s : St} (h : SelCInv s) :
    SelCInv (selDispatch sc (emit .disp (selQuery s))) :=
  ⟨selDispatch_c sc h.1.backend (noLost_cons h.1.noLost (by simp)) (emit_disp_inv (selQuery_inv h.2).1),
   selLoop_disp_inv sc h.2⟩

theorem selLoop_c (sc : Script) (f : Nat) {s : St} (h : SelCInv s) : NoLost (selLoop sc f s).trace :=
  selLoop_ind sc (fun _ h hz => selLoop_idle_c sc h hz) (fun _ h => selLoop_disp_c sc h)
    (fun _ h _ => ((h.1.step (emit_srel (e := .waitErr) (by simp) _)).step (act_srel _ _)).noLost)
    (fun _ h => noLost_cons h.1.noLost (by simp)) (fun _ h _ => h.1.noLost) f s h

end MgProof.C13
