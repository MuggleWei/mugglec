import MgProof.C13.LemmasSelect
/-!
# C13 — select with fixes/C13-select-stale-fd.patch never watches a closed descriptor

`SelF s`: `allset` only names contexts of `ctx_list` (the repaired scan clears the bit in the very
step that unlinks the node: `cb_close; FD_CLR; muggle_linked_list_remove`), and (`fdc`) a
descriptor is only ever closed by the close callback of its context. A context of `ctx_list` has
not been closed (`Inv`). Together: `select` never fails with `EBADF`.
-/
namespace MgProof.C13
open MgModel.C13

structure SelF (s : St) : Prop where
  fixed : s.legacySel = false
  nodup : s.allset.Nodup
  sub : ∀ c ∈ s.allset, c ∈ s.ctxList
  fdc : ∀ c, s.fdClosed c = true → Ev.close c ∈ s.trace
  noErr : Ev.waitErr ∉ s.trace

theorem emit_selF {s : St} {e : Ev} (he : e ≠ .waitErr) (h : SelF s) : SelF (emit e s) :=
  { h with fdc := fun c hc => List.mem_cons_of_mem _ (h.fdc c hc)
           noErr := fun hh => h.noErr (mem_cons_ne hh he.symm) }

theorem selSetFd_selF {s : St} {c : Nat} (h : SelF s) (hc : c ∈ s.ctxList) : SelF (selSetFd c s) := by
  unfold selSetFd
  refine { h with nodup := ?_, sub := ?_ }
  · show (if s.allset.contains c then s.allset else c :: s.allset).Nodup
    split
    · exact h.nodup
    · next hn => exact List.nodup_cons.mpr ⟨by simpa using hn, h.nodup⟩
  · show ∀ c' ∈ (if s.allset.contains c then s.allset else c :: s.allset), c' ∈ s.ctxList
    split
    · exact h.sub
    · exact fun c' hc' => (List.mem_cons.mp hc').elim (fun e => e ▸ hc) (h.sub c')

theorem selF_stable : Stable (Keeps SelF) where
  refl _ h := h
  trans a b h := b (a h)
  quiet := by rintro s t ⟨_, _, _, _, _, _, _, rfl⟩ h; exact { h with }
  ready _ _ _ _ h := { h with }
  closed c s hc h :=
    { h with fdc := fun c' hc' =>
        if hcc : c' = c then hcc ▸ hc else h.fdc c' (by simpa [upd, hcc] using hc') }
  reject _ _ _ _ h := emit_selF (by simp) { h with }
  poll _ _ _ _ _ h := emit_selF (by simp) { h with sub := fun c hc => List.mem_append_left _ (h.sub c hc) }
  epoll _ _ _ _ _ h := emit_selF (by simp) { h with sub := fun c hc => List.mem_append_left _ (h.sub c hc) }
  select c s _ _ _ h :=
    emit_selF (by simp) (selSetFd_selF (s := { s with tried := upd s.tried c true, ctxList := s.ctxList ++ [c] })
      { h with sub := fun c hc => List.mem_append_left _ (h.sub c hc) }
      (List.mem_append_right _ (List.mem_singleton_self c)))

theorem touch_selF (sc : Script) (c : Nat) (rd fl : Bool) {s : St} (h : SelF s) :
    SelF (touch sc c rd fl s) :=
  selF_stable.touch sc c rd fl s (fun _ _ _ _ => emit_selF (by simp)) h

theorem handleWake_selF (sc : Script) {s : St} (h : SelF s) : SelF (handleWake sc s) :=
  selF_stable.handleWake sc s (fun _ _ => emit_selF (by simp)) h

theorem idle_selF (sc : Script) {s : St} (h : SelF s) : SelF (idle sc s) :=
  selF_stable.idle sc s (fun _ _ => emit_selF (by simp)) h

theorem selClose_selF (sc : Script) {s : St} (h : SelF s) {i c : Nat}
    (hic : s.ctxList[i]? = some c) : SelF (selClose sc i c s) := by
  have h3 := selF_stable.cbClose sc c s (emit_selF (by simp) h)
  have hic3 := (cbClose_ext sc c s).ctx_get hic
  unfold selClose
  generalize cbClose sc c s = s3 at h3 hic3
  simp only []
  refine { h3 with nodup := ?_, sub := ?_ }
  · show (if s3.legacySel then s3.allset else s3.allset.erase c).Nodup
    rw [h3.fixed]; exact h3.nodup.erase c
  · show ∀ c' ∈ (if s3.legacySel then s3.allset else s3.allset.erase c), c' ∈ s3.ctxList.eraseIdx i
    rw [h3.fixed]
    intro c' hc'
    obtain ⟨hne, hm⟩ := h3.nodup.mem_erase_iff.mp hc'
    -- another context than the one at position `i` stands at another position
    obtain ⟨j, hj, rfl⟩ := List.getElem_of_mem (h3.sub c' hm)
    refine List.mem_eraseIdx_iff_getElem.mpr ⟨j, hj, fun hji => hne ?_, rfl⟩
    subst hji
    exact Option.some.inj ((List.getElem?_eq_getElem hj).symm.trans hic3)

theorem selScan_selF (sc : Script) (f i : Nat) {s : St} (h : SelF s) : SelF (selScan sc f i s) :=
  selScan_ind (P := fun _ _ => SelF) sc
    (fun _ _ c s h hi _ =>
      selClose_selF sc (touch_selF sc c (s.rset.contains c) false h)
        ((touch_ext sc c (s.rset.contains c) false s).ctx_get hi))
    (fun _ _ c s h hi _ =>
      selSetFd_selF (touch_selF sc c (s.rset.contains c) false h)
        ((touch_ext sc c (s.rset.contains c) false s).mem_ctx (List.mem_of_getElem? hi)))
    (fun _ _ _ h _ => h) (fun _ _ h => { h with }) f i s h

theorem selDispatch_selF (sc : Script) {s : St} (h : SelF s) : SelF (selDispatch sc s) :=
  selDispatch_ind (P1 := SelF) sc
    (fun _ h => { h with nodup := List.nodup_nil, sub := fun _ hc => absurd hc List.not_mem_nil })
    (fun _ h => handleWake_selF sc h) (fun _ h => selScan_selF sc _ 0 { h with }) h

/-- at the head of the loop `Inv` is needed beside `SelF`: a context of `ctx_list` has not been closed -/
def SelFInv (s : St) : Prop := SelInv s ∧ SelF s

theorem selBad_false {s : St} (h : SelFInv s) : selBad s = false := by
  unfold selBad
  rw [List.any_eq_false]
  intro c hc hbad
  simp only [Bool.and_eq_true] at hbad
  exact absurd ((h.1.1.sound c (h.2.sub c hc)).2 (h.2.fdc c hbad.2)) (by simp)

theorem selLoop_idle_selF (sc : Script) {s : St} (h : SelFInv s) : SelFInv (idle sc (selQuery s)) :=
  ⟨selLoop_idle_inv sc h.1, idle_selF sc { h.2 with }⟩

theorem selLoop_disp_selF (sc : Script) {s : St} (h : SelFInv s) :
    SelFInv (selDispatch sc (emit .disp (selQuery s))) :=
  ⟨selLoop_disp_inv sc h.1, selDispatch_selF sc (emit_selF (by simp) { h.2 with })⟩

theorem selLoop_selF (sc : Script) (f : Nat) {s : St} (h : SelFInv s) :
    Ev.waitErr ∉ (selLoop sc f s).trace :=
  selLoop_ind sc (fun _ h _ => selLoop_idle_selF sc h) (fun _ h => selLoop_disp_selF sc h)
    (fun _ h hb => by rw [selBad_false h] at hb; cases hb)
    (fun _ h => (emit_selF (e := .fuel) (by simp) h.2).noErr) (fun _ h _ => h.2.noErr) f s h

end MgProof.C13
