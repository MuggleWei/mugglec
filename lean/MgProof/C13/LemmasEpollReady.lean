import MgProof.C13.LemmasEpoll
import MgProof.C13.LemmasReady
/-!
# C13 — clause 2 for epoll, under the documented contract of an edge-triggered consumer
(every read callback drains)

`EInv cur rest s`: every registered context that is readable is either in the kernel's
ready list (`armed`) or still waiting in the batch being dispatched (`rest`); the context being
visited waits there until the visit has decided whether to close it. `cur` is the context between
`epoll_ctl(DEL)` and its unlinking, as `Inv (some c)` is the one between `cb_close c` and its unlinking.
-/
namespace MgProof.C13
open MgModel.C13

/-- sockets report `HUP` only together with end-of-stream -/
def HupEof (d : Desc) : Prop := d.hup = true → d.eof = true

theorem PeerOp.hupEof {f : Desc → Desc × Bool} (hf : PeerOp f) {d : Desc} (h : HupEof d) :
    HupEof (f d).1 := by
  have e := hf.effect d
  generalize f d = r at e
  cases e with
  | none => exact h
  | bytes => exact h
  | reset => exact h
  | ended => exact fun _ => rfl

theorem shutdown_hupEof {d : Desc} (h : HupEof d) : HupEof d.shutdown.1 := by
  unfold Desc.shutdown
  split
  · exact h
  · split
    · exact h
    · intro _; rfl

theorem PeerOp.noedge {f : Desc → Desc × Bool} (hf : PeerOp f) {d : Desc} (h : (f d).2 = false) :
    (f d).1 = d := by
  have e := hf.effect d
  generalize f d = r at e h
  cases e with
  | none => rfl
  | bytes | reset | ended => cases h

theorem shutdown_noedge {d : Desc} (h : d.shutdown.2 = false) : d.shutdown.1 = d := by
  unfold Desc.shutdown at h ⊢
  split
  · rfl
  · split
    · rfl
    · -- a first shutdown wakes the read end
      simp_all

/-- Not a `Stable` instance: it reads descriptors, which `Stable.quiet` lets change at will, and of
the two halves of `setDesc` only both together keep it. -/
structure EInv (cur : Option Nat) (rest : List Nat) (s : St) : Prop where
  backend : s.backend = .epoll
  reg : ∀ c ∈ s.ctxList, c ∈ s.epReg ∨ cur = some c
  ready : ∀ c ∈ s.ctxList, cur ≠ some c → (s.ds c).mask.any = true → Src.ctx c ∈ s.armed ∨ c ∈ rest
  hupEof : ∀ c, HupEof (s.ds c)
  noLost : NoLost s.trace

theorem EInv.mono {cur rest} {s t : St} (h : EInv cur rest s) (h0 : t.backend = s.backend)
    (h1 : t.ctxList = s.ctxList) (h2 : t.trace = s.trace) (h3 : t.ds = s.ds)
    (h5 : t.epReg = s.epReg) (h6 : ∀ x ∈ s.armed, x ∈ t.armed) : EInv cur rest t :=
  ⟨by rw [h0]; exact h.backend, by rw [h1, h5]; exact h.reg,
   by rw [h1, h3]; exact fun c hc hne hm => (h.ready c hc hne hm).imp_left (h6 _),
   by rw [h3]; exact h.hupEof, by rw [h2]; exact h.noLost⟩

theorem EInv.more {cur rest} {s : St} (c : Nat) (h : EInv cur rest s) : EInv cur (c :: rest) s :=
  ⟨h.backend, h.reg, fun c' hc' hcur hm => (h.ready c' hc' hcur hm).imp_right (List.mem_cons_of_mem _),
   h.hupEof, h.noLost⟩

/-- the descriptor of a context that waits in the batch may change at will -/
theorem EInv.setWaiting {cur rest} {s : St} {c : Nat} (h : EInv cur (c :: rest) s)
    {v : Desc} (hv : HupEof v) : EInv cur (c :: rest) { s with ds := upd s.ds c v } :=
  ⟨h.backend, h.reg, fun c' hc' hcur hm => by
    by_cases hcc : c' = c
    · exact Or.inr (hcc ▸ List.mem_cons_self ..)
    · have hm : (upd s.ds c v c').mask.any = true := hm
      rw [upd_other _ _ _ hcc] at hm
      exact h.ready c' hc' hcur hm,
   upd_all hv h.hupEof c, h.noLost⟩

/-- a context that is not readable, or is in the ready list if registered, need not wait in the batch -/
theorem EInv.drop {cur rest} {s : St} {c : Nat} (h : EInv cur (c :: rest) s)
    (hc : (s.ds c).mask.any = false ∨ (c ∈ s.epReg → Src.ctx c ∈ s.armed)) : EInv cur rest s :=
  ⟨h.backend, h.reg, fun c' hc' hcur hm => by
    rcases h.ready c' hc' hcur hm with ha | hr
    · exact Or.inl ha
    · rcases List.mem_cons.mp hr with rfl | hr
      · rcases hc with h0 | ha
        · rw [h0] at hm; cases hm
        · exact Or.inl (ha ((h.reg _ hc').resolve_right hcur))
      · exact Or.inr hr,
   h.hupEof, h.noLost⟩

theorem arm_einv {cur rest} {s : St} (c : Nat) (h : EInv cur rest s) : EInv cur rest (arm c s) := by
  obtain ⟨l, hl, _⟩ := arm_spec c s
  rw [hl]
  exact h.mono rfl rfl rfl rfl rfl fun _ hx => List.mem_append_left _ hx

theorem armSig_einv {cur rest} {s : St} (h : EInv cur rest s) : EInv cur rest (armSig s) := by
  obtain ⟨l, hl⟩ := armSig_spec s
  rw [hl]
  exact h.mono rfl rfl rfl rfl rfl fun _ hx => List.mem_append_left _ hx

/-- without a wake-up of the read end nothing changes; with one, `d` waits while its descriptor
changes and is then, if registered, in the ready list -/
theorem setDesc_einv {cur rest} {s : St} (d : Nat) (r : Desc × Bool) (h : EInv cur rest s)
    (hne : r.2 = false → r.1 = s.ds d) (hh : HupEof r.1) : EInv cur rest (setDesc d r s) := by
  unfold setDesc
  simp only []
  split
  · obtain ⟨l, hl, hmem, _⟩ := arm_spec d { s with ds := upd s.ds d r.1 }
    exact (arm_einv d ((h.more d).setWaiting hh)).drop (Or.inr (by rw [hl]; exact hmem))
  · next hr =>
    have hsame : upd s.ds d r.1 = s.ds := by
      funext c
      by_cases hc : c = d
      · subst hc; rw [upd_same, hne (by simpa using hr)]
      · exact upd_other _ _ _ hc
    exact h.mono rfl rfl rfl hsame rfl fun _ hx => hx

theorem emit_einv {cur rest} {s : St} {e : Ev} (he : e ≠ Ev.sleep true) (h : EInv cur rest s) :
    EInv cur rest (emit e s) :=
  ⟨h.backend, h.reg, h.ready, h.hupEof, noLost_cons h.noLost he⟩

theorem addCtx_einv {cur rest} {s : St} (c : Nat) (h : EInv cur rest s) : EInv cur rest (addCtx c s) := by
  -- the new registration waits in the batch until its readiness has been probed
  have h0 : EInv cur (c :: rest) (addedEpoll c s) := by
    refine emit_einv (by simp) ⟨h.backend, fun c' hc' => ?_, fun c' hc' hcur hm => ?_, h.hupEof, h.noLost⟩
    · rcases List.mem_append.mp hc' with hc' | hc'
      · exact (h.reg c' hc').imp_left (List.mem_append_left _)
      · exact Or.inl (List.mem_append_right _ hc')
    · rcases List.mem_append.mp hc' with hc' | hc'
      · exact (h.ready c' hc' hcur hm).imp_right (List.mem_cons_of_mem _)
      · exact Or.inr (by rw [List.mem_singleton.mp hc']; exact List.mem_cons_self ..)
  have hpoll : ∀ {t : St}, s.backend = .poll → EInv cur rest t := fun hb => by
    rw [h.backend] at hb; cases hb
  refine addCtx_cases c s (fun _ => h) (fun hb => by rw [h.backend] at hb; cases hb) (fun hb _ _ => hpoll hb)
    (fun hb _ _ => hpoll hb) (fun _ _ _ hm => h0.drop (Or.inl hm)) (fun _ _ _ _ => ?_)
  obtain ⟨l, hl, hmem, _⟩ := arm_spec c (addedEpoll c s)
  exact (arm_einv c h0).drop (Or.inr (by rw [hl]; exact hmem))

theorem act_einv {cur rest} {s : St} (a : Act) (h : EInv cur rest s) : EInv cur rest (act a s) :=
  act_cases a s h (fun d _ hf => setDesc_einv _ _ h hf.noedge (hf.hupEof (h.hupEof d)))
    (fun d => setDesc_einv _ _ ({ h with }) shutdown_noedge
      (shutdown_hupEof (h.hupEof d)))
    (fun d => addCtx_einv d h) (fun _ => armSig_einv ({ h with }))

theorem runActs_einv {cur rest} (as : List Act) {s : St} (h : EInv cur rest s) :
    EInv cur rest (runActs as s) :=
  runActs_ind (fun a _ => act_einv a) as h

/-! ### the context being visited -/

theorem drain_mask {d : Desc} (h : HupEof d) (hne : d.drain.2.1 = false) : d.drain.2.2.mask.any = false := by
  unfold Desc.drain at hne ⊢
  simp only [Bool.or_eq_false_iff] at hne
  unfold Desc.mask Mask.any
  cases hk : d.kind <;> simp [hne.1, hne.2]
  · cases hh : d.hup
    · rfl
    · have := h hh; simp [hne.1] at this
  · cases hh : d.hup
    · rfl
    · have := h hh; simp [hne.1] at this

/-- what a visit knows of its context `c` when it comes to decide whether to close it: the closed
flag is set, or `c` is accounted for like any other context -/
def Seen (c : Nat) (rest : List Nat) (s : St) : Prop :=
  EInv none (c :: rest) s ∧ (s.flag c = true ∨ EInv none rest s)

theorem cbRead_seen (sc : Script) {rest} {s : St} {c : Nat} (hd : sc.rmode c = .all)
    (h : EInv none (c :: rest) s) : Seen c rest (cbRead sc c s) := by
  unfold cbRead
  simp only [hd, doRead]
  have h0 := h.setWaiting (v := (s.ds c).drain.2.2) (h.hupEof c)
  cases he : (s.ds c).drain.2.1
  · -- not ended: `c` is not readable any more, and the callback's actions keep `EInv none rest`
    have hq : (upd s.ds c (s.ds c).drain.2.2 c).mask.any = false := by
      rw [upd_same]; exact drain_mask (h.hupEof c) he
    suffices h1 : EInv none rest _ from ⟨h1.more c, Or.inr h1⟩
    exact runActs_einv _ (emit_einv (by simp) { h0.drop (Or.inl hq) with })
  · exact ⟨runActs_einv _ (emit_einv (by simp) { h0 with }), Or.inl (runActs_flag _ (by simp [emit, upd]))⟩

theorem touch_seen (sc : Script) {rest} {s : St} {c : Nat} (hd : sc.rmode c = .all) {rd fl : Bool}
    (hrf : rd = true ∨ fl = true) (h : EInv none (c :: rest) s) : Seen c rest (touch sc c rd fl s) := by
  cases rd
  · cases fl
    · exact absurd hrf (by simp)
    · exact ⟨{ h with }, Or.inl (upd_same _ _ _)⟩
  · obtain ⟨e1, q1⟩ := cbRead_seen sc hd h
    cases fl
    · exact ⟨e1, q1⟩
    · exact ⟨{ e1 with }, Or.inl (upd_same _ _ _)⟩

theorem epDel_einv {rest} {s : St} (c : Nat) (h : EInv none (c :: rest) s) :
    EInv (some c) rest (epDel c s) := by
  refine ⟨h.backend, fun c' hc' => ?_, fun c' hc' hcur hm => ?_, h.hupEof, h.noLost⟩
  · by_cases hcc : c' = c
    · exact Or.inr (by rw [hcc])
    · exact Or.inl ((List.mem_erase_of_ne hcc).mpr ((h.reg c' hc').resolve_right (by simp)))
  · have hcc : c' ≠ c := fun hh => hcur (by rw [hh])
    exact (h.ready c' hc' (by simp) hm).imp (List.mem_erase_of_ne (by simp [hcc])).mpr
      fun hr => (List.mem_cons.mp hr).resolve_left hcc

theorem cbClose_einv (sc : Script) {cur rest} {s : St} (c : Nat) (h : EInv cur rest s) :
    EInv cur rest (cbClose sc c s) := by
  have h1 : EInv cur rest (runActs (sc.onClose c) (emit (.close c) s)) :=
    runActs_einv _ (emit_einv (by simp) h)
  unfold cbClose
  simp only []
  split
  · exact { h1 with }
  · exact h1

theorem epFinish_einv (sc : Script) {rest} {s : St} {c : Nat} (h : Seen c rest s)
    (hi : Inv none s) (hc : c ∈ s.ctxList) : EInv none rest (epFinish sc c s) := by
  unfold epFinish
  split
  · have h3 := cbClose_einv sc c (epDel_einv c h.1)
    have i3 : Inv (some c) (cbClose sc c (epDel c s)) := cbClose_inv sc (epDel_inv c hi) hc
    generalize cbClose sc c (epDel c s) = s3 at h3 i3
    simp only []
    have hne : ∀ c' ∈ s3.ctxList.erase c, c' ≠ c := fun c' hc' hh => by
      subst hh; exact i3.nodupL.not_mem_erase hc'
    refine ⟨h3.backend, fun c' hc' => ?_, fun c' hc' _ hm => ?_, h3.hupEof, h3.noLost⟩
    · exact Or.inl ((h3.reg c' (List.mem_of_mem_erase hc')).resolve_right
        fun h' => hne c' hc' (Option.some.inj h').symm)
    · exact h3.ready c' (List.mem_of_mem_erase hc') (by simp [(hne c' hc').symm]) hm
  · next hf => exact h.2.resolve_left hf

theorem epVisit_einv (sc : Script) (hd : ∀ c, sc.rmode c = .all) {rest} {s : St} {c : Nat} {mk : Mask}
    (hmk : mk.any = true) (h : EInv none (c :: rest) s) (hi : Inv none s) (hc : c ∈ s.ctxList) :
    EInv none rest (epVisit sc c mk s) := by
  unfold epVisit
  rw [epRead_eq]
  -- a reported mask has one of its three bits
  have hrf : mk.inn = true ∨ (!mk.inn && (mk.err || mk.hup)) = true := by
    cases hin : mk.inn
    · exact Or.inr (by simpa [Mask.any, hin, Bool.or_comm] using hmk)
    · exact Or.inl rfl
  exact epFinish_einv sc (touch_seen sc (hd c) hrf h) (touch_inv sc hi hc _ _)
    ((touch_ext sc c _ _ s).mem_ctx hc)

def ctxIds : List (Src × Mask) → List Nat
  | [] => []
  | (.sig, _) :: r => ctxIds r
  | (.ctx c, _) :: r => c :: ctxIds r

theorem mem_ctxIds {b : List (Src × Mask)} {c : Nat} : c ∈ ctxIds b ↔ Src.ctx c ∈ b.map (·.1) := by
  induction b with
  | nil => simp [ctxIds]
  | cons x r ih =>
    obtain ⟨src, mk⟩ := x
    cases src with
    | sig => simp [ctxIds, ih]
    | ctx c' => simp [ctxIds, ih]

theorem handleWake_einv (sc : Script) {cur rest} {s : St} (h : EInv cur rest s) :
    EInv cur rest (handleWake sc s) := by
  unfold handleWake
  simp only []
  have h1 : EInv cur rest (runActs (sc.onWake s.nWake) (emit .wake { s with evc := 0, nWake := s.nWake + 1 })) :=
    runActs_einv _ (emit_einv (by simp) ({ h with }))
  split
  · exact { h1 with }
  · exact h1

structure BEInv (b : List (Src × Mask)) (s : St) : Prop where
  binv : BInv b s
  einv : EInv none (ctxIds b) s
  any : ∀ x ∈ b, x.2.any = true

theorem epBatch_einv (sc : Script) (hd : ∀ c, sc.rmode c = .all) (b : List (Src × Mask)) {s : St}
    (h : BEInv b s) : BEInv [] (epBatch sc b s) :=
  epBatch_ind sc
    (fun mk r s h => ⟨h.binv.sig sc, by
        split
        · exact handleWake_einv sc h.einv
        · exact h.einv,
      fun x hx => h.any x (List.mem_cons_of_mem _ hx)⟩)
    (fun c mk r s h => ⟨h.binv.visit sc,
      epVisit_einv sc hd (h.any (Src.ctx c, mk) (by simp)) (rest := ctxIds r) h.einv h.binv.inv
        h.binv.head.1,
      fun x hx => h.any x (List.mem_cons_of_mem _ hx)⟩) b s h

theorem epCollect_masks (s : St) (l : List Src) (m : Nat) :
    ∀ x ∈ (epCollect s l m).1, x.2 = srcMask s x.1 ∧ x.2.any = true := by
  fun_induction epCollect s l m with
  | case1 => simp
  | case2 => simp
  | case3 a rest m mk hm r ih =>
    intro x hx
    rcases List.mem_cons.mp hx with hx | hx
    · rw [hx]; exact ⟨rfl, hm⟩
    · exact ih x hx
  | case4 a rest m mk hm ih => exact ih

theorem epCollect_cover (s : St) (l : List Src) (m : Nat) (x : Src) (hx : x ∈ l)
    (hm : (srcMask s x).any = true) :
    x ∈ (epCollect s l m).1.map (·.1) ∨ x ∈ (epCollect s l m).2 := by
  fun_induction epCollect s l m with
  | case1 => simp at hx
  | case2 => exact Or.inr hx
  | case3 a rest m mk ha r ih =>
    rcases List.mem_cons.mp hx with hx | hx
    · exact Or.inl (by simp [hx])
    · exact (ih hx).imp_left fun h => by simp at h ⊢; exact Or.inr h
  | case4 a rest m mk ha ih =>
    rcases List.mem_cons.mp hx with hx | hx
    · rw [hx] at hm; exact absurd hm ha
    · exact ih hx

theorem epCollect_empty (s : St) (l : List Src) (m : Nat) (he : (epCollect s l (m + 1)).1 = []) :
    ∀ a ∈ l, (srcMask s a).any = false := by
  induction l with
  | nil => intro a ha; simp at ha
  | cons x rest ih =>
    intro a ha
    unfold epCollect at he
    simp only [] at he
    split at he
    · simp at he
    · next hx =>
      rcases List.mem_cons.mp ha with ha | ha
      · rw [ha]; simpa using hx
      · exact ih he a ha

theorem idle_einv (sc : Script) {s : St} (h : EInv none [] s)
    (hq : (s.ctxList.any fun c => (s.ds c).readable) = false) : EInv none [] (idle sc s) := by
  unfold idle
  simp only []
  rw [hq]
  have h1 : EInv none [] (emit (.sleep false) { s with nIdle := s.nIdle + 1 }) :=
    emit_einv (by simp) ({ h with })
  split
  · exact runActs_einv _ h1
  · exact act_einv _ h1

theorem epCollect_einv {s : St} (h : EInv none [] s) (m : Nat) :
    EInv none (ctxIds (epCollect s s.armed m).1) { s with armed := (epCollect s s.armed m).2 } := by
  refine ⟨h.backend, h.reg, fun c hc hcur hm => ?_, h.hupEof, h.noLost⟩
  have h' := (h.ready c hc hcur hm).resolve_right (by simp)
  exact (epCollect_cover s s.armed m (.ctx c) h' hm).symm.imp_right mem_ctxIds.mpr

theorem epoll_block_none_readable {s : St} (h : EInv none [] s)
    (he : (epCollect s s.armed (s.hints + 1)).1 = []) :
    (s.ctxList.any fun c => (s.ds c).readable) = false := by
  rw [List.any_eq_false]
  intro c hc hrd
  have h' := (h.ready c hc (by simp) hrd).resolve_right (by simp)
  have := epCollect_empty s s.armed s.hints he _ h'
  rw [show srcMask s (.ctx c) = (s.ds c).mask from rfl] at this
  rw [show (s.ds c).readable = (s.ds c).mask.any from rfl, this] at hrd
  cases hrd

def EpEInv (s : St) : Prop := EInv none [] s ∧ EpInv s

theorem epLoop_idle_einv (sc : Script) {s : St} (h : EpEInv s)
    (he : (epCollect s s.armed (s.hints + 1)).1 = []) :
    EpEInv (idle sc { s with armed := (epCollect s s.armed (s.hints + 1)).2 }) := by
  have hq := epCollect_einv h.1 (s.hints + 1)
  rw [he] at hq
  exact ⟨idle_einv sc hq (epoll_block_none_readable (s := s) h.1 he), epLoop_idle_inv sc h.2⟩

theorem epLoop_disp_einv (sc : Script) (hd : ∀ c, sc.rmode c = .all) {s : St} (h : EpEInv s) :
    EpEInv (epBatch sc (epCollect s s.armed (s.hints + 1)).1
      (emit .disp { s with armed := (epCollect s s.armed (s.hints + 1)).2 })) :=
  ⟨(epBatch_einv sc hd _ ⟨(epCollect_inv h.2.1 h.2.2 _).2,
      emit_einv (by simp) (epCollect_einv h.1 _), fun x hx => (epCollect_masks s s.armed _ x hx).2⟩).einv,
   epLoop_disp_inv sc h.2⟩

theorem epLoop_einv (sc : Script) (hd : ∀ c, sc.rmode c = .all) (f : Nat) {s : St} (h : EpEInv s) :
    NoLost (epLoop sc f s).trace :=
  epLoop_ind sc (fun _ h he => epLoop_idle_einv sc h he) (fun _ h => epLoop_disp_einv sc hd h)
    (fun _ h => noLost_cons h.1.noLost (by simp)) (fun _ h _ => h.1.noLost) f s h

theorem epStart_einv {s : St} (h : EInv none [] s) : EInv none [] (epStart s) := by
  obtain ⟨l, hl⟩ := epStart_spec s
  rw [hl]
  exact h.mono rfl rfl rfl rfl rfl fun _ hx => List.mem_append_left _ hx

end MgProof.C13
