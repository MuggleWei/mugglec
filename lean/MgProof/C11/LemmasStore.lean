import MgModel.C11.Basic
/-! Common ground of the C11 proofs: `Except` code on `.ok` values, the loop rule for
`(List.range n).foldlM`, `Holds a l` (the sequence `l` in the first cells of a malloc'ed array, as array
list and stack keep it), and sequences of (key, datum) pairs with distinct keys (linked list, pointer slot). -/
namespace MgProof.C11
open MgModel.C11

@[simp] theorem ok_bind {ε α β : Type} (a : α) (f : α → Except ε β) : (Except.ok a >>= f) = f a := rfl
@[simp] theorem pure_eq_ok {ε α : Type} (a : α) : (pure a : Except ε α) = .ok a := rfl

/-- the wrapper every `step` function puts around a call; `lift_query`: around one that leaves the state alone -/
theorem lift_step {σ ρ ρ' : Type} {x : Except Err (σ × ρ)} {r : ρ} {P : σ → Prop} (C : ρ → ρ')
    (h : ∃ s', x = .ok (s', r) ∧ P s') :
    ∃ s', (x >>= fun p => pure (p.1, C p.2)) = .ok (s', C r) ∧ P s' := by
  obtain ⟨s', rfl, hp⟩ := h
  exact ⟨s', rfl, hp⟩

theorem lift_query {σ ρ ρ' : Type} {x : Except Err ρ} {r : ρ} (s : σ) (C : ρ → ρ') (h : x = .ok r) :
    (x >>= fun r => pure (s, C r)) = .ok (s, C r) := by
  rw [h]; rfl

/-- loop-invariant rule for `for (k = 0; k < n; k++)` -/
theorem foldlM_range_inv {σ ε : Type} (f : σ → Nat → Except ε σ) (P : Nat → σ → Prop)
    (n : Nat) (s0 : σ) (h0 : P 0 s0)
    (hstep : ∀ k s, k < n → P k s → ∃ s', f s k = .ok s' ∧ P (k + 1) s') :
    ∃ s', (List.range n).foldlM f s0 = .ok s' ∧ P n s' := by
  induction n with
  | zero => exact ⟨s0, rfl, h0⟩
  | succ n ih =>
    obtain ⟨s1, h1, p1⟩ := ih (fun k s hk hp => hstep k s (Nat.lt_succ_of_lt hk) hp)
    obtain ⟨s2, h2, p2⟩ := hstep n s1 (Nat.lt_succ_self n) p1
    refine ⟨s2, ?_, p2⟩
    rw [List.range_succ, List.foldlM_append, h1]
    simp [h2]

theorem rd_ok {a : Store} {i : Nat} {v : Val} (h : a[i]? = some (some v)) : rd a i = .ok v := by
  simp [rd, h]

theorem wr_ok {a : Store} {i : Nat} (v : Val) (h : i < a.length) :
    wr a i v = .ok (a.set i (some v)) := by
  simp [wr, h]

theorem rd_wr_ok {src dst : Store} {i j : Nat} {v : Val} (h : src[i]? = some (some v))
    (hj : j < dst.length) : (rd src i >>= fun v => wr dst j v) = .ok (dst.set j (some v)) := by
  rw [rd_ok h, ok_bind, wr_ok v hj]

/-- `mapM` along the image `l.map k`, when the answer for `k a` is known from `a` -/
theorem mapM_map_ok {α β γ ε : Type} (f : β → Except ε γ) (k : α → β) (g : α → γ) (l : List α)
    (h : ∀ a ∈ l, f (k a) = .ok (g a)) : (l.map k).mapM f = .ok (l.map g) := by
  induction l with
  | nil => rfl
  | cons a l ih =>
    rw [List.map_cons, List.mapM_cons, h a (by simp), ih (fun b hb => h b (by simp [hb]))]
    rfl

theorem mapM_ok {α β ε : Type} (f : α → Except ε β) (g : α → β) (l : List α)
    (h : ∀ x ∈ l, f x = .ok (g x)) : l.mapM f = .ok (l.map g) := by
  simpa using mapM_map_ok f id g l h

/-- the data `l` occupy the first `l.length` cells of `a`; the cells behind them are arbitrary
(never written, or left over from removed elements) -/
def Holds (a : Store) (l : List Val) : Prop := ∀ i, i < l.length → a[i]? = some (l[i]?)

theorem Holds.cell {a : Store} {l : List Val} (h : Holds a l) {i : Nat} (hi : i < l.length) :
    a[i]? = some (some l[i]) := by
  rw [h i hi, List.getElem?_eq_getElem hi]

theorem Holds.written {a : Store} {l : List Val} (h : Holds a l) {i : Nat} (hi : i < l.length) :
    ∃ v, a[i]? = some (some v) := ⟨_, h.cell hi⟩

theorem Holds.nil (a : Store) : Holds a [] := fun _ hi => absurd hi (Nat.not_lt_zero _)

theorem Holds.take {a : Store} {l : List Val} (h : Holds a l) (n : Nat) : Holds a (l.take n) := by
  intro i hi
  rw [List.length_take] at hi
  rw [List.getElem?_take_of_lt (by omega)]
  exact h i (by omega)

theorem Holds.contents_eq {a : Store} {l : List Val} (h : Holds a l) :
    (List.range l.length).mapM (rd a) = .ok l := by
  rw [mapM_ok (rd a) (fun i => l[i]?.getD 0) _ (fun i hi => by
    have hi := List.mem_range.mp hi
    rw [rd_ok (h.cell hi), List.getElem?_eq_getElem hi]; rfl)]
  congr 1
  apply List.ext_getElem?
  intro j
  by_cases hj : j < l.length <;> simp [hj]

theorem copyLoop_spec (src dst : Store) (n : Nat) (hd : n ≤ dst.length)
    (hinit : ∀ i, i < n → ∃ v, src[i]? = some (some v)) :
    ∃ d, copyLoop src dst n = .ok d ∧ d.length = dst.length ∧
      ∀ j, d[j]? = if j < n then src[j]? else dst[j]? := by
  refine foldlM_range_inv _
    (fun k d => d.length = dst.length ∧ ∀ j, d[j]? = if j < k then src[j]? else dst[j]?)
    n dst ⟨rfl, fun j => by simp⟩ ?_
  intro k d hk ⟨hl, hp⟩
  obtain ⟨v, hv⟩ := hinit k hk
  refine ⟨_, rd_wr_ok hv (by omega), by simp [hl], fun j => ?_⟩
  rw [List.getElem?_set, hp j]
  by_cases hjk : k = j
  · subst hjk; simp [hl, hv]; omega
  · by_cases h1 : j < k
    · simp [hjk, h1, Nat.lt_succ_of_lt h1]
    · simp [hjk, h1, show ¬ j < k + 1 by omega]

theorem Holds.copy {a : Store} {l : List Val} (h : Holds a l) {c : Nat} (hc : l.length ≤ c) :
    ∃ d, copyLoop a (List.replicate c none) l.length = .ok d ∧ d.length = c ∧ Holds d l := by
  obtain ⟨d, hd, hl, hp⟩ := copyLoop_spec a (List.replicate c none) l.length (by simpa using hc)
    (fun i hi => h.written hi)
  exact ⟨d, hd, by simpa using hl, fun i hi => by rw [hp i, if_pos hi]; exact h i hi⟩

theorem Holds.clearLoop_eq {a : Store} {l : List Val} (h : Holds a l) :
    clearLoop a l.length = .ok (l.filter (· ≠ 0)) := by
  obtain ⟨fr, hf, hp⟩ := foldlM_range_inv
    (fun fr i => do let v ← rd a i; pure (if v ≠ 0 then fr ++ [v] else fr))
    (fun k fr => fr = (l.take k).filter (· ≠ 0))
    l.length [] (by simp)
    (by
      intro k fr hk hp
      refine ⟨_, by rw [rd_ok (h.cell hk)]; rfl, ?_⟩
      rw [List.take_add_one, List.filter_append, ← hp]
      by_cases h0 : l[k] = 0 <;> simp [hk, h0])
  unfold clearLoop
  rw [hf, hp, List.take_length]

theorem decompose_keyed {κ β : Type} {l : List (κ × β)} {k : κ} {v : β} (hm : (k, v) ∈ l)
    (hnd : (l.map (·.1)).Nodup) :
    ∃ L1 L2, l = L1 ++ (k, v) :: L2 ∧ k ∉ L1.map (·.1) ∧ k ∉ L2.map (·.1) := by
  obtain ⟨L1, L2, rfl⟩ := List.append_of_mem hm
  simp only [List.map_append, List.map_cons, List.nodup_append, List.nodup_cons] at hnd
  exact ⟨L1, L2, rfl, fun h => hnd.2.2 k h k (by simp) rfl, hnd.2.1.1⟩

theorem filter_keyed {κ β : Type} [DecidableEq κ] {k : κ} {v : β} (L1 L2 : List (κ × β))
    (h1 : k ∉ L1.map (·.1)) (h2 : k ∉ L2.map (·.1)) :
    (L1 ++ (k, v) :: L2).filter (fun a => a.1 ≠ k) = L1 ++ L2 := by
  have f : ∀ L : List (κ × β), k ∉ L.map (·.1) → L.filter (fun a => a.1 ≠ k) = L := by
    intro L hL
    apply List.filter_eq_self.mpr
    intro a ha
    simpa using fun e : a.1 = k => hL (List.mem_map.mpr ⟨a, ha, e⟩)
  rw [List.filter_append, List.filter_cons, f L1 h1, f L2 h2]
  simp

end MgProof.C11
