import MgModel.C11.LinkedList
import MgProof.C11.LemmasSurgery
/-! The memory of linked list and queue: the invariant `MInv`, how a node comes in at a cut and goes
out, and the reference-sequence functions on a sequence split at a handle. -/
namespace MgProof.C11.LL
open MgModel.C11 MgModel.C11.LL MgProof.C11.Link

/-- handles of a reference sequence -/
def ids (l : Spec) : List Ref := l.map (·.1)

/-- the chain of cells representing `l` -/
def path (l : Spec) : List Ref := Ref.head :: (ids l ++ [Ref.tail])

/-- **Representation invariant** (shared by linked list and queue: same memory layout) -/
structure MInv (m : DMem Val) (l : Spec) : Prop where
  chain : Chain (nxt m) (prv m) (path l)
  vals  : ∀ r v, (r, v) ∈ l → valOf m r = some v

variable {m : DMem Val} {l : Spec}

@[simp] theorem ids_nil : ids [] = [] := rfl
@[simp] theorem ids_cons (a : Ref × Val) (l : Spec) : ids (a :: l) = a.1 :: ids l := rfl
@[simp] theorem ids_append (L1 L2 : Spec) : ids (L1 ++ L2) = ids L1 ++ ids L2 := List.map_append
@[simp] theorem length_ids (l : Spec) : (ids l).length = l.length := List.length_map _

/-- the memory after `*_init` represents the empty sequence -/
theorem minv_empty : MInv ⟨⟨none, some .tail, 0⟩, ⟨some .head, none, 0⟩, []⟩ [] :=
  ⟨⟨by simp [path], by simp [path, Link.Links, nxt, prv, DMem.get]⟩, by simp⟩

theorem mem_ids_at (L1 L2 : Spec) (a : Ref × Val) : a.1 ∈ ids (L1 ++ a :: L2) := by
  rw [ids_append, ids_cons]; exact List.mem_append_right _ List.mem_cons_self

theorem head?_ids_tail (l : Spec) : ∃ n, (ids l ++ [Ref.tail]).head? = some n := by
  cases l <;> exact ⟨_, rfl⟩

theorem path_cut (L1 L2 : Spec) :
    path (L1 ++ L2) = (Ref.head :: ids L1) ++ (ids L2 ++ [Ref.tail]) := by
  rw [path, ids_append, List.append_assoc]; rfl

theorem path_at (L1 L2 : Spec) (a : Ref × Val) :
    path (L1 ++ a :: L2) = (Ref.head :: ids L1) ++ a.1 :: (ids L2 ++ [Ref.tail]) := by
  rw [path_cut]; rfl

theorem mem_ids {l : Spec} {r : Ref} (h : r ∈ ids l) : ∃ v, (r, v) ∈ l := by
  simp only [ids, List.mem_map] at h
  obtain ⟨⟨r', v⟩, hm, rfl⟩ := h
  exact ⟨v, hm⟩

theorem mem_path {l : Spec} {r : Ref} {v : Val} (h : (r, v) ∈ l) : r ∈ path l := by
  exact List.mem_cons_of_mem _ (List.mem_append_left _ (List.mem_map.mpr ⟨_, h, rfl⟩))

theorem MInv.live (inv : MInv m l) {r : Ref} (h : r ∈ ids l) :
    Live m r := by
  obtain ⟨v, hv⟩ := mem_ids h
  exact live_of_valOf (inv.vals r v hv)

theorem MInv.ids_nodup (inv : MInv m l) : (ids l).Nodup :=
  (List.nodup_append.mp (List.nodup_cons.mp inv.chain.nodup).2).1

theorem MInv.is_node (inv : MInv m l) {n : Ref} (h : n ∈ ids l) :
    ∃ i, n = .node i := spine_is_node inv.chain.nodup h

/-- chain cells are live and a live `node i` has `i < cells.length` (`live_node_lt`): the next cell to
be allocated is on no chain, and (`length_le`) the fuel `cells.length + 1` of the walks and loops suffices -/
theorem MInv.fresh (inv : MInv m l) :
    Ref.node m.cells.length ∉ path l := by
  intro h
  simp only [path, List.mem_cons, List.mem_append, List.not_mem_nil, reduceCtorEq, false_or,
    or_false] at h
  exact Nat.lt_irrefl _ (live_node_lt (inv.live h))

theorem MInv.length_le (inv : MInv m l) : l.length ≤ m.cells.length := by
  have h1 : (ids l).length ≤ ((List.range m.cells.length).map Ref.node).length := by
    apply List.Nodup.length_le_of_subset inv.ids_nodup
    intro r hr
    obtain ⟨i, rfl⟩ := inv.is_node hr
    simp only [List.mem_map, List.mem_range]
    exact ⟨i, live_node_lt (inv.live hr), rfl⟩
  simpa using h1

theorem MInv.first (inv : MInv m l) :
    m.head.next = (ids l ++ [Ref.tail]).head? := spine_first inv.chain

theorem MInv.last (inv : MInv m l) :
    m.tail.prev = (Ref.head :: ids l).getLast? := spine_last inv.chain

theorem MInv.cell {m : DMem Val} {L1 L2 : Spec} {n : Ref} {v0 : Val}
    (inv : MInv m (L1 ++ (n, v0) :: L2)) :
    ∃ c, m.get n = .ok c ∧ c.val = v0 ∧ c.next = (ids L2 ++ [Ref.tail]).head? ∧
      c.prev = (Ref.head :: ids L1).getLast? := by
  obtain ⟨c, hc, hn, hp, hv⟩ := get_of_live (inv.live (mem_ids_at L1 L2 (n, v0)))
  obtain ⟨A, p, hP⟩ := exists_concat (X := Ref.head :: ids L1) (by simp)
  obtain ⟨n', B, hN⟩ := List.exists_cons_of_ne_nil (l := ids L2 ++ [Ref.tail]) (by simp)
  have ch := inv.chain
  rw [path_at, hP, hN] at ch
  refine ⟨c, hc, Option.some.inj (hv.trans (inv.vals n v0 (by simp))), ?_, ?_⟩
  · rw [hn, hN]; exact (chain_adj ch).1
  · rw [hp, hP, List.getLast?_concat]
    exact (chain_adj (by simpa using ch : Chain _ _ (A ++ p :: n :: n' :: B))).2.1

theorem MInv.readCells (inv : MInv m l) :
    (ids l).mapM m.readCell = .ok l := by
  have := mapM_map_ok m.readCell (·.1) id l (fun a ha => readCell_of_valOf (inv.vals a.1 a.2 ha))
  rwa [List.map_id] at this

theorem MInv.walks (inv : MInv m l) :
    (∃ first, m.head.next = some first ∧ m.walkFwd (m.cells.length + 1) first = .ok (ids l)) ∧
    (∃ last, m.tail.prev = some last ∧
      m.walkBwd (m.cells.length + 1) last = .ok (ids l).reverse) :=
  spine_walks inv.chain (by rw [length_ids]; exact inv.length_le)

/-- the `vals` half of `MInv` after a link-in -/
theorem MInv.link_in {m m2 m6 : DMem Val} {L1 L2 : Spec} {nw : Ref} {v : Val}
    (inv : MInv m (L1 ++ L2)) (hnw : nw ∉ path (L1 ++ L2))
    (hv2 : ∀ q, valOf m2 q = if q = nw then some v else valOf m q)
    (hc : Chain (nxt m6) (prv m6) (path (L1 ++ (nw, v) :: L2))) (hl : Linked m2 m6) :
    MInv m6 (L1 ++ (nw, v) :: L2) := by
  refine ⟨hc, fun r x hx => ?_⟩
  rw [hl.vals, hv2]
  have hx' : (r, x) ∈ L1 ++ L2 ∨ (r, x) = (nw, v) := by
    simp only [List.mem_append, List.mem_cons] at hx ⊢
    rcases hx with h | h | h
    · exact Or.inl (Or.inl h)
    · exact Or.inr h
    · exact Or.inl (Or.inr h)
  rcases hx' with h | h
  · rw [if_neg (fun e : r = nw => hnw (e ▸ mem_path h)), inv.vals r x h]
  · injection h with h1 h2; rw [if_pos h1, h2]

/-- `link_in` with the path already split at `p`, `n` -/
theorem MInv.linked {m m2 m6 : DMem Val} {L1 L2 : Spec} {A B : List Ref} {p n nw : Ref} {v : Val}
    (inv : MInv m (L1 ++ L2)) (hnw : nw ∉ path (L1 ++ L2))
    (hP : Ref.head :: ids L1 = A ++ [p]) (hN : ids L2 ++ [Ref.tail] = n :: B)
    (hv2 : ∀ q, valOf m2 q = if q = nw then some v else valOf m q)
    (hc : Chain (nxt m6) (prv m6) (A ++ p :: nw :: n :: B)) (hl : Linked m2 m6) :
    MInv m6 (L1 ++ (nw, v) :: L2) :=
  inv.link_in hnw hv2 (by rw [path_at, hP, hN]; simpa using hc) hl

/-- **A new element at a cut**: alloc, store the datum, link the node in between `L1` and `L2` by
whichever surgery `link` puts a new live cell into a chain at that cut. The chain of the memory
before the link-in is handed back for the callers that read a sentinel's pointer from it. -/
theorem MInv.insert_cut {m : DMem Val} {L1 L2 : Spec} (inv : MInv m (L1 ++ L2)) (v : Val)
    (link : DMem Val → Except Err (DMem Val))
    (hlink : ∀ m2, Chain (nxt m2) (prv m2) ((Ref.head :: ids L1) ++ (ids L2 ++ [Ref.tail])) →
      Ref.node m.cells.length ∉ (Ref.head :: ids L1) ++ (ids L2 ++ [Ref.tail]) →
      Live m2 (.node m.cells.length) →
      ∃ m6, link m2 = .ok m6 ∧ Chain (nxt m6) (prv m6)
        ((Ref.head :: ids L1) ++ .node m.cells.length :: (ids L2 ++ [Ref.tail])) ∧ Linked m2 m6) :
    ∃ m2 m6, (m.alloc 0).1.setVal (.node m.cells.length) v = .ok m2 ∧
      Chain (nxt m2) (prv m2) (path (L1 ++ L2)) ∧ link m2 = .ok m6 ∧
      MInv m6 (L1 ++ (.node m.cells.length, v) :: L2) ∧
      m6.cells.length = m.cells.length + 1 := by
  obtain ⟨a3, a4, a5, a6, a7, _⟩ := alloc_fn m (0 : Val)
  obtain ⟨m2, h2, l2, n2, p2, v2, lv2⟩ := setVal_fn a3 v
  have hfresh := inv.fresh
  have c2 : Chain (nxt m2) (prv m2) (path (L1 ++ L2)) :=
    chain_frame hfresh (fun q hq => by rw [n2, a5, if_neg hq]) (fun q hq => by rw [p2, a6, if_neg hq])
      inv.chain
  obtain ⟨m6, h6, c6, l6⟩ := hlink m2 (path_cut .. ▸ c2) (path_cut .. ▸ hfresh) ((lv2 _).mpr a3)
  refine ⟨m2, m6, h2, c2, h6, inv.link_in hfresh (fun q => ?_) (by rw [path_at]; exact c6) l6,
    by rw [l6.len, l2, a4]⟩
  rw [v2, a7]
  by_cases hq : q = .node m.cells.length <;> simp [hq]

/-- `m1` differs from `m` at most in the payload of `n` (`*_free_data` zeroes it) -/
structure PayloadOnly (m m1 : DMem Val) (n : Ref) : Prop where
  len  : m1.cells.length = m.cells.length
  nxt  : ∀ q, nxt m1 q = nxt m q
  prv  : ∀ q, prv m1 q = prv m q
  vals : ∀ q, q ≠ n → valOf m1 q = valOf m q
  live : ∀ q, Live m1 q ↔ Live m q

theorem PayloadOnly.refl (m : DMem Val) (n : Ref) : PayloadOnly m m n :=
  ⟨rfl, fun _ => rfl, fun _ => rfl, fun _ _ => rfl, fun _ => Iff.rfl⟩

theorem freeData_mem {m : DMem Val} {n : Ref} {v0 : Val} (hval : valOf m n = some v0) :
    ∃ c m1, m.get n = .ok c ∧ c.val = v0 ∧ m.setVal n 0 = .ok m1 ∧ PayloadOnly m m1 n := by
  obtain ⟨c, hc, hcv⟩ := get_of_valOf hval
  obtain ⟨m1, h1, l1, n1, p1, v1, lv1⟩ := setVal_fn (live_of_valOf hval) (0 : Val)
  exact ⟨c, m1, hc, hcv, h1, l1, n1, p1,
    fun q hq => by rw [v1, if_neg hq], lv1⟩

/-- `*_free_node` (for `remove`, `dequeue`, `clear`), from any memory that differs from the
represented one at most in the payload of the element -/
theorem MInv.remove_node {m m1 : DMem Val} {L1 L2 : Spec} {i : Nat} {v0 : Val}
    (inv : MInv m (L1 ++ (Ref.node i, v0) :: L2)) (h1 : PayloadOnly m m1 (.node i)) :
    ∃ m4 m5, m1.unlink (.node i) = .ok m4 ∧ m4.free (.node i) = .ok m5 ∧
      MInv m5 (L1 ++ L2) ∧ m5.cells.length = m.cells.length := by
  have c1 : Chain (nxt m1) (prv m1) (path (L1 ++ (Ref.node i, v0) :: L2)) :=
    chain_congr (fun x _ => h1.nxt x) (fun x _ => h1.prv x) inv.chain
  have hnotin : Ref.node i ∉ path (L1 ++ L2) := by
    have hnd := c1.nodup
    rw [path_at, List.perm_middle.nodup_iff, ← path_cut] at hnd
    exact (List.nodup_cons.mp hnd).1
  rw [path_at] at c1
  obtain ⟨m4, h4, c4, l4⟩ := unlink_spec c1 (by simp) (by simp)
  rw [← path_cut] at c4
  have hlive : Live m4 (.node i) := by
    rw [l4.live, h1.live]
    exact inv.live (mem_ids_at L1 L2 _)
  obtain ⟨m5, h5, len5, n5, p5, v5, _, _⟩ := free_fn hlive
  refine ⟨m4, m5, h4, h5, ⟨?_, fun r x hx => ?_⟩, by rw [len5, l4.len, h1.len]⟩
  · exact chain_frame hnotin n5 p5 c4
  · have hr : r ≠ .node i := fun h => hnotin (h ▸ mem_path hx)
    rw [v5 r hr, l4.vals, h1.vals r hr]
    apply inv.vals
    simp only [List.mem_append, List.mem_cons] at hx ⊢
    exact hx.elim Or.inl (fun h => Or.inr (Or.inr h))

/-! ### the reference-sequence functions on a decomposition `L1 ++ (n, v0) :: L2` -/

theorem decompose {l : Spec} {n : Ref} (hn : n ∈ ids l) (hnd : (ids l).Nodup) :
    ∃ L1 v0 L2, l = L1 ++ (n, v0) :: L2 ∧ n ∉ ids L1 ∧ n ∉ ids L2 := by
  obtain ⟨v0, hv⟩ := mem_ids hn
  obtain ⟨L1, L2, h⟩ := decompose_keyed hv hnd
  exact ⟨L1, v0, L2, h⟩

theorem not_mem_ids_cons {n : Ref} {a : Ref × Val} {L : Spec} (h : n ∉ ids (a :: L)) :
    ¬ a.1 = n ∧ n ∉ ids L := by
  rw [ids_cons, List.mem_cons, not_or] at h
  exact ⟨fun e => h.1 e.symm, h.2⟩

theorem insBefore_split {n : Ref} {x : Ref × Val} {v0 : Val} (L1 L2 : Spec) (h : n ∉ ids L1) :
    insBefore n x (L1 ++ (n, v0) :: L2) = L1 ++ x :: (n, v0) :: L2 := by
  induction L1 with
  | nil => simp [insBefore]
  | cons a L1 ih =>
    obtain ⟨ha, h'⟩ := not_mem_ids_cons h
    simp only [List.cons_append, insBefore, if_neg ha, ih h']

theorem insAfter_split {n : Ref} {x : Ref × Val} {v0 : Val} (L1 L2 : Spec) (h : n ∉ ids L1) :
    insAfter n x (L1 ++ (n, v0) :: L2) = L1 ++ (n, v0) :: x :: L2 := by
  induction L1 with
  | nil => simp [insAfter]
  | cons a L1 ih =>
    obtain ⟨ha, h'⟩ := not_mem_ids_cons h
    simp only [List.cons_append, insAfter, if_neg ha, ih h']

theorem succOf_split {n : Ref} {v0 : Val} (L1 L2 : Spec) (h : n ∉ ids L1) :
    succOf n (L1 ++ (n, v0) :: L2) = L2.head?.map (·.1) := by
  induction L1 with
  | nil => simp [succOf]
  | cons a L1 ih =>
    obtain ⟨ha, h'⟩ := not_mem_ids_cons h
    simp only [List.cons_append, succOf, if_neg ha, ih h']

theorem dataOf_split {n : Ref} {v0 : Val} (L1 L2 : Spec) (h : n ∉ ids L1) :
    dataOf n (L1 ++ (n, v0) :: L2) = some v0 := by
  induction L1 with
  | nil => simp [dataOf]
  | cons a L1 ih =>
    obtain ⟨ha, h'⟩ := not_mem_ids_cons h
    simp only [List.cons_append, dataOf, if_neg ha, ih h']

theorem dropWhile_split {n : Ref} {v0 : Val} (L1 L2 : Spec) (h : n ∉ ids L1) :
    (L1 ++ (n, v0) :: L2).dropWhile (fun a => a.1 ≠ n) = (n, v0) :: L2 := by
  induction L1 with
  | nil => simp
  | cons a L1 ih =>
    obtain ⟨ha, h'⟩ := not_mem_ids_cons h
    simp only [List.cons_append, List.dropWhile_cons, ne_eq, ha, not_false_eq_true, decide_true,
      if_true, ih h']

theorem predOf_none {n : Ref} (l : Spec) (a : Ref × Val) (h : n ∉ ids l) :
    predOf n (a :: l) = none := by
  induction l generalizing a with
  | nil => rfl
  | cons b l ih =>
    obtain ⟨hb, h'⟩ := not_mem_ids_cons h
    simp only [predOf, if_neg hb, ih b h']

theorem predOf_split {n : Ref} {v0 : Val} (L1 L2 : Spec) (h : n ∉ ids L1) (h2 : n ∉ ids L2) :
    predOf n (L1 ++ (n, v0) :: L2) = L1.getLast?.map (·.1) := by
  induction L1 with
  | nil => simpa using predOf_none L2 (n, v0) h2
  | cons a L1 ih =>
    obtain ⟨_, h'⟩ := not_mem_ids_cons h
    cases L1 with
    | nil => simp [predOf]
    | cons b L1' =>
      have := ih h'
      simp only [List.cons_append, predOf, if_neg (not_mem_ids_cons h').1] at this ⊢
      rw [this]; simp

end MgProof.C11.LL
