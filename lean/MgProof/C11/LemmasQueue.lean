import MgModel.C11.Queue
import MgProof.C11.LemmasLLOps
/-! The queue (`queue.c`). Its C struct has the fields of the linked list's, and `queue.c` repeats
`linked_list.c` function by function (`enqueue` is `append` behind the last node); so the queue
model is mapped onto the list model (`toLL`, the `*_eq` lemmas) and its calls are the list's; only
`dequeue`, `front` and `is_empty` are proved here. -/
namespace MgProof.C11.Q
open MgModel.C11 MgModel.C11.Q
open MgProof.C11.LL (MInv ids)

structure Inv (s : Queue) (l : Spec) : Prop where
  mem   : MInv s.mem l
  size  : s.size = l.length
  small : l.length < 2 ^ 64

variable {s : Queue} {l : Spec}

def toLL (s : Queue) : LL.LL := ⟨s.mem, s.pool, s.size⟩
def ofLL (s : LL.LL) : Queue := ⟨s.mem, s.pool, s.size⟩
@[simp] theorem toLL_ofLL (s : LL.LL) : toLL (ofLL s) = s := rfl

theorem Inv.toLL (inv : Inv s l) : LL.Inv (toLL s) l :=
  ⟨inv.mem, inv.size, inv.small⟩
theorem inv_ofLL {s : LL.LL} {l : Spec} (inv : LL.Inv s l) : Inv (ofLL s) l :=
  ⟨inv.mem, inv.size, inv.small⟩

theorem init_eq (c : Nat) : init c = (LL.init c).map ofLL := by
  unfold init LL.init
  split
  · split <;> rfl
  · rfl

theorem freeNode_eq (s : Queue) (n : Ref) : freeNode s n = ofLL <$> LL.freeNode (toLL s) n := by
  simp only [freeNode, LL.freeNode, map_bind, map_pure]; rfl

theorem freeData_eq (s : Queue) (n : Ref) (fr : Bool) :
    freeData s n fr = (fun p => (ofLL p.1, p.2)) <$> LL.freeData (toLL s) n fr := by
  simp only [freeData, LL.freeData, map_bind]
  congr; funext c
  split <;> simp only [map_bind, map_pure] <;> rfl

theorem clearLoop_eq (fr : Bool) : ∀ (fuel : Nat) (s : Queue) (node : Ref) (freed : List Val),
    Q.clearLoop fr fuel s node freed =
      (fun p => (ofLL p.1, p.2)) <$> LL.clearLoop fr fuel (toLL s) node freed
  | 0, _, _, _ => rfl
  | f + 1, s, node, freed => by
    unfold Q.clearLoop LL.clearLoop
    split
    · rfl
    · simp only [map_bind, freeData_eq, freeNode_eq, bind_map_left, clearLoop_eq fr f, toLL_ofLL]
      rfl

theorem clear_eq (s : Queue) (fr : Bool) :
    clear s fr = (fun p => (ofLL p.1, p.2)) <$> LL.clear (toLL s) fr := by
  simp only [clear, LL.clear, map_bind, clearLoop_eq, bind_map_left, map_pure]; rfl

theorem enqueue_eq (s : Queue) (v : Val) :
    enqueue s v = (fun p => (ofLL p.1, p.2)) <$> LL.append (toLL s) none v := by
  simp only [enqueue, LL.append, LL.allocateNode, map_bind, map_pure]; rfl

theorem inv_init {c : Nat} {s : Queue} (h : init c = some s) :
    Inv s [] ∧ s.mem.cells.length = 0 := by
  rw [init_eq] at h
  obtain ⟨s0, h0, rfl⟩ := Option.map_eq_some_iff.mp h
  exact ⟨inv_ofLL (LL.inv_init h0).1, (LL.inv_init h0).2⟩

theorem enqueue_refines (inv : Inv s l) (v : Val)
    (hsmall : l.length + 1 < 2 ^ 64) :
    ∃ s', enqueue s v = .ok (s', .node s.mem.cells.length) ∧
      Inv s' (specEnqueue l (.node s.mem.cells.length) v) ∧
      s'.mem.cells.length = s.mem.cells.length + 1 := by
  obtain ⟨s', h, inv', hlen⟩ := LL.append_refines inv.toLL none (fun _ h => nomatch h) v hsmall
  exact ⟨ofLL s', by rw [enqueue_eq, h]; rfl, inv_ofLL inv', hlen⟩

theorem clear_refines (inv : Inv s l) (fr : Bool) :
    ∃ s', clear s fr = .ok (s', (specClear l fr).2) ∧ Inv s' (specClear l fr).1 ∧
      s'.mem.cells.length = s.mem.cells.length := by
  obtain ⟨s', h, inv', hlen⟩ := LL.clear_refines inv.toLL fr
  exact ⟨ofLL s', by rw [clear_eq, h]; rfl, inv_ofLL inv', hlen⟩

theorem toList_refines (inv : Inv s l) :
    toList s = .ok l ∧ toListRev s = .ok (ids l).reverse := LL.toList_refines inv.toLL

theorem isEmpty_iff (inv : Inv s l) : isEmpty s = true ↔ l = [] := by
  unfold isEmpty
  rw [inv.mem.first]
  cases l with
  | nil => simp
  | cons a l' =>
    obtain ⟨i, hi⟩ := inv.mem.is_node (n := a.1) List.mem_cons_self
    simp [hi]

theorem dequeue_refines (inv : Inv s l) (fr : Bool) :
    ∃ s', dequeue s fr = .ok (s', (specDequeue l fr).2) ∧ Inv s' (specDequeue l fr).1 ∧
      s'.mem.cells.length = s.mem.cells.length := by
  have he := isEmpty_iff inv
  have hf := inv.mem.first
  cases l with
  | nil => exact ⟨s, by simp [dequeue, he.mpr rfl, specDequeue], inv, rfl⟩
  | cons a l' =>
    obtain ⟨n, v0⟩ := a
    obtain ⟨i, rfl⟩ := inv.mem.is_node (n := n) List.mem_cons_self
    obtain ⟨s1, s2, hfd, hfn, inv', hlen⟩ := LL.release_spec (L1 := []) inv.toLL fr
    exact ⟨ofLL s2,
      by simp [dequeue, he, hf, deref, freeData_eq, freeNode_eq, hfd, hfn, specDequeue],
      inv_ofLL inv', hlen⟩

theorem front_refines (inv : Inv s l) :
    front s = .ok (specFront l) := by
  have he := isEmpty_iff inv
  have hf := inv.mem.first
  cases l with
  | nil => simp [front, he.mpr rfl, specFront]
  | cons a l' =>
    obtain ⟨c, hc, hcv⟩ := get_of_valOf (inv.mem.vals a.1 a.2 List.mem_cons_self)
    simp [front, he, hf, deref, hc, hcv, specFront]

theorem specStep_length (l : Spec) (k : Nat) (op : Op) : (specStep l k op).1.length ≤ l.length + 1 := by
  cases op <;> simp [specStep, specEnqueue, specClear]
  cases l <;> simp [specDequeue]; omega

end MgProof.C11.Q
