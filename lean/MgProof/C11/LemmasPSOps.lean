import MgProof.C11.LemmasPS
/-! The pointer slot (`pointer_slot.c`, arrays sized by the rounded capacity): one refinement lemma per C function, on the
invariant with its ghost values. Insert and remove split into the ring of free slots
(`Ring.pop` / `Ring.push`) and the memory (the chain surgery and the slot descriptors). -/
namespace MgProof.C11.PS
open MgModel.C11 MgModel.C11.PS MgProof.C11.Link

theorem refs_append (L1 L2 : Spec) : refs (L1 ++ L2) = refs L1 ++ refs L2 := by simp [refs]

theorem specLive_iff (l : Spec) (i : Nat) : specLive l i = true ↔ i ∈ idxs l := by
  simp [specLive, idxs]

theorem specGet_of_mem {l : Spec} {idx : Nat} {d : Val} (hnd : (idxs l).Nodup)
    (h : (idx, d) ∈ l) : specGet l idx = d := by
  obtain ⟨L1, L2, rfl, hn1, -⟩ := decompose_keyed h hnd
  have : L1.find? (fun e => decide (e.1 = idx)) = none :=
    List.find?_eq_none.mpr fun e he hp => hn1 (List.mem_map.mpr ⟨e, he, by simpa using hp⟩)
  simp [specGet, List.find?_append, this]

theorem specGet_of_not_mem {l : Spec} {idx : Nat} (h : idx ∉ idxs l) : specGet l idx = 0 := by
  have : l.find? (fun e => decide (e.1 = idx)) = none :=
    List.find?_eq_none.mpr fun e he hp => h (List.mem_map.mpr ⟨e, he, by simpa using hp⟩)
  simp [specGet, this]

theorem specLive_filter (l : Spec) (idx : Nat) :
    specLive (l.filter (fun a => a.1 ≠ idx)) idx = false := by
  rw [← Bool.not_eq_true, specLive_iff, idxs, List.mem_map]
  rintro ⟨e, he, rfl⟩
  simpa using (List.mem_filter.mp he).2

theorem specRemove_twice (cap : Nat) (l : Spec) (idx : Nat) :
    specRemove cap (specRemove cap l idx).1 idx =
      ((specRemove cap l idx).1, if idx ≥ cap then .beyondRange else .dupFree) := by
  by_cases hge : idx ≥ cap
  · simp [specRemove, hge]
  · by_cases hl : specLive l idx = true
    · have hf := specLive_filter l idx
      simp only [specRemove, hge, if_false, hl, if_true, hf]
      simp
    · have hl' : specLive l idx = false := by simpa using hl
      simp [specRemove, hge, hl']

theorem SlotsOk.update {m m' : DMem SlotVal} {cap k : Nat} {l l' : Spec} {sv' : SlotVal}
    (hs : SlotsOk m cap l) (hv : ∀ q, valOf m' q = if q = .node k then some sv' else valOf m q)
    (hk : sv'.slotIdx = k ∧
      ((sv'.inUsed = 1 ∧ (k, sv'.data) ∈ l') ∨ (sv'.inUsed = 0 ∧ k ∉ idxs l')))
    (hmem : ∀ i d, i ≠ k → (i, d) ∈ l → (i, d) ∈ l')
    (hnot : ∀ i, i ≠ k → i ∉ idxs l → i ∉ idxs l') : SlotsOk m' cap l' := by
  intro i hi
  by_cases hik : i = k
  · subst hik; exact ⟨sv', by rw [hv, if_pos rfl], hk⟩
  · obtain ⟨sv, hsv, hidx, hused⟩ := hs i hi
    refine ⟨sv, by rw [hv, if_neg (fun h => hik (Ref.node.inj h)), hsv], hidx, ?_⟩
    exact hused.imp (fun h => ⟨h.1, hmem i _ hik h.2⟩) (fun h => ⟨h.1, hnot i hik h.2⟩)

theorem insert_refines {s : PS} {l : Spec} {A F : Nat} {fl : List Nat} (inv : PInv s l A F fl)
    (data : Val) :
    (l.length < s.capacity → ∃ s' k fl', PS.insert s data = .ok (s', some k) ∧ k < s.capacity ∧
        k ∉ idxs l ∧ PInv s' (l ++ [(k, data)]) (A + 1) F fl' ∧ s'.capacity = s.capacity) ∧
    (l.length = s.capacity → PS.insert s data = .ok (s, none)) := by
  obtain ⟨hpos, -⟩ := inv.ring_pos
  have r := inv.ring
  have hlen := inv.fl_len
  refine ⟨fun hlt => ?_, fun hfull => ?_⟩
  · cases fl with
    | nil => simp at hlen; omega
    | cons k t =>
      obtain ⟨hpp, hkM, hkl, r'⟩ := r.pop
      obtain ⟨sv, hsv, hidx, hused⟩ := inv.slots k hkM
      have hu0 : sv.inUsed = 0 := hused.elim (fun h => absurd (List.mem_map.mpr ⟨_, h.2, rfl⟩) hkl)
        (·.1)
      have hlive := live_of_valOf hsv
      obtain ⟨c, hc, rfl⟩ := get_of_valOf hsv
      obtain ⟨m6, h6, c6, l6⟩ := linkTail_spec (X := Ref.head :: refs l) inv.chain (by simp)
        (not_mem_ppath hkl) hlive
      have hsv6 : valOf m6 (.node k) = some c.val := by rw [l6.vals]; exact hsv
      obtain ⟨c6', hc6, hcv6⟩ := get_of_valOf hsv6
      obtain ⟨m7, h7, l7, n7, p7, v7, lv7⟩ := setVal_fn (live_of_valOf hsv6)
        ({ slotIdx := k, inUsed := 1, data := data } : SlotVal)
      refine ⟨{ s with mem := m7, allocIndex := s.allocIndex + 1 }, k, t, ?_, hkM, hkl, ?_, rfl⟩
      · simp [PS.insert, hpos, hpp, hc, show ¬ c.val.inUsed = 1 by omega, h6, hc6, hcv6, h7,
          hidx]
      · refine .of_ring (by rw [idxs_append]; exact r') inv.pow (toNat_succ inv.a_eq) inv.f_eq
          (by simp only [l7, l6.len]; exact inv.cells_len) ?_ ?_ ?_
        · have e : ppath (l ++ [(k, data)]) = (Ref.head :: refs l) ++ [Ref.node k, Ref.tail] := by
            simp [ppath, refs]
          rw [e]
          exact chain_congr (fun x _ => n7 x) (fun x _ => p7 x) c6
        · intro e he
          rcases List.mem_append.mp he with he | he
          · exact inv.lt e he
          · rw [List.mem_singleton.mp he]; exact hkM
        · refine SlotsOk.update (sv' := ⟨k, 1, data⟩) inv.slots (fun q => by rw [v7, l6.vals])
            ⟨rfl, Or.inl ⟨rfl, by simp⟩⟩
            (fun i d _ h => List.mem_append_left _ h) (fun i hik h => ?_)
          rw [idxs_append, List.mem_append, not_or]; exact ⟨h, fun e => hik (List.mem_singleton.mp e)⟩
  · obtain rfl : fl = [] := List.eq_nil_of_length_eq_zero (by omega)
    obtain ⟨x, hx, hxM, hxl⟩ := r.full inv.cap_pos
    obtain ⟨sv, hsv, hidx, hused⟩ := inv.slots x hxM
    have hu1 : sv.inUsed = 1 := hused.elim (·.1) (fun h => absurd hxl h.2)
    obtain ⟨c, hc, rfl⟩ := get_of_valOf hsv
    simp [PS.insert, hpos, hx, hc, hu1]

theorem remove_refines {s : PS} {l : Spec} {A F : Nat} {fl : List Nat} (inv : PInv s l A F fl)
    (idx : Nat) :
    ∃ s' F' fl', PS.remove s idx = .ok (s', (specRemove s.capacity l idx).2) ∧
      PInv s' (specRemove s.capacity l idx).1 A F' fl' ∧ s'.capacity = s.capacity := by
  obtain ⟨-, hposF⟩ := inv.ring_pos
  by_cases hge : idx ≥ s.capacity
  · exact ⟨s, F, fl, by simp [PS.remove, specRemove, hge], by simpa [specRemove, hge] using inv, rfl⟩
  have hlt : idx < s.capacity := by omega
  obtain ⟨sv, hsv, hidx, hused⟩ := inv.slots idx hlt
  obtain ⟨c, hc, rfl⟩ := get_of_valOf hsv
  rcases hused with ⟨hu1, hm⟩ | ⟨hu0, hn⟩
  · -- a live entry: it leaves the chain, its slot goes back into the ring
    obtain ⟨L1, L2, rfl, hn1, hn2⟩ := decompose_keyed hm inv.idxs_nodup
    have hlive : specLive (L1 ++ (idx, c.val.data) :: L2) idx = true :=
      (specLive_iff _ _).mpr (by rw [idxs_append]; exact List.mem_append_right _ List.mem_cons_self)
    obtain ⟨hFlt, r'⟩ := Ring.push (idxs_append .. ▸ inv.ring) hlt hn1 hn2
    have hn12 : idx ∉ idxs (L1 ++ L2) := by rw [idxs_append, List.mem_append]; exact not_or.mpr ⟨hn1, hn2⟩
    have ch := inv.chain
    rw [ppath_at] at ch
    obtain ⟨m4, h4, c4, l4⟩ := unlink_spec ch (by simp) (by simp)
    have hl4 : Live m4 (.node idx) := (l4.live _).mpr (live_of_valOf hsv)
    obtain ⟨m5, h5, len5, n5, p5, v5, lv5⟩ := setPrev_fn hl4 none
    obtain ⟨m6, h6, len6, n6, p6, v6, lv6⟩ := setNext_fn ((lv5 _).mpr hl4) none
    have hsv6 : valOf m6 (.node idx) = some c.val := by rw [v6, v5, l4.vals]; exact hsv
    obtain ⟨c6, hc6, hcv6⟩ := get_of_valOf hsv6
    obtain ⟨m7, h7, len7, n7, p7, v7, lv7⟩ := setVal_fn (live_of_valOf hsv6)
      ({ slotIdx := idx, inUsed := 0, data := 0 } : SlotVal)
    have hnotin : Ref.node idx ∉ ppath (L1 ++ L2) := not_mem_ppath hn12
    refine ⟨⟨m7, s.ppSlots.set (F % s.capacity) idx, s.capacity, s.allocIndex, s.freeIndex + 1⟩,
      F + 1, fl ++ [idx], ?_, ?_, rfl⟩
    · simp [PS.remove, specRemove, hge, hlive, hc, show ¬ c.val.inUsed = 0 by omega, hposF,
        show ¬ s.ppSlots.length ≤ F % s.capacity by omega, h4, h5, h6, hc6, hcv6, hidx, h7]
    · simp only [specRemove, hge, if_false, hlive, if_true, filter_keyed L1 L2 hn1 hn2]
      refine .of_ring (by rw [idxs_append]; exact r') inv.pow inv.a_eq (toNat_succ inv.f_eq)
        (by simp only [len7, len6, len5, l4.len]; exact inv.cells_len) ?_
        (fun e he => inv.lt e ((List.mem_append.mp he).elim (List.mem_append_left _)
          (fun h => List.mem_append_right _ (List.mem_cons_of_mem _ h)))) ?_
      · exact chain_frame hnotin (fun q hq => by rw [n7, n6, n5, if_neg hq])
          (fun q hq => by rw [p7, p6, p5, if_neg hq]) (ppath_cut .. ▸ c4)
      · refine SlotsOk.update (sv' := ⟨idx, 0, 0⟩) inv.slots (fun q => by rw [v7, v6, v5, l4.vals])
          ⟨rfl, Or.inr ⟨rfl, hn12⟩⟩
          (fun i d hik h => ?_) (fun i hik h => ?_)
        · simp only [List.mem_append, List.mem_cons, Prod.mk.injEq] at h ⊢
          exact h.elim Or.inl (·.elim (fun e => absurd e.1 hik) Or.inr)
        · simp only [idxs_append, idxs_cons, List.mem_append, List.mem_cons, not_or] at h ⊢
          exact ⟨h.1, h.2.2⟩
  · -- not in use: duplicate free
    have hlive : specLive l idx = false := by
      rw [← Bool.not_eq_true, specLive_iff]; exact hn
    exact ⟨s, F, fl, by simp [PS.remove, specRemove, hge, hlive, hc, hu0],
      by simpa [specRemove, hge, hlive] using inv, rfl⟩

theorem get_refines {s : PS} {l : Spec} {A F : Nat} {fl : List Nat} (inv : PInv s l A F fl)
    (idx : Nat) : PS.get s idx = .ok (specGet l idx) := by
  by_cases hge : idx ≥ s.capacity
  · have hn : idx ∉ idxs l := fun h => by
      obtain ⟨e, he, rfl⟩ := List.mem_map.mp h
      have := inv.lt e he
      omega
    simp [PS.get, hge, specGet_of_not_mem hn]
  · obtain ⟨sv, hsv, hidx, hused⟩ := inv.slots idx (by omega)
    obtain ⟨c, hc, rfl⟩ := get_of_valOf hsv
    rcases hused with ⟨hu1, hm⟩ | ⟨hu0, hn⟩
    · simp [PS.get, hge, hc, show ¬ c.val.inUsed = 0 by omega, specGet_of_mem inv.idxs_nodup hm]
    · simp [PS.get, hge, hc, hu0, specGet_of_not_mem hn]

theorem iterate_refines {s : PS} {l : Spec} {A F : Nat} {fl : List Nat} (inv : PInv s l A F fl) :
    PS.iterate s = .ok l := by
  have hlen : (refs l).length ≤ s.mem.cells.length := by
    have := inv.fl_len; rw [inv.cells_len, refs, List.length_map]; omega
  obtain ⟨⟨n, hhead, hw⟩, -⟩ := spine_walks inv.chain hlen
  -- the descriptor of a live entry `e` is `⟨e.1, 1, e.2⟩`
  have hcells : (refs l).mapM s.mem.readCell =
      .ok (l.map fun e => (Ref.node e.1, (⟨e.1, 1, e.2⟩ : SlotVal))) := by
    refine mapM_map_ok _ _ _ l fun e he => ?_
    obtain ⟨⟨i, u, d⟩, hsv, hidx, hused⟩ := inv.slots e.1 (inv.lt e he)
    rcases hused with ⟨hu, hm⟩ | ⟨-, hn⟩
    · obtain rfl : d = e.2 := inv.data_unique hm he
      rw [readCell_of_valOf hsv, show i = e.1 from hidx, show u = 1 from hu]
    · exact absurd (List.mem_map.mpr ⟨e, he, rfl⟩) hn
  simp only [PS.iterate, hhead, deref, hw, hcells, ok_bind, pure_eq_ok, List.map_map]
  exact congrArg Except.ok (List.map_id' l)

/-- pigeonhole: `M` distinct numbers below `M` are all of them -/
theorem mem_of_nodup_full {fl : List Nat} {M : Nat} (hnd : fl.Nodup) (hlen : fl.length = M)
    (hlt : ∀ x ∈ fl, x < M) {i : Nat} (hi : i < M) : i ∈ fl := by
  apply Classical.byContradiction
  intro hn
  have h1 : (i :: fl).Nodup := List.nodup_cons.mpr ⟨hn, hnd⟩
  have h2 : (i :: fl) ⊆ List.range M := by
    intro x hx
    simp only [List.mem_cons] at hx
    rcases hx with rfl | hx
    · exact List.mem_range.mpr hi
    · exact List.mem_range.mpr (hlt x hx)
  have := List.Nodup.length_le_of_subset h1 h2
  simp at this
  omega

/-- after `init` every slot is free and the ring hands them out starting at `start mod capacity` -/
theorem inv_initWith {k : Nat} (hk : k ≤ 31) (start : BitVec 32) :
    PInv (initWith (2 ^ k) (2 ^ k) start) [] start.toNat start.toNat
      ((List.range (2 ^ k)).map (fun j => (start.toNat + j) % 2 ^ k)) := by
  have hM : 0 < 2 ^ k := Nat.pow_pos (by omega)
  generalize hMdef : 2 ^ k = M at *
  have hfl_nodup : ((List.range M).map (fun j => (start.toNat + j) % M)).Nodup := by
    rw [List.Nodup, List.pairwise_map]
    apply List.Pairwise.imp_of_mem _ List.pairwise_lt_range
    intro a b ha hb hab
    have ha' := List.mem_range.mp ha
    have hb' := List.mem_range.mp hb
    have : start.toNat + b = (start.toNat + a) + (b - a) := by omega
    rw [this]
    exact (mod_add_ne (by omega) (by omega)).symm
  refine
    { pow := ⟨k, hk, by simp [initWith, hMdef]⟩, cells_len := by simp [initWith],
      pp_len := by simp [initWith], pp_lt := ?_, chain := ?_, lt := by simp, slots := ?_,
      cnt := by simp, a_eq := (Nat.mod_eq_of_lt start.isLt).symm,
      f_eq := (Nat.mod_eq_of_lt start.isLt).symm, fl_len := by simp [initWith],
      fl_nodup := hfl_nodup, fl_ring := ?_, fl_mem := ?_ }
  · intro j hj
    have hj' : j < M := by simpa [initWith] using hj
    exact ⟨j, by simp only [initWith]; exact List.getElem?_range hj', hj⟩
  · refine ⟨by simp [ppath, refs], ?_⟩
    simp [ppath, refs, Links, nxt, prv, DMem.get, initWith]
  · intro i hi
    simp only [initWith] at hi
    refine ⟨{ slotIdx := i, inUsed := 0, data := 0 }, ?_, rfl, Or.inr ⟨rfl, by simp [idxs]⟩⟩
    simp [valOf, DMem.get, initWith, hi]
  · intro j hj
    simp only [List.length_map, List.length_range] at hj
    simp only [initWith, List.getElem_map, List.getElem_range]
    rw [List.getElem?_range (Nat.mod_lt _ hM)]
  · intro i
    simp only [initWith, idxs, List.map_nil, List.not_mem_nil, not_false_eq_true, and_true]
    constructor
    · intro h
      simp only [List.mem_map, List.mem_range] at h
      obtain ⟨j, _, rfl⟩ := h
      exact Nat.mod_lt _ hM
    · intro hi
      apply mem_of_nodup_full hfl_nodup (by simp) _ hi
      intro x hx
      simp only [List.mem_map, List.mem_range] at hx
      obtain ⟨j, _, rfl⟩ := hx
      exact Nat.mod_lt _ hM

end MgProof.C11.PS
