import MgModel.C11.Stack
import MgProof.C11.LemmasAL
/-! The stack (`stack.c`). Its C struct is the array list's (`top` for `size`) and `stack.c` repeats
`array_list.c` for `init`, `ensure_capacity` and `clear`; these are mapped onto the array-list
model. `push` is the array list's insertion at the end, where no cell is shifted (`AL.insertAt_inv`);
`top` and `pop` are proved here, on the same storage predicate `Holds`. -/
namespace MgProof.C11.Stk
open MgModel.C11 MgModel.C11.Stk

/-- **Representation invariant**: the C state holds the sequence `l` (last = top). -/
structure Inv (s : Stack) (l : List Val) : Prop where
  len   : s.nodes.length = s.capacity
  size  : s.top = l.length
  le    : s.top ≤ s.capacity
  pos   : 0 < s.capacity
  data  : ∀ i, i < l.length → s.nodes[i]? = some (l[i]?)

variable {s : Stack} {l : List Val}

theorem Inv.holds (inv : Inv s l) : Holds s.nodes l := inv.data

def toAL (s : Stack) : AL.AL := ⟨s.nodes, s.capacity, s.top⟩
def ofAL (s : AL.AL) : Stack := ⟨s.nodes, s.capacity, s.size⟩

theorem Inv.toAL (inv : Inv s l) : AL.Inv (toAL s) l := ⟨inv.len, inv.size, inv.le, inv.pos, inv.data⟩
theorem inv_ofAL {s : AL.AL} (inv : AL.Inv s l) : Inv (ofAL s) l :=
  ⟨inv.len, inv.size, inv.le, inv.pos, inv.data⟩

theorem init_eq (c : Nat) : init c = (AL.init c).map ofAL := by
  unfold init AL.init
  dsimp only
  split <;> split <;> rfl

theorem ensureCapacity_eq (s : Stack) (c : Nat) :
    ensureCapacity s c = (fun p => (ofAL p.1, p.2)) <$> AL.ensureCapacity (toAL s) c := by
  unfold ensureCapacity AL.ensureCapacity
  show _ = _ <$> if s.capacity ≥ c then _ else if (!capValid c) = true then _ else _
  split
  · rfl
  · split
    · rfl
    · simp only [map_bind, map_pure]; rfl

theorem growIfFull_eq (s : Stack) :
    growIfFull s = (fun p => (ofAL p.1, p.2)) <$> AL.growIfFull (toAL s) := by
  unfold growIfFull AL.growIfFull
  show _ = _ <$> if s.top = s.capacity then _ else _
  split
  · exact ensureCapacity_eq s _
  · rfl

theorem clear_eq (s : Stack) (fr : Bool) :
    clear s fr = (fun p => (ofAL p.1, p.2)) <$> AL.clear (toAL s) fr := by
  cases fr
  · rfl
  · simp only [clear, AL.clear, if_true, map_bind, map_pure]; rfl

theorem inv_init {c : Nat} {s : Stack} (h : init c = some s) : Inv s [] := by
  rw [init_eq] at h
  obtain ⟨s0, h0, rfl⟩ := Option.map_eq_some_iff.mp h
  exact inv_ofAL (AL.inv_init h0)

theorem ensureCapacity_inv (inv : Inv s l) (c : Nat) :
    ∃ s', ensureCapacity s c = .ok (s', decide (s.capacity ≥ c ∨ c < 2 ^ 31)) ∧ Inv s' l ∧
      s'.top = s.top ∧ (s.capacity ≥ c ∨ c < 2 ^ 31 → c ≤ s'.capacity) := by
  obtain ⟨s', h, inv', hs, -, hc⟩ := AL.ensureCapacity_inv inv.toAL c
  exact ⟨ofAL s', by rw [ensureCapacity_eq, h]; rfl, inv_ofAL inv', hs, hc⟩

theorem growIfFull_inv (inv : Inv s l) (hsmall : l.length < 2 ^ 30) :
    ∃ s', growIfFull s = .ok (s', true) ∧ Inv s' l ∧ s'.top < s'.capacity := by
  obtain ⟨s', h, inv', hlt⟩ := AL.growIfFull_inv inv.toAL hsmall
  exact ⟨ofAL s', by rw [growIfFull_eq, h]; rfl, inv_ofAL inv', hlt⟩

theorem clear_refines (inv : Inv s l) (fr : Bool) :
    ∃ s', clear s fr = .ok (s', (specClear l fr).2) ∧ Inv s' (specClear l fr).1 := by
  obtain ⟨s', h, inv'⟩ := AL.clear_refines inv.toAL fr
  exact ⟨ofAL s', by rw [clear_eq, h]; rfl, inv_ofAL inv'⟩

theorem contents_refines (inv : Inv s l) : contents s = .ok l := AL.contents_refines inv.toAL

theorem push_refines (inv : Inv s l) (hsmall : l.length < 2 ^ 30)
    (v : Val) :
    ∃ s', push s v = .ok (s', (specPush l v).2) ∧ Inv s' (specPush l v).1 := by
  obtain ⟨s1, hg, inv1, hlt⟩ := growIfFull_inv inv hsmall
  have hsz : s1.top = l.length := inv1.size
  -- the array list's insertion at `k = l.length`: the shift moves `top - k = 0` cells
  obtain ⟨r, nodes, hr, hw, inv'⟩ := AL.insertAt_inv inv1.toAL hlt (Nat.le_refl l.length) v
  rw [show (toAL s1).size - l.length = 0 from hsz ▸ Nat.sub_self _] at hr
  cases hr
  rw [List.insertIdx_length_self] at inv'
  exact ⟨{ s1 with nodes := nodes, top := s1.top + 1 },
    by simp [push, specPush, hg, hsz, show wr s1.nodes l.length v = .ok nodes from hw], inv_ofAL inv'⟩

theorem Inv.top_cell (inv : Inv s l) (h : s.top ≠ 0) :
    ∃ v, l.getLast? = some v ∧ rd s.nodes (s.top - 1) = .ok v := by
  have hsz := inv.size
  have hl : l.length - 1 < l.length := by omega
  exact ⟨l[l.length - 1], by rw [List.getLast?_eq_getElem?, List.getElem?_eq_getElem hl],
    by rw [hsz, rd_ok (inv.holds.cell hl)]⟩

theorem Inv.nil_of_top_zero (inv : Inv s l) (h : s.top = 0) : l = [] :=
  List.eq_nil_of_length_eq_zero (inv.size ▸ h)

theorem top_refines (inv : Inv s l) :
    Stk.top s = .ok (specTop l) := by
  unfold Stk.top specTop
  by_cases h : s.top = 0
  · simp [h, inv.nil_of_top_zero h]
  · obtain ⟨v, hlast, hrd⟩ := inv.top_cell h
    rw [if_neg h, hrd, hlast, inv.size]; rfl

theorem pop_refines (inv : Inv s l) (fr : Bool) :
    ∃ s', pop s fr = .ok (s', (specPop l fr).2) ∧ Inv s' (specPop l fr).1 := by
  unfold pop specPop
  by_cases h : s.top = 0
  · have := inv.nil_of_top_zero h
    subst this
    exact ⟨s, by cases fr <;> simp [h], inv⟩
  · obtain ⟨v, hlast, hrd⟩ := inv.top_cell h
    have hsz := inv.size
    have hle := inv.le
    refine ⟨{ s with top := s.top - 1 }, by cases fr <;> simp [h, hlast, hrd],
      inv.len, by simp [hsz], by dsimp only; omega, inv.pos, ?_⟩
    rw [List.dropLast_eq_take]
    exact inv.holds.take _

theorem specStep_length (l : List Val) (op : Op) : (specStep l op).1.length ≤ l.length + 1 := by
  cases op <;> simp [specStep, specPush, specPop, specClear] <;> omega

end MgProof.C11.Stk
