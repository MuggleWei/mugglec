/-! Doubly linked chains over abstract `next`/`prev` functions, and what a pointer surgery does to a
chain once its net effect on the two functions is known. -/
namespace MgProof.C11.Link
variable {ρ : Type}

theorem exists_concat {X : List ρ} (h : X ≠ []) : ∃ A p, X = A ++ [p] :=
  ⟨X.dropLast, X.getLast h, (List.dropLast_concat_getLast h).symm⟩

/-- consecutive elements of the path point at each other -/
def Links (nx pv : ρ → Option ρ) : List ρ → Prop
  | a :: b :: rest => nx a = some b ∧ pv b = some a ∧ Links nx pv (b :: rest)
  | _ => True

theorem links_append (nx pv : ρ → Option ρ) (l1 : List ρ) (a : ρ) (l2 : List ρ) :
    Links nx pv (l1 ++ a :: l2) ↔ Links nx pv (l1 ++ [a]) ∧ Links nx pv (a :: l2) := by
  induction l1 with
  | nil => simp [Links]
  | cons x l1 ih =>
    cases l1 with
    | nil => simp [Links, and_assoc]
    | cons y l1' =>
      simp only [List.cons_append, Links] at ih ⊢
      rw [ih]
      constructor
      · rintro ⟨h1, h2, h3, h4⟩; exact ⟨⟨h1, h2, h3⟩, h4⟩
      · rintro ⟨⟨h1, h2, h3⟩, h4⟩; exact ⟨h1, h2, h3, h4⟩

/-- links only depend on `next` of all but the last and `prev` of all but the first -/
theorem links_congr {nx pv nx' pv' : ρ → Option ρ} (l : List ρ)
    (hn : ∀ x ∈ l.dropLast, nx' x = nx x) (hp : ∀ x ∈ l.tail, pv' x = pv x)
    (h : Links nx pv l) : Links nx' pv' l := by
  induction l with
  | nil => trivial
  | cons a l ih =>
    cases l with
    | nil => trivial
    | cons b rest =>
      obtain ⟨h1, h2, h3⟩ := h
      refine ⟨?_, ?_, ?_⟩
      · rw [hn a (by simp [List.dropLast])]; exact h1
      · rw [hp b (by simp)]; exact h2
      · apply ih
        · intro x hx; apply hn; simp only [List.dropLast_cons_cons]; exact List.mem_cons_of_mem _ hx
        · intro x hx; apply hp; simp only [List.tail_cons] at hx ⊢; exact List.mem_cons_of_mem _ hx
        · exact h3

structure Chain (nx pv : ρ → Option ρ) (path : List ρ) : Prop where
  nodup : path.Nodup
  links : Links nx pv path

theorem chain_congr {nx pv nx' pv' : ρ → Option ρ} {P : List ρ}
    (hn : ∀ x ∈ P, nx' x = nx x) (hp : ∀ x ∈ P, pv' x = pv x) (c : Chain nx pv P) :
    Chain nx' pv' P :=
  ⟨c.nodup, links_congr P (fun x hx => hn x (List.dropLast_subset P hx))
    (fun x hx => hp x (List.mem_of_mem_tail hx)) c.links⟩

theorem chain_frame {nx pv nx' pv' : ρ → Option ρ} {P : List ρ} {x : ρ} (hx : x ∉ P)
    (hn : ∀ q, q ≠ x → nx' q = nx q) (hp : ∀ q, q ≠ x → pv' q = pv q) (c : Chain nx pv P) :
    Chain nx' pv' P :=
  chain_congr (fun q hq => hn q (fun e => hx (e ▸ hq))) (fun q hq => hp q (fun e => hx (e ▸ hq))) c

theorem chain_adj {nx pv : ρ → Option ρ} {A B : List ρ} {p n : ρ}
    (c : Chain nx pv (A ++ p :: n :: B)) : nx p = some n ∧ pv n = some p ∧ p ≠ n := by
  obtain ⟨_, h1, h2, _⟩ := (links_append ..).mp c.links
  have hnd := c.nodup
  simp only [List.nodup_append, List.nodup_cons, List.mem_cons, not_or] at hnd
  exact ⟨h1, h2, hnd.2.1.1.1⟩

/-- **Insertion surgery**: the net effect of the four pointer writes, in whichever order. -/
theorem chain_insert {nx pv nx' pv' : ρ → Option ρ} {A B : List ρ} {p m n : ρ}
    (c : Chain nx pv (A ++ p :: n :: B)) (hm : m ∉ A ++ p :: n :: B)
    (h1 : nx' p = some m) (h2 : nx' m = some n)
    (h3 : ∀ x, x ≠ p → x ≠ m → nx' x = nx x)
    (h4 : pv' n = some m) (h5 : pv' m = some p)
    (h6 : ∀ x, x ≠ n → x ≠ m → pv' x = pv x) :
    Chain nx' pv' (A ++ p :: m :: n :: B) := by
  -- all side conditions are: the left part `A ++ [p]`, the right part `n :: B` and `m` are disjoint
  have hnd : ((A ++ [p]) ++ n :: B).Nodup := by simpa using c.nodup
  have hm' : m ∉ (A ++ [p]) ++ n :: B := by simpa using hm
  obtain ⟨hL, hR, hd⟩ := List.nodup_append.mp hnd
  have hmL : ∀ x ∈ A ++ [p], x ≠ m := fun x hx e => hm' (e ▸ List.mem_append_left _ hx)
  have hmR : ∀ x ∈ n :: B, x ≠ m := fun x hx e => hm' (e ▸ List.mem_append_right _ hx)
  obtain ⟨hl1, _, _, hl3⟩ := (links_append ..).mp c.links
  refine ⟨?_, (links_append ..).mpr ⟨?_, h1, h5, h2, h4, ?_⟩⟩
  · rw [show A ++ p :: m :: n :: B = (A ++ [p]) ++ m :: n :: B by simp,
      List.perm_middle.nodup_iff, List.nodup_cons]
    exact ⟨hm', hnd⟩
  · refine links_congr _ (fun x hx => ?_) (fun x hx => ?_) hl1
    · rw [List.dropLast_concat] at hx
      exact h3 x ((List.nodup_append.mp hL).2.2 x hx p (List.mem_singleton_self p))
        (hmL x (List.mem_append_left _ hx))
    · have hx' := List.mem_of_mem_tail hx
      exact h6 x (hd x hx' n List.mem_cons_self) (hmL x hx')
  · refine links_congr _ (fun x hx => ?_) (fun x hx => ?_) hl3
    · have hx' := List.dropLast_subset _ hx
      exact h3 x (hd p (by simp) x hx').symm (hmR x hx')
    · exact h6 x (fun e => (List.nodup_cons.mp hR).1 (e ▸ hx)) (hmR x (List.mem_cons_of_mem _ hx))

/-- **Removal surgery**; the pointers of the removed `m` itself do not matter. -/
theorem chain_remove {nx pv nx' pv' : ρ → Option ρ} {A B : List ρ} {p m n : ρ}
    (c : Chain nx pv (A ++ p :: m :: n :: B))
    (h1 : nx' p = some n) (h2 : ∀ x, x ≠ p → x ≠ m → nx' x = nx x)
    (h3 : pv' n = some p) (h4 : ∀ x, x ≠ n → x ≠ m → pv' x = pv x) :
    Chain nx' pv' (A ++ p :: n :: B) := by
  have hnd : ((A ++ [p]) ++ m :: n :: B).Nodup := by simpa using c.nodup
  obtain ⟨hL, hR, hd⟩ := List.nodup_append.mp hnd
  obtain ⟨hmR, hR'⟩ := List.nodup_cons.mp hR
  obtain ⟨hl1, _, _, _, _, hl3⟩ := (links_append ..).mp c.links
  refine ⟨c.nodup.sublist (.append (.refl A) (.cons_cons p (List.sublist_cons_self m (n :: B)))),
    (links_append ..).mpr ⟨?_, h1, h3, ?_⟩⟩
  · refine links_congr _ (fun x hx => ?_) (fun x hx => ?_) hl1
    · rw [List.dropLast_concat] at hx
      exact h2 x ((List.nodup_append.mp hL).2.2 x hx p (List.mem_singleton_self p))
        (hd x (List.mem_append_left _ hx) m List.mem_cons_self)
    · have hx' := List.mem_of_mem_tail hx
      exact h4 x (hd x hx' n (by simp)) (hd x hx' m List.mem_cons_self)
  · refine links_congr _ (fun x hx => ?_) (fun x hx => ?_) hl3
    · have hx' := List.dropLast_subset _ hx
      exact h2 x (hd p (by simp) x (List.mem_cons_of_mem _ hx')).symm (fun e => hmR (e ▸ hx'))
    · exact h4 x (fun e => (List.nodup_cons.mp hR').1 (e ▸ hx))
        (fun e => hmR (e ▸ List.mem_cons_of_mem _ hx))

end MgProof.C11.Link
