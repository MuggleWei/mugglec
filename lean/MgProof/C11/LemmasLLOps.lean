import MgProof.C11.LemmasLL
/-! The linked list (`linked_list.c`): one refinement lemma per C function. -/
namespace MgProof.C11.LL
open MgModel.C11 MgModel.C11.LL

structure Inv (s : LL) (l : Spec) : Prop where
  mem   : MInv s.mem l
  size  : s.size = l.length
  small : l.length < 2 ^ 64

variable {s : LL} {l : Spec}

/-- no cell allocated yet: this is where the handle numbering of the histories starts -/
theorem inv_init {c : Nat} {s : LL} (h : init c = some s) : Inv s [] ∧ s.mem.cells.length = 0 := by
  unfold init at h
  split at h
  · split at h
    · cases h
    · injection h with h; subst h; exact ⟨⟨minv_empty, rfl, by simp⟩, rfl⟩
  · injection h with h; subst h; exact ⟨⟨minv_empty, rfl, by simp⟩, rfl⟩

/-! ### insert / append: the new element goes to a cut `L1 | L2` of the sequence -/

/-- the `size` / `small` half of `Inv`, once `MInv.insert_cut` has given the memory half -/
theorem inv_insert_cut {s : LL} {L1 L2 : Spec} (inv : Inv s (L1 ++ L2)) {v : Val} {m6 : DMem Val}
    (hsmall : (L1 ++ L2).length + 1 < 2 ^ 64)
    (minv : MInv m6 (L1 ++ (.node s.mem.cells.length, v) :: L2)) :
    Inv { mem := m6, pool := s.pool.map Pool.alloc, size := s.size + 1 }
      (L1 ++ (.node s.mem.cells.length, v) :: L2) := by
  have := inv.size
  simp only [List.length_append] at this hsmall
  exact ⟨minv, by simp only [List.length_append, List.length_cons]; omega,
    by simp only [List.length_append, List.length_cons]; omega⟩

theorem insert_refines (inv : Inv s l) (node : Option Ref)
    (hnode : ∀ n, node = some n → n ∈ ids l) (v : Val) (hsmall : l.length + 1 < 2 ^ 64) :
    ∃ s', LL.insert s node v = .ok (s', .node s.mem.cells.length) ∧
      Inv s' (specInsert l node (.node s.mem.cells.length) v) ∧
      s'.mem.cells.length = s.mem.cells.length + 1 := by
  cases node with
  | none =>
    -- before the first cell: the cut `[] | l`
    obtain ⟨n, hn⟩ := head?_ids_tail l
    obtain ⟨m2, m6, h2, c2, h6, minv, hlen⟩ := MInv.insert_cut (L1 := []) (L2 := l) inv.mem v
      (fun m2 => m2.linkBefore n (.node s.mem.cells.length))
      (fun m2 c hfresh lv => linkBefore_spec c (by simp) hn hfresh lv)
    have hf : m2.head.next = some n := (spine_first c2).trans hn
    exact ⟨⟨m6, _, _⟩, by simp [LL.insert, allocateNode, h2, hf, deref, h6],
      inv_insert_cut (L1 := []) inv hsmall minv, hlen⟩
  | some n =>
    -- before `n`: the cut `L1 | (n, v0) :: L2`
    obtain ⟨L1, v0, L2, rfl, hn1, -⟩ := decompose (hnode n rfl) inv.mem.ids_nodup
    obtain ⟨m2, m6, h2, -, h6, minv, hlen⟩ := inv.mem.insert_cut v
      (fun m2 => m2.linkBefore n (.node s.mem.cells.length))
      (fun m2 c hfresh lv => linkBefore_spec c (by simp) rfl hfresh lv)
    refine ⟨⟨m6, s.pool.map Pool.alloc, s.size + 1⟩, by simp [LL.insert, allocateNode, h2, h6],
      ?_, hlen⟩
    rw [specInsert, insBefore_split L1 L2 hn1]
    exact inv_insert_cut inv hsmall minv

theorem append_refines (inv : Inv s l) (node : Option Ref)
    (hnode : ∀ n, node = some n → n ∈ ids l) (v : Val) (hsmall : l.length + 1 < 2 ^ 64) :
    ∃ s', LL.append s node v = .ok (s', .node s.mem.cells.length) ∧
      Inv s' (specAppend l node (.node s.mem.cells.length) v) ∧
      s'.mem.cells.length = s.mem.cells.length + 1 := by
  cases node with
  | none =>
    -- behind the last cell: the cut `l | []`
    have inv' : Inv s (l ++ []) := by rwa [List.append_nil]
    obtain ⟨m2, m6, h2, c2, h6, minv, hlen⟩ := inv'.mem.insert_cut v
      (fun m2 => m2.linkAfter ((ids l).getLast?.getD .head) (.node s.mem.cells.length))
      (fun m2 c hfresh lv => linkAfter_spec c List.getLast?_cons (by simp) hfresh lv)
    have hb : m2.tail.prev = some ((ids l).getLast?.getD .head) :=
      (spine_last (List.append_nil l ▸ c2)).trans List.getLast?_cons
    exact ⟨⟨m6, _, _⟩, by simp [LL.append, allocateNode, h2, hb, deref, h6],
      inv_insert_cut inv' (by simpa using hsmall) minv, hlen⟩
  | some p =>
    -- behind `p`: the cut `L1 ++ [(p, v0)] | L2`
    obtain ⟨L1, v0, L2, rfl, hp1, -⟩ := decompose (hnode p rfl) inv.mem.ids_nodup
    have e : L1 ++ (p, v0) :: L2 = (L1 ++ [(p, v0)]) ++ L2 := by simp
    have inv' : Inv s ((L1 ++ [(p, v0)]) ++ L2) := e ▸ inv
    obtain ⟨m2, m6, h2, -, h6, minv, hlen⟩ := inv'.mem.insert_cut v
      (fun m2 => m2.linkAfter p (.node s.mem.cells.length))
      (fun m2 c hfresh lv => linkAfter_spec c
        (by rw [ids_append, ← List.cons_append]; exact List.getLast?_concat) (by simp) hfresh lv)
    refine ⟨⟨m6, s.pool.map Pool.alloc, s.size + 1⟩, by simp [LL.append, allocateNode, h2, h6],
      ?_, hlen⟩
    rw [specAppend, insAfter_split L1 L2 hp1,
      show L1 ++ (p, v0) :: (Ref.node s.mem.cells.length, v) :: L2 =
        (L1 ++ [(p, v0)]) ++ (Ref.node s.mem.cells.length, v) :: L2 by simp]
    exact inv_insert_cut inv' (e ▸ hsmall) minv

theorem next_refines (inv : Inv s l) {n : Ref} (hn : n ∈ ids l) :
    LL.next s n = .ok (specNext l n) := by
  obtain ⟨L1, v0, L2, rfl, hn1, -⟩ := decompose hn inv.mem.ids_nodup
  obtain ⟨cn, hcn, -, hcnn, -⟩ := inv.mem.cell
  simp only [LL.next, hcn, ok_bind, pure_eq_ok, specNext, succOf_split L1 L2 hn1, hcnn]
  cases L2 with
  | nil => simp
  | cons b L2' =>
    obtain ⟨i, hi⟩ := inv.mem.is_node (n := b.1) (by simp)
    simp [hi]

theorem prev_refines (inv : Inv s l) {n : Ref} (hn : n ∈ ids l) :
    LL.prev s n = .ok (specPrev l n) := by
  obtain ⟨L1, v0, L2, rfl, hn1, hn2⟩ := decompose hn inv.mem.ids_nodup
  obtain ⟨cn, hcn, -, -, hcnp⟩ := inv.mem.cell
  simp only [LL.prev, hcn, ok_bind, pure_eq_ok, specPrev, predOf_split L1 L2 hn1 hn2, hcnp,
    List.getLast?_cons, ids, List.getLast?_map]
  cases hb : L1.getLast? with
  | none => simp
  | some b =>
    obtain ⟨i, hi⟩ := inv.mem.is_node (n := b.1)
      (by simp only [ids, List.map_append, List.mem_append, List.mem_map]
          exact Or.inl ⟨b, List.mem_of_getLast? hb, rfl⟩)
    simp [hi]

theorem first_refines (inv : Inv s l) :
    LL.first s = l.head?.map (·.1) := by
  have hf := inv.mem.first
  cases l with
  | nil => simp [LL.first, hf]
  | cons a l' =>
    obtain ⟨j, hj⟩ := inv.mem.is_node (n := a.1) List.mem_cons_self
    simp [LL.first, hf, hj]

theorem last_refines (inv : Inv s l) :
    LL.last s = l.getLast?.map (·.1) := by
  have hb := inv.mem.last
  rw [List.getLast?_cons, ids, List.getLast?_map] at hb
  cases hl : l.getLast? with
  | none => simp [LL.last, hb, hl]
  | some b =>
    obtain ⟨j, hj⟩ := inv.mem.is_node (n := b.1) (List.mem_map.mpr ⟨b, List.mem_of_getLast? hl, rfl⟩)
    simp [LL.last, hb, hl, hj]

theorem toList_refines (inv : Inv s l) :
    LL.toList s = .ok l ∧ LL.toListRev s = .ok (ids l).reverse := by
  obtain ⟨⟨f, hf, hwf⟩, ⟨b, hb, hwb⟩⟩ := inv.mem.walks
  exact ⟨by simp [LL.toList, hf, deref, hwf, inv.mem.readCells], by simp [LL.toListRev, hb, deref, hwb]⟩

/-- `free_data` then `free_node` of an element. The memory half is `MInv.remove_node`; the 64-bit size
counter is decremented, `(size + 2^64 - 1) % 2^64` in the model, which is `size - 1` as the sequence is
not empty. -/
theorem release_spec {s : LL} {L1 L2 : Spec} {i : Nat} {v0 : Val}
    (inv : Inv s (L1 ++ (.node i, v0) :: L2)) (fr : Bool) :
    ∃ s1 s2, freeData s (.node i) fr = .ok (s1, if fr ∧ v0 ≠ 0 then [v0] else []) ∧
      freeNode s1 (.node i) = .ok s2 ∧ Inv s2 (L1 ++ L2) ∧
      s2.mem.cells.length = s.mem.cells.length := by
  obtain ⟨c, m1, hc, rfl, h1, hp⟩ := freeData_mem (inv.mem.vals (.node i) v0 (by simp))
  have node : ∀ s1 : LL, s1.size = s.size → PayloadOnly s.mem s1.mem (.node i) →
      ∃ s2, freeNode s1 (.node i) = .ok s2 ∧ Inv s2 (L1 ++ L2) ∧
        s2.mem.cells.length = s.mem.cells.length := by
    intro s1 hsz hp1
    obtain ⟨m4, m5, h4, h5, minv, hlen⟩ := inv.mem.remove_node hp1
    have hs := inv.size
    have hsm := inv.small
    simp only [List.length_append, List.length_cons] at hs hsm
    exact ⟨_, by simp only [freeNode, h4, h5, ok_bind]; rfl,
      ⟨minv, by dsimp only; rw [List.length_append]; omega, by rw [List.length_append]; omega⟩, hlen⟩
  by_cases h0 : c.val = 0
  · obtain ⟨s2, h2, r⟩ := node s rfl (.refl _ _)
    exact ⟨s, s2, by simp [freeData, hc, h0], h2, r⟩
  · obtain ⟨s2, h2, r⟩ := node { s with mem := m1 } rfl hp
    exact ⟨_, s2, by cases fr <;> simp [freeData, hc, h0, h1], h2, r⟩

theorem remove_refines (inv : Inv s l) {n : Ref} (hn : n ∈ ids l) (fr : Bool) :
    ∃ s', LL.remove s n fr = .ok (s', (specRemove l n fr).2.1, (specRemove l n fr).2.2) ∧
      Inv s' (specRemove l n fr).1 ∧ s'.mem.cells.length = s.mem.cells.length := by
  have hnext := next_refines inv hn
  obtain ⟨L1, v0, L2, rfl, hn1, hn2⟩ := decompose hn inv.mem.ids_nodup
  obtain ⟨i, rfl⟩ := inv.mem.is_node hn
  obtain ⟨s1, s2, hfd, hfn, inv', hlen⟩ := release_spec inv fr
  refine ⟨s2, by simp [LL.remove, hnext, hfd, hfn, specRemove, specNext, dataOf_split L1 L2 hn1], ?_,
    hlen⟩
  rw [specRemove, filter_keyed L1 L2 hn1 hn2]
  exact inv'

theorem clearLoop_spec (fr : Bool) : ∀ (l : Spec) (s : LL) (fuel : Nat) (node : Ref) (freed : List Val),
    Inv s l → (ids l ++ [Ref.tail]).head? = some node → l.length < fuel →
    ∃ s', LL.clearLoop fr fuel s node freed =
        .ok (s', freed ++ (if fr then (l.map (·.2)).filter (· ≠ 0) else [])) ∧
      Inv s' [] ∧ s'.mem.cells.length = s.mem.cells.length
  | _, _, 0, _, _, _, _, hf => absurd hf (Nat.not_lt_zero _)
  | [], s, f + 1, node, freed, inv, hh, _ => by
    obtain rfl : Ref.tail = node := Option.some.inj hh
    exact ⟨s, by cases fr <;> simp [LL.clearLoop], inv, rfl⟩
  | (n, v0) :: l, s, f + 1, node, freed, inv, hh, hf => by
    obtain rfl : n = node := Option.some.inj hh
    obtain ⟨i, rfl⟩ := inv.mem.is_node (n := n) List.mem_cons_self
    -- the successor is read before the node is freed
    obtain ⟨cn, hcn, -, hcnn, -⟩ := MInv.cell (L1 := []) inv.mem
    obtain ⟨nx, hnx⟩ := head?_ids_tail l
    rw [hnx] at hcnn
    obtain ⟨s1, s2, hfd, hfn, inv2, hlen⟩ := release_spec (L1 := []) inv fr
    obtain ⟨s', hs', inv', hlen'⟩ := clearLoop_spec fr l s2 f nx
      (freed ++ (if fr ∧ v0 ≠ 0 then [v0] else [])) inv2 hnx (Nat.lt_of_succ_lt_succ hf)
    refine ⟨s', ?_, inv', hlen'.trans hlen⟩
    simp only [LL.clearLoop, reduceCtorEq, if_false, hcn, hcnn, deref, hfd, hfn, ok_bind, hs']
    cases fr <;> by_cases h0 : v0 = 0 <;> simp [h0]

theorem clear_refines (inv : Inv s l) (fr : Bool) :
    ∃ s', LL.clear s fr = .ok (s', (specClear l fr).2) ∧ Inv s' (specClear l fr).1 ∧
      s'.mem.cells.length = s.mem.cells.length := by
  obtain ⟨n, hn⟩ := head?_ids_tail l
  obtain ⟨s', hs', inv', hlen'⟩ := clearLoop_spec fr l s (s.mem.cells.length + 1) n []
    inv hn (Nat.lt_succ_of_le inv.mem.length_le)
  exact ⟨{ s' with size := 0 }, by simp [LL.clear, inv.mem.first, hn, deref, hs', specClear],
    ⟨inv'.mem, rfl, by simp [specClear]⟩, hlen'⟩

/-- `pre`: the prefix already passed, so that the invariant stays about the one memory while `L` shrinks -/
theorem findLoop_spec (m : DMem Val) (data : Val) : ∀ (L pre : Spec) (fuel : Nat) (node : Ref),
    MInv m (pre ++ L) → (ids L ++ [Ref.tail]).head? = some node → L.length < fuel →
    findLoop m data fuel node = .ok ((L.find? (·.2 = data)).map (·.1))
  | _, _, 0, _, _, _, hf => absurd hf (Nat.not_lt_zero _)
  | [], pre, f + 1, node, inv, hh, _ => by
    obtain rfl : Ref.tail = node := Option.some.inj hh
    simp [findLoop]
  | (n, v0) :: L, pre, f + 1, node, inv, hh, hf => by
    obtain rfl : n = node := Option.some.inj hh
    have hmem : n ∈ ids (pre ++ (n, v0) :: L) := mem_ids_at pre L (n, v0)
    obtain ⟨i, rfl⟩ := inv.is_node hmem
    obtain ⟨cn, hcn, rfl, hcnn, -⟩ := inv.cell
    by_cases hd : cn.val = data
    · simp [findLoop, hcn, hd]
    · obtain ⟨nx, hnx⟩ := head?_ids_tail L
      rw [hnx] at hcnn
      have := findLoop_spec m data L (pre ++ [(Ref.node i, cn.val)]) f nx (by simpa using inv) hnx
        (Nat.lt_of_succ_lt_succ hf)
      simp [findLoop, hcn, hd, hcnn, deref, this]

theorem find_refines (inv : Inv s l) (node : Option Ref)
    (hnode : ∀ n, node = some n → n ∈ ids l) (v : Val) :
    LL.find s node v = .ok (specFind l node v) := by
  have hlen := inv.mem.length_le
  cases node with
  | none =>
    obtain ⟨n, hn⟩ := head?_ids_tail l
    have := findLoop_spec s.mem v l [] (s.mem.cells.length + 1) n inv.mem hn (Nat.lt_succ_of_le hlen)
    simp [LL.find, inv.mem.first, hn, deref, this, specFind]
  | some n =>
    obtain ⟨L1, v0, L2, rfl, hn1, -⟩ := decompose (hnode n rfl) inv.mem.ids_nodup
    have := findLoop_spec s.mem v ((n, v0) :: L2) L1 (s.mem.cells.length + 1) n inv.mem
      rfl (by simp at hlen ⊢; omega)
    simp only [LL.find, specFind, dropWhile_split L1 L2 hn1, this, ok_bind, pure_eq_ok]

theorem handleOk_iff {l : Spec} {n : Option Ref} :
    handleOk l n = true ↔ ∀ r, n = some r → r ∈ ids l := by
  cases n with
  | none => simp [handleOk]
  | some r => simp [handleOk, ids]

theorem length_insBefore_le (n : Ref) (x : Ref × Val) (l : Spec) :
    (insBefore n x l).length ≤ l.length + 1 := by
  induction l with
  | nil => simp [insBefore]
  | cons a l ih => simp only [insBefore]; split <;> simp <;> omega

theorem length_insAfter_le (n : Ref) (x : Ref × Val) (l : Spec) :
    (insAfter n x l).length ≤ l.length + 1 := by
  induction l with
  | nil => simp [insAfter]
  | cons a l ih => simp only [insAfter]; split <;> simp <;> omega

theorem specStep_length {l l' : Spec} {k k' : Nat} {op : Op} {r : Res}
    (h : specStep l k op = some (l', k', r)) : l'.length ≤ l.length + 1 := by
  cases op <;>
    simp only [specStep, Option.ite_none_right_eq_some, Option.some.injEq, Prod.mk.injEq] at h
  case insert n v =>
    obtain ⟨-, rfl, -⟩ := h
    cases n with
    | none => simp [specInsert]
    | some n => exact length_insBefore_le _ _ _
  case append n v =>
    obtain ⟨-, rfl, -⟩ := h
    cases n with
    | none => simp [specAppend]
    | some n => exact length_insAfter_le _ _ _
  case remove n fr =>
    obtain ⟨-, rfl, -⟩ := h
    exact Nat.le_succ_of_le (List.length_filter_le _ _)
  case clear fr => obtain ⟨rfl, -⟩ := h; simp [specClear]
  case next n | prev n | find n v => obtain ⟨-, rfl, -⟩ := h; exact Nat.le_succ _
  case first | last | dump => obtain ⟨rfl, -⟩ := h; exact Nat.le_succ _

end MgProof.C11.LL
