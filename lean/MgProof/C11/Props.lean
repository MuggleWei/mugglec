import MgProof.C11.LemmasAL
import MgProof.C11.LemmasStack
import MgProof.C11.LemmasLLOps
import MgProof.C11.LemmasQueue
import MgProof.C11.LemmasPSOps
/-!
# C11 — property theorems (sequence containers and pointer slot)

Property C11 (properties.jsonl): array list, linked list, queue and stack behave as a reference
sequence under every operation history, growth and invalid positions included; the pointer slot,
for every requested capacity, hands out indices unique among live entries, resolves them until
removed, refuses inserts when full and double removals, and iterates in insertion order.

Quantifiers of the theorems: every initial capacity, every operation list of every
length, every `int` index, every datum (including NULL), with and without the free
callback. Size hypotheses: fewer than `2^30` stored elements in array list and stack
(`MUGGLE_DS_CAP_IS_VALID`, enforced by the C code: doubling the capacity stays below `2^31`),
fewer than `2^64` in list and queue (the size counter), and a slot request `≤ 2^31`, which
`muggle_pointer_slot_init` does not check (beyond it the rounded capacity wraps to `0`).
-/
namespace MgProof.C11
open MgModel.C11

namespace AL
open MgModel.C11.AL

/-- **Array list, one call.** In a state representing the sequence `l`, every API
call succeeds (no out-of-bounds access, no read of unwritten storage), returns
exactly what the reference sequence returns (node offset, success flag, the data
handed to the free callback, the contents) and ends in a state representing the
reference result. -/
theorem step_refines {s : AL} {l : List Val} (inv : Inv s l) (hsmall : l.length < 2 ^ 30)
    (op : Op) :
    ∃ s', step s op = .ok (s', (specStep l op).2) ∧ Inv s' (specStep l op).1 ∧
      (specStep l op).1.length ≤ l.length + 1 := by
  refine Exists.imp (fun s' (h : _ ∧ _) => ⟨h.1, h.2, specStep_length l op⟩) ?_
  cases op with
  | insert i v => exact lift_step Res.pos (insert_refines inv hsmall i v)
  | append i v => exact lift_step Res.pos (append_refines inv hsmall i v)
  | remove i fr => exact lift_step (fun r => Res.removed r.1 r.2) (remove_refines inv i fr)
  | get i => exact ⟨s, lift_query s Res.cell (index_refines inv i), inv⟩
  | find i v => exact ⟨s, lift_query s Res.found (find_refines inv i v), inv⟩
  | clear fr => exact lift_step Res.cleared (clear_refines inv fr)
  | ensure c =>
    obtain ⟨s', h, inv', -⟩ := ensureCapacity_inv inv c
    exact lift_step (fun _ => Res.ensured) ⟨s', h, inv'⟩
  | dump => exact ⟨s, by simp [step, specStep, contents_refines inv, inv.size], inv⟩

/-- **Array list, every history.** From any state representing `l`, every operation
list (any length, any `int` indices, growth included) runs without error and
returns exactly the answers of the reference sequence; the final state represents
the reference result. -/
theorem run_refines (ops : List Op) : ∀ {s : AL} {l : List Val}, Inv s l →
    l.length + ops.length < 2 ^ 30 →
    ∃ s', run s ops = .ok (s', (specRun l ops).2) ∧ Inv s' (specRun l ops).1 := by
  induction ops with
  | nil => intro s l inv _; exact ⟨s, rfl, inv⟩
  | cons op ops ih =>
    intro s l inv hsmall
    simp only [List.length_cons] at hsmall
    obtain ⟨s1, h1, inv1, hlen⟩ := step_refines inv (by omega) op
    obtain ⟨s2, h2, inv2⟩ := ih inv1 (by omega)
    exact ⟨s2, by simp [run, specRun, h1, h2], by simpa [specRun] using inv2⟩

/-- **C11, array list.** A list created by `muggle_array_list_init` with any
capacity (`0` = default `8`; growth happens whenever `size = capacity`) behaves as
the empty reference sequence under every history. -/
theorem array_list_behaves_as_sequence {c : Nat} {s : AL} (h : init c = some s) (ops : List Op)
    (hsmall : ops.length < 2 ^ 30) :
    ∃ s', run s ops = .ok (s', (specRun [] ops).2) ∧ Inv s' (specRun [] ops).1 := by
  exact run_refines ops (inv_init h) (by simpa using hsmall)

/-- the hypothesis `init c = some s` of the array-list theorems can be met exactly for `c < 2^31` -/
theorem init_none_iff (c : Nat) : init c = none ↔ 2 ^ 31 ≤ c := by
  unfold init capValid
  by_cases hc : c = 0
  · simp [hc]
  · by_cases h : c < 2 ^ 31
    · simp [hc, h] <;> omega
    · simp [hc, h] <;> omega

/-- **Index normalisation.** `muggle_array_list_get_index` maps `0 ≤ i < n` to `i`,
`-n ≤ i < 0` to `n + i`, and rejects every other `int`. -/
theorem getIndex_spec (n : Nat) (i : Int) (k : Nat) :
    getIndex n i = some k ↔ (0 ≤ i ∧ i < n ∧ (k : Int) = i) ∨ (i < 0 ∧ -i ≤ n ∧ (k : Int) = n + i) := by
  rw [getIndex_eq]
  unfold normIndex
  by_cases h0 : 0 ≤ i
  · by_cases h1 : i < (n : Int)
    · simp [h0, h1] <;> omega
    · simp [h0, h1] <;> omega
  · by_cases h1 : -i ≤ (n : Int)
    · simp [h0, h1] <;> omega
    · simp [h0, h1] <;> omega

/-- **Invalid positions are rejected without effect on the sequence.** If `i` addresses no element
(and is not the `0`/`-1` shortcut on an empty list), insert and append return NULL,
remove returns false and calls no callback, index returns NULL — and the state
still represents the same sequence (same contents, same size). -/
theorem invalid_position_rejected {s : AL} {l : List Val} (inv : Inv s l)
    (hsmall : l.length < 2 ^ 30) (i : Int) (v : Val) (fr : Bool) (hbad : specPos l i = none) :
    (∃ s', AL.insert s i v = .ok (s', none) ∧ Inv s' l) ∧
    (∃ s', AL.append s i v = .ok (s', none) ∧ Inv s' l) ∧
    AL.remove s i fr = .ok (s, false, []) ∧
    AL.index s i = .ok none := by
  have hn : normIndex l.length i = none := by
    unfold specPos at hbad
    cases h : normIndex l.length i with
    | none => rfl
    | some k => rw [h] at hbad; simp at hbad
  refine ⟨?_, ?_, ?_, ?_⟩
  · simpa [specInsert, hbad] using insert_refines inv hsmall i v
  · simpa [specAppend, hbad] using append_refines inv hsmall i v
  · unfold AL.remove; rw [getIndex_eq, inv.size, hn]; rfl
  · rw [index_refines inv]; simp [specIndex, hn]

/-- `get_index` with the negation done in `int` (`getIndexOrig`; fixes/C11-array-list-int-min.patch
does it in 64 bits) hits signed-overflow UB for `INT_MIN` … -/
theorem getIndexOrig_int_min (n : Nat) : getIndexOrig n (-(2 : Int) ^ 31) = .error .ub := by
  unfold getIndexOrig; simp

/-- … and agrees with `getIndex` on every other `int` -/
theorem getIndexOrig_eq (n : Nat) (i : Int) (h : i ≠ -(2 : Int) ^ 31) :
    getIndexOrig n i = .ok (getIndex n i) := by
  unfold getIndexOrig
  by_cases h0 : i ≥ 0
  · simp [h0]
  · have : ¬ i = -(2 : Int) ^ 31 := h
    simp only [h0, this, if_false]

/-- **Ownership.** `clear` hands every non-NULL stored datum to the callback exactly
once, in order. -/
theorem clear_frees_each_once {s : AL} {l : List Val} (inv : Inv s l) :
    ∃ s', AL.clear s true = .ok (s', l.filter (· ≠ 0)) ∧ Inv s' [] := by
  simpa [specClear] using clear_refines inv true

/-- **Ownership, every history.** On a list created by `init`, if every remove /
clear passes the free callback then, as multisets of non-NULL data, what the history
stored = what the callback received + what is still in the list at the end (the
callback log `freedBy rs` and the final contents being those of the C model's run):
nothing is released twice, nothing is dropped without the callback. -/
theorem array_list_ownership {c : Nat} {s : AL} (h : init c = some s) (ops : List Op)
    (hsmall : ops.length < 2 ^ 30) (hall : AllFree ops) :
    ∃ s' rs final, run s ops = .ok (s', rs) ∧ contents s' = .ok final ∧
      List.Perm ((stored ops rs).filter (· ≠ 0)) ((freedBy rs ++ final).filter (· ≠ 0)) := by
  obtain ⟨s', hr, inv'⟩ := array_list_behaves_as_sequence h ops hsmall
  refine ⟨s', _, _, hr, contents_refines inv', ?_⟩
  simpa using spec_ownership ops [] hall

/-! non-vacuity: a concrete history with growth, negative indices and a rejected position -/
example : ∃ s, init 1 = some s ∧
    (specRun [] [.append (-1) 5, .insert 0 6, .append (-1) 7, .insert 3 9, .remove (-3) true,
      .get (-1), .dump]).2
    = [.pos (some 0), .pos (some 0), .pos (some 2), .pos none, .removed true [6],
       .cell (some (1, 7)), .contents 2 [5, 7]] ∧
    (run s [.append (-1) 5, .insert 0 6, .append (-1) 7, .insert 3 9, .remove (-3) true,
        .get (-1), .dump]).toOption.map (fun p => (p.2, p.1.capacity))
      = some ([.pos (some 0), .pos (some 0), .pos (some 2), .pos none,
          .removed true [6], .cell (some (1, 7)), .contents 2 [5, 7]], 4) := by
  exact ⟨_, rfl, rfl, rfl⟩

end AL

namespace Stk
open MgModel.C11.Stk

/-- **Stack, one call**: every call succeeds and answers as the reference sequence
(last element = top); the final state represents the reference result. -/
theorem step_refines {s : Stack} {l : List Val} (inv : Inv s l) (hsmall : l.length < 2 ^ 30)
    (op : Op) :
    ∃ s', step s op = .ok (s', (specStep l op).2) ∧ Inv s' (specStep l op).1 ∧
      (specStep l op).1.length ≤ l.length + 1 := by
  refine Exists.imp (fun s' (h : _ ∧ _) => ⟨h.1, h.2, specStep_length l op⟩) ?_
  cases op with
  | push v => exact lift_step Res.pos (push_refines inv hsmall v)
  | top => exact ⟨s, lift_query s Res.cell (top_refines inv), inv⟩
  | pop fr => exact lift_step Res.freed (pop_refines inv fr)
  | clear fr => exact lift_step Res.freed (clear_refines inv fr)
  | ensure c =>
    obtain ⟨s', h, inv', -⟩ := ensureCapacity_inv inv c
    exact lift_step (fun _ => Res.ensured) ⟨s', h, inv'⟩
  | dump => exact ⟨s, by simp [step, specStep, contents_refines inv, inv.size], inv⟩

/-- **Stack, every history**: from any state representing `l`, growth included. -/
theorem run_refines (ops : List Op) : ∀ {s : Stack} {l : List Val}, Inv s l →
    l.length + ops.length < 2 ^ 30 →
    ∃ s', run s ops = .ok (s', (specRun l ops).2) ∧ Inv s' (specRun l ops).1 := by
  induction ops with
  | nil => intro s l inv _; exact ⟨s, rfl, inv⟩
  | cons op ops ih =>
    intro s l inv hsmall
    simp only [List.length_cons] at hsmall
    obtain ⟨s1, h1, inv1, hlen⟩ := step_refines inv (by omega) op
    obtain ⟨s2, h2, inv2⟩ := ih inv1 (by omega)
    exact ⟨s2, by simp [run, specRun, h1, h2], by simpa [specRun] using inv2⟩

/-- **C11, stack.** A stack created by `muggle_stack_init` with any capacity behaves
as the empty reference sequence under every history of push / top / pop / clear /
ensure_capacity, with and without the free callback. -/
theorem stack_behaves_as_sequence {c : Nat} {s : Stack} (h : init c = some s) (ops : List Op)
    (hsmall : ops.length < 2 ^ 30) :
    ∃ s', run s ops = .ok (s', (specRun [] ops).2) ∧ Inv s' (specRun [] ops).1 :=
  run_refines ops (inv_init h) (by simpa using hsmall)

example : ∃ s, init 1 = some s ∧
    (run s [.push 4, .push 5, .push 0, .top, .pop true, .pop true, .dump]).toOption.map
      (fun p => (p.2, p.1.capacity))
      = some ([.pos (some 0), .pos (some 1), .pos (some 2), .cell (some (2, 0)), .freed [],
          .freed [5], .contents 1 [4]], 4) := ⟨_, rfl, rfl⟩

end Stk

namespace LL
open MgModel.C11.LL

/-- **Linked list, one call.** Whenever the reference side is defined (every handle
passed is an element of the sequence), the call succeeds on the heap model — no
NULL / freed-node dereference — and returns the reference answer; the new handle
of insert/append is the next fresh node. -/
theorem step_refines {s : LL} {l : Spec} {k : Nat} (inv : Inv s l) (hk : s.mem.cells.length = k)
    (hsmall : l.length + 1 < 2 ^ 64) (op : Op) {l' : Spec} {k' : Nat} {r : Res}
    (h : specStep l k op = some (l', k', r)) :
    ∃ s', step s op = .ok (s', r) ∧ Inv s' l' ∧ s'.mem.cells.length = k' ∧
      l'.length ≤ l.length + 1 := by
  refine Exists.imp (fun s' (h' : _ ∧ _ ∧ _) => ⟨h'.1, h'.2.1, h'.2.2, specStep_length h⟩) ?_
  subst hk
  cases op <;>
    simp only [specStep, Option.ite_none_right_eq_some, Option.some.injEq, Prod.mk.injEq] at h
  case insert n v =>
    obtain ⟨hok, rfl, rfl, rfl⟩ := h
    exact lift_step Res.node (insert_refines inv n (handleOk_iff.mp hok) v hsmall)
  case append n v =>
    obtain ⟨hok, rfl, rfl, rfl⟩ := h
    exact lift_step Res.node (append_refines inv n (handleOk_iff.mp hok) v hsmall)
  case remove n fr =>
    obtain ⟨hok, rfl, rfl, rfl⟩ := h
    exact lift_step (fun r => Res.removed r.1 r.2) (remove_refines inv (handleOk_iff.mp hok n rfl) fr)
  case next n =>
    obtain ⟨hok, rfl, rfl, rfl⟩ := h
    exact ⟨s, lift_query s Res.optNode (next_refines inv (handleOk_iff.mp hok n rfl)), inv, rfl⟩
  case prev n =>
    obtain ⟨hok, rfl, rfl, rfl⟩ := h
    exact ⟨s, lift_query s Res.optNode (prev_refines inv (handleOk_iff.mp hok n rfl)), inv, rfl⟩
  case first =>
    obtain ⟨rfl, rfl, rfl⟩ := h
    exact ⟨s, congrArg (fun r => Except.ok (s, Res.optNode r)) (first_refines inv), inv, rfl⟩
  case last =>
    obtain ⟨rfl, rfl, rfl⟩ := h
    exact ⟨s, congrArg (fun r => Except.ok (s, Res.optNode r)) (last_refines inv), inv, rfl⟩
  case find n v =>
    obtain ⟨hok, rfl, rfl, rfl⟩ := h
    exact ⟨s, lift_query s Res.optNode (find_refines inv n (handleOk_iff.mp hok) v), inv, rfl⟩
  case clear fr =>
    obtain ⟨rfl, rfl, rfl⟩ := h
    exact lift_step Res.cleared (clear_refines inv fr)
  case dump =>
    obtain ⟨rfl, rfl, rfl⟩ := h
    obtain ⟨hf, hb⟩ := toList_refines inv
    exact ⟨s, by simp [step, hf, hb, inv.size, ids], inv, rfl⟩

/-- **Linked list, every history.** For every operation list on which the
reference side is defined (only handles of current elements are passed), the heap
model runs without error and returns exactly the reference answers: handles,
neighbours, search results, callback data, and both traversals. -/
theorem run_refines (ops : List Op) : ∀ {s : LL} {l : Spec} {k : Nat} {l' : Spec} {k' : Nat}
    {rs : List Res}, Inv s l → s.mem.cells.length = k → l.length + ops.length < 2 ^ 64 →
    specRun l k ops = some (l', k', rs) →
    ∃ s', run s ops = .ok (s', rs) ∧ Inv s' l' ∧ s'.mem.cells.length = k' := by
  induction ops with
  | nil =>
    intro s l k l' k' rs inv hk _ h
    simp only [specRun, Option.some.injEq, Prod.mk.injEq] at h
    obtain ⟨h1, h2, h3⟩ := h
    subst h1 h2 h3
    exact ⟨s, rfl, inv, hk⟩
  | cons op ops ih =>
    intro s l k l' k' rs inv hk hsmall h
    simp only [List.length_cons] at hsmall
    simp only [specRun] at h
    split at h
    · cases h
    · rename_i l1 k1 r h1
      split at h
      · cases h
      · rename_i l2 k2 rs2 h2
        obtain ⟨rfl, rfl, rfl⟩ : l2 = l' ∧ k2 = k' ∧ r :: rs2 = rs := by simpa using h
        obtain ⟨s1, hs1, inv1, hk1, hlen⟩ := step_refines inv hk (by omega) op h1
        obtain ⟨s2, hs2, inv2, hk2⟩ := ih inv1 hk1 (by omega) h2
        exact ⟨s2, by simp [run, hs1, hs2], inv2, hk2⟩

/-- **C11, linked list.** A list created by `muggle_linked_list_init` — with a node
pool (`capacity > 0`) or without (`capacity = 0`) — behaves as the empty reference
sequence under every history of insert-before / append-after / remove / next /
prev / first / last / find / clear / traversal that only passes handles of current
elements. -/
theorem linked_list_behaves_as_sequence {c : Nat} {s : LL} (h : init c = some s) (ops : List Op)
    (hsmall : ops.length < 2 ^ 64) {l' : Spec} {k' : Nat} {rs : List Res}
    (hspec : specRun [] 0 ops = some (l', k', rs)) :
    ∃ s', run s ops = .ok (s', rs) ∧ Inv s' l' := by
  obtain ⟨inv, hk⟩ := inv_init h
  obtain ⟨s', hr, inv', _⟩ := run_refines ops inv hk (by simpa using hsmall) hspec
  exact ⟨s', hr, inv'⟩

example : ∃ s, init 2 = some s ∧
    specRun [] 0 [.insert none 4, .append (some (.node 0)) 5, .insert (some (.node 1)) 6,
      .remove (.node 0) true, .next (.node 2), .dump]
    = some ([(.node 2, 6), (.node 1, 5)], 3,
        [.node (.node 0), .node (.node 1), .node (.node 2), .removed (some (.node 2)) [4],
         .optNode (some (.node 1)), .contents 2 [(.node 2, 6), (.node 1, 5)] [.node 1, .node 2]]) ∧
    (run s [.insert none 4, .append (some (.node 0)) 5, .insert (some (.node 1)) 6,
      .remove (.node 0) true, .next (.node 2), .dump]).toOption.map (·.2)
    = some [.node (.node 0), .node (.node 1), .node (.node 2), .removed (some (.node 2)) [4],
         .optNode (some (.node 1)), .contents 2 [(.node 2, 6), (.node 1, 5)] [.node 1, .node 2]] :=
  ⟨_, rfl, rfl, rfl⟩

end LL

namespace Q
open MgModel.C11.Q
open MgProof.C11.LL (ids)

/-- **Queue, one call**: enqueue / dequeue / front / clear / traversal succeed on
the heap model and answer as the FIFO reference sequence. -/
theorem step_refines {s : Queue} {l : Spec} (inv : Inv s l) (hsmall : l.length + 1 < 2 ^ 64)
    (op : Op) :
    ∃ s', step s op = .ok (s', (specStep l s.mem.cells.length op).2.2) ∧
      Inv s' (specStep l s.mem.cells.length op).1 ∧
      s'.mem.cells.length = (specStep l s.mem.cells.length op).2.1 ∧
      (specStep l s.mem.cells.length op).1.length ≤ l.length + 1 := by
  refine Exists.imp (fun s' (h : _ ∧ _ ∧ _) => ⟨h.1, h.2.1, h.2.2, specStep_length l _ op⟩) ?_
  cases op with
  | enq v => exact lift_step Res.node (enqueue_refines inv v hsmall)
  | deq fr => exact lift_step Res.freed (dequeue_refines inv fr)
  | front => exact ⟨s, lift_query s Res.front (front_refines inv), inv, rfl⟩
  | clear fr => exact lift_step Res.freed (clear_refines inv fr)
  | dump =>
    obtain ⟨hf, hb⟩ := toList_refines inv
    exact ⟨s, by simp [step, specStep, hf, hb, inv.size, ids], inv, rfl⟩

/-- **Queue, every history**; new nodes are numbered from the cells allocated so far. -/
theorem run_refines (ops : List Op) : ∀ {s : Queue} {l : Spec}, Inv s l →
    l.length + ops.length < 2 ^ 64 →
    ∃ s', run s ops = .ok (s', (specRun l s.mem.cells.length ops).2.2) ∧
      Inv s' (specRun l s.mem.cells.length ops).1 := by
  induction ops with
  | nil => intro s l inv _; exact ⟨s, rfl, inv⟩
  | cons op ops ih =>
    intro s l inv hsmall
    simp only [List.length_cons] at hsmall
    obtain ⟨s1, h1, inv1, hk1, hlen⟩ := step_refines inv (by omega) op
    obtain ⟨s2, h2, inv2⟩ := ih inv1 (by omega)
    rw [hk1] at h2 inv2
    exact ⟨s2, by simp [run, specRun, h1, h2], by
      simpa [specRun] using inv2⟩

/-- **C11, queue.** A queue created by `muggle_queue_init`, with or without node
pool, is a FIFO: every history of enqueue / dequeue / front / clear returns exactly
the reference answers (front element, callback data, both traversals, size). -/
theorem queue_behaves_as_fifo {c : Nat} {s : Queue} (h : init c = some s) (ops : List Op)
    (hsmall : ops.length < 2 ^ 64) :
    ∃ s', run s ops = .ok (s', (specRun [] 0 ops).2.2) ∧ Inv s' (specRun [] 0 ops).1 := by
  obtain ⟨inv, hk⟩ := inv_init h
  have := run_refines ops inv (by simpa using hsmall)
  rwa [hk] at this

example : ∃ s, init 1 = some s ∧
    (run s [.enq 3, .enq 0, .enq 7, .front, .deq true, .deq true, .dump]).toOption.map (·.2)
    = some [.node (.node 0), .node (.node 1), .node (.node 2), .front (some (.node 0, 3)),
        .freed [3], .freed [], .contents 1 [(.node 2, 7)] [.node 2]] ∧
    (specRun [] 0 [.enq 3, .enq 0, .enq 7, .front, .deq true, .deq true, .dump]).2.2
    = [.node (.node 0), .node (.node 1), .node (.node 2), .front (some (.node 0, 3)),
        .freed [3], .freed [], .contents 1 [(.node 2, 7)] [.node 2]] :=
  ⟨_, rfl, rfl, rfl⟩

end Q

namespace PS
open MgModel.C11.PS

/-- the state `s` holds exactly the live entries `l` (in insertion order); the ghost
values of the invariant (`PInv`) are the unbounded counters and the free ring -/
def Inv (s : PS) (l : Spec) : Prop := ∃ A F fl, PInv s l A F fl

/-- **Every requested capacity** (`≤ 2^31`, not only powers of two) **and every
common preset of the two 32-bit counters** (in particular `UINT_MAX`, `UINT_MAX - capacity`):
after `muggle_pointer_slot_init` (arrays sized by the rounded capacity) the slot is empty, its capacity
is a power of two `≥ request` (the least one: `roundCap_least`), and the invariant holds. -/
theorem init_inv {req : Nat} (hreq : req ≤ 2 ^ 31) (start : BitVec 32) :
    Inv (init req start) [] ∧ ∃ k, k ≤ 31 ∧ (init req start).capacity = 2 ^ k ∧ req ≤ 2 ^ k := by
  obtain ⟨k, hk, hc, hle⟩ := roundCap_spec hreq
  have hinv : PInv (init req start) [] start.toNat start.toNat
      ((List.range (2 ^ k)).map (fun j => (start.toNat + j) % 2 ^ k)) := by
    have := inv_initWith hk start
    simpa [init, hc] using this
  exact ⟨⟨_, _, _, hinv⟩, k, hk, by simp [init, initWith, hc], hle⟩

/-- **Indices are unique among live entries; inserts are refused exactly when full.**
With fewer than `capacity` live entries an insert succeeds and returns an index
below the capacity that no live entry has; the new entry is appended (insertion
order). With `capacity` live entries it returns `MUGGLE_ERR_MEM_ALLOC` and changes
nothing. -/
theorem insert_spec {s : PS} {l : Spec} (inv : Inv s l) (data : Val) :
    (l.length < s.capacity → ∃ s' k, insert s data = .ok (s', some k) ∧ k < s.capacity ∧
        k ∉ idxs l ∧ Inv s' (l ++ [(k, data)]) ∧ s'.capacity = s.capacity) ∧
    (l.length = s.capacity → insert s data = .ok (s, none)) ∧
    l.length ≤ s.capacity := by
  obtain ⟨A, F, fl, pinv⟩ := inv
  obtain ⟨h1, h2⟩ := insert_refines pinv data
  refine ⟨fun hlt => ?_, h2, by have := pinv.fl_len; omega⟩
  obtain ⟨s', k, fl', hs, hk, hkl, pinv', hcap⟩ := h1 hlt
  exact ⟨s', k, hs, hk, hkl, ⟨_, _, _, pinv'⟩, hcap⟩

/-- **Removal; double removals and out-of-range indices are refused.** `remove idx`
answers `MUGGLE_ERR_BEYOND_RANGE` for `idx ≥ capacity`, `MUGGLE_ERR_MEM_DUPLICATE_FREE`
when `idx` is not live (both without any effect), and otherwise `0`, after which the
live entries are the old ones without `idx`, in the same order. -/
theorem remove_spec {s : PS} {l : Spec} (inv : Inv s l) (idx : Nat) :
    ∃ s', remove s idx = .ok (s', (specRemove s.capacity l idx).2) ∧
      Inv s' (specRemove s.capacity l idx).1 ∧ s'.capacity = s.capacity := by
  obtain ⟨A, F, fl, pinv⟩ := inv
  obtain ⟨s', F', fl', hs, pinv', hcap⟩ := remove_refines pinv idx
  exact ⟨s', hs, ⟨_, _, _, pinv'⟩, hcap⟩

/-- a second removal of the same index is refused; the slot still holds the same entries -/
theorem double_remove_refused {s : PS} {l : Spec} (inv : Inv s l) (idx : Nat) :
    ∃ s', remove s idx = .ok (s', (specRemove s.capacity l idx).2) ∧
      ∃ s'', remove s' idx = .ok (s'', if idx ≥ s.capacity then .beyondRange else .dupFree) ∧
        Inv s'' (specRemove s.capacity l idx).1 := by
  obtain ⟨s', hs, inv', hcap⟩ := remove_spec inv idx
  obtain ⟨s'', hs', inv'', _⟩ := remove_spec inv' idx
  rw [hcap, specRemove_twice] at hs' inv''
  exact ⟨s', hs, s'', hs', inv''⟩

/-- **An index resolves to its pointer until removed.** `get idx` returns the datum
of the live entry `idx`, and NULL when `idx` is not live or out of range. -/
theorem get_spec {s : PS} {l : Spec} (inv : Inv s l) (idx : Nat) :
    get s idx = .ok (specGet l idx) := by
  obtain ⟨A, F, fl, pinv⟩ := inv
  exact get_refines pinv idx

theorem get_live {s : PS} {l : Spec} (inv : Inv s l) {idx : Nat} {d : Val} (h : (idx, d) ∈ l) :
    get s idx = .ok d := by
  rw [get_spec inv idx]
  obtain ⟨A, F, fl, pinv⟩ := inv
  rw [specGet_of_mem pinv.idxs_nodup h]

/-- **Iteration visits the live entries in insertion order.** -/
theorem iterate_spec {s : PS} {l : Spec} (inv : Inv s l) : iterate s = .ok l := by
  obtain ⟨A, F, fl, pinv⟩ := inv
  exact iterate_refines pinv

/-- one call, as `Conforms` wants it: the bridge from the four call theorems to the histories -/
theorem step_conforms {s : PS} {l : Spec} (inv : Inv s l) (op : Op) :
    ∃ s' r l', step s op = .ok (s', r) ∧ Inv s' l' ∧ s'.capacity = s.capacity ∧
      ∀ ops rs lf, Conforms s.capacity l' ops rs lf → Conforms s.capacity l (op :: ops) (r :: rs) lf := by
  cases op with
  | insert v =>
    obtain ⟨h1, h2, hle⟩ := insert_spec inv v
    by_cases hlt : l.length < s.capacity
    · obtain ⟨s', k, hs, hk, hkl, inv', hcap⟩ := h1 hlt
      have hl : specLive l k = false := by rw [← Bool.not_eq_true, specLive_iff]; exact hkl
      exact ⟨s', .inserted (some k), l ++ [(k, v)], by simp [step, hs], inv', hcap,
        fun _ _ _ hc => ⟨by simp [specInsertOk, hlt, hk, hl], hc⟩⟩
    · have hfull : l.length = s.capacity := by omega
      exact ⟨s, .inserted none, l, by simp [step, h2 hfull], inv, rfl,
        fun _ _ _ hc => ⟨by simp [specInsertOk, hfull], hc⟩⟩
  | remove i =>
    obtain ⟨s', hs, inv', hcap⟩ := remove_spec inv i
    exact ⟨s', .removed (specRemove s.capacity l i).2, _, by simp [step, hs], inv', hcap,
      fun _ _ _ hc => ⟨rfl, hc⟩⟩
  | get i =>
    exact ⟨s, .got (specGet l i), l, by simp [step, get_spec inv i], inv, rfl,
      fun _ _ _ hc => ⟨rfl, hc⟩⟩
  | iter =>
    exact ⟨s, .entries l, l, by simp [step, iterate_spec inv], inv, rfl, fun _ _ _ hc => ⟨rfl, hc⟩⟩

/-- **Pointer slot, every history.** From any state holding the live entries `l`,
every operation list runs without error (no out-of-bounds slot access, no broken
link) and its answers conform to the property. -/
theorem run_conforms (ops : List Op) : ∀ {s : PS} {l : Spec}, Inv s l →
    ∃ s' rs l', run s ops = .ok (s', rs) ∧ Inv s' l' ∧ Conforms s.capacity l ops rs l' := by
  induction ops with
  | nil => intro s l inv; exact ⟨s, [], l, rfl, inv, rfl⟩
  | cons op ops ih =>
    intro s l inv
    obtain ⟨s1, r, l1, hs1, inv1, hcap, hconf⟩ := step_conforms inv op
    obtain ⟨s2, rs, l2, hs2, inv2, hc2⟩ := ih inv1
    rw [hcap] at hc2
    exact ⟨s2, r :: rs, l2, by simp [run, hs1, hs2], inv2,
      hconf ops rs l2 hc2⟩

/-- **C11, pointer slot.** For every requested capacity `≤ 2^31` (power of two or
not) and every common starting value of the two 32-bit counters (so also across their
wrap-around at `2^32`), a slot created by `muggle_pointer_slot_init` with arrays of the
rounded capacity (`init`) answers every history of insert / remove / get / iteration as the property demands:
indices unique among live entries, resolution until removal, refusal when full and
of double removals, iteration in insertion order. -/
theorem pointer_slot_conforms {req : Nat} (hreq : req ≤ 2 ^ 31) (start : BitVec 32)
    (ops : List Op) :
    ∃ s' rs l', run (init req start) ops = .ok (s', rs) ∧ Inv s' l' ∧
      Conforms (init req start).capacity [] ops rs l' :=
  run_conforms ops (init_inv hreq start).1

/-- **With the arrays sized by the request (`initOrig`) the property fails for requests that are
not powers of two** (`fixes/C11-pointer-slot-capacity.patch` sizes them by the rounded capacity):
capacity 5 and six inserts reach `pp_slots[5]`, outside the 5-entry array. -/
theorem pointer_slot_npot_oob :
    run (initOrig 5) [.insert 1, .insert 2, .insert 3, .insert 4, .insert 5, .insert 6]
      = .error .oob := by rfl

/-- the same history with `init`: capacity 8, the sixth insert succeeds -/
example : (run (init 5) [.insert 1, .insert 2, .insert 3, .insert 4, .insert 5, .insert 6,
      .remove 2, .remove 2, .get 3, .iter]).toOption.map (·.2)
    = some [.inserted (some 0), .inserted (some 1), .inserted (some 2), .inserted (some 3),
        .inserted (some 4), .inserted (some 5), .removed .ok, .removed .dupFree, .got 4,
        .entries [(0, 1), (1, 2), (3, 4), (4, 5), (5, 6)]] := rfl

/-- counters preset to `UINT_MAX`: the wrap-around changes nothing -/
example : (run (init 2 (BitVec.ofNat 32 4294967295)) [.insert 7, .insert 8, .insert 9,
      .remove 1, .insert 9, .iter]).toOption.map (·.2)
    = some [.inserted (some 1), .inserted (some 0), .inserted none, .removed .ok,
        .inserted (some 1), .entries [(0, 8), (1, 9)]] := rfl

end PS
end MgProof.C11
