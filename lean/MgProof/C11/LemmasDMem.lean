import MgModel.C11.DMem
import MgProof.C11.LemmasLink
import MgProof.C11.LemmasStore
/-! Reading the `next`/`prev`/payload of a `DMem` after `set…`, `alloc`, `free`; walking a chain. -/
namespace MgProof.C11
open MgModel.C11 MgProof.C11.Link

variable {α : Type}

/-- the cell behind `r` is allocated -/
def Live (m : DMem α) (r : Ref) : Prop := ∃ c, m.get r = .ok c

/-- `r->next` (`none` when NULL or not dereferenceable) -/
def nxt (m : DMem α) (r : Ref) : Option Ref :=
  match m.get r with
  | .ok c => c.next
  | .error _ => none

/-- `r->prev` -/
def prv (m : DMem α) (r : Ref) : Option Ref :=
  match m.get r with
  | .ok c => c.prev
  | .error _ => none

/-- payload of `r` -/
def valOf (m : DMem α) (r : Ref) : Option α :=
  match m.get r with
  | .ok c => some c.val
  | .error _ => none

variable {m : DMem α} {r : Ref}

/-- a view that reads something is reading an allocated cell -/
theorem live_of_read {β : Type} {f : Cell α → Option β} {x : β}
    (h : (match m.get r with | .ok c => f c | .error _ => none) = some x) : Live m r := by
  cases hg : m.get r with
  | ok c => exact ⟨c, hg⟩
  | error e => rw [hg] at h; cases h

theorem live_of_nxt {x : Ref} (h : nxt m r = some x) : Live m r := live_of_read h

theorem live_of_prv {x : Ref} (h : prv m r = some x) : Live m r := live_of_read h

theorem live_of_valOf {v : α} (h : valOf m r = some v) : Live m r :=
  live_of_read (f := fun c => some c.val) h

theorem live_node_lt {i : Nat} (h : Live m (.node i)) : i < m.cells.length := by
  obtain ⟨c, hc⟩ := h
  simp only [DMem.get] at hc
  cases hi : m.cells[i]? with
  | none => rw [hi] at hc; simp at hc
  | some o =>
    have := List.getElem?_eq_some_iff.mp hi
    exact this.1

theorem set_spec (hl : Live m r) (c : Cell α) :
    ∃ m', m.set r c = .ok m' ∧ m'.cells.length = m.cells.length ∧
      ∀ q, m'.get q = if q = r then .ok c else m.get q := by
  obtain ⟨c0, hc0⟩ := hl
  cases r with
  | head =>
    refine ⟨{ m with head := c }, rfl, rfl, ?_⟩
    intro q; cases q <;> simp [DMem.get]
  | tail =>
    refine ⟨{ m with tail := c }, rfl, rfl, ?_⟩
    intro q; cases q <;> simp [DMem.get]
  | node i =>
    simp only [DMem.get] at hc0
    cases hi : m.cells[i]? with
    | none => rw [hi] at hc0; simp at hc0
    | some o =>
      cases o with
      | none => rw [hi] at hc0; simp at hc0
      | some c1 =>
        have hlt : i < m.cells.length := (List.getElem?_eq_some_iff.mp hi).1
        refine ⟨{ m with cells := m.cells.set i (some c) }, by simp [DMem.set, hi], by simp, ?_⟩
        intro q
        cases q with
        | head => simp [DMem.get]
        | tail => simp [DMem.get]
        | node j =>
          by_cases hj : j = i
          · subst hj; simp [DMem.get, hlt]
          · have : ¬ i = j := fun h => hj h.symm
            simp [DMem.get, hj, this]

@[simp] theorem alloc_snd (m : DMem α) (v : α) : (m.alloc v).2 = .node m.cells.length := rfl

theorem alloc_spec (m : DMem α) (v : α) :
    (m.alloc v).1.cells.length = m.cells.length + 1 ∧
    (m.alloc v).1.get (.node m.cells.length) = .ok { prev := none, next := none, val := v } ∧
    ∀ q, q ≠ .node m.cells.length → (m.alloc v).1.get q = m.get q := by
  refine ⟨by simp [DMem.alloc], by simp [DMem.alloc, DMem.get], ?_⟩
  intro q hq
  cases q with
  | head => rfl
  | tail => rfl
  | node j =>
    have hj : j ≠ m.cells.length := fun h => hq (by rw [h])
    simp only [DMem.alloc, DMem.get, List.getElem?_append]
    by_cases h : j < m.cells.length
    · simp [h]
    · have h1 : m.cells[j]? = none := List.getElem?_eq_none (by omega)
      have h2 : ([some ({ prev := none, next := none, val := v } : Cell α)])[j - m.cells.length]? = none :=
        List.getElem?_eq_none (by simp; omega)
      simp [h, h2]

theorem free_spec {i : Nat} (hl : Live m (.node i)) :
    ∃ m', m.free (.node i) = .ok m' ∧ m'.cells.length = m.cells.length ∧
      m'.get (.node i) = .error .uaf ∧ ∀ q, q ≠ .node i → m'.get q = m.get q := by
  obtain ⟨c0, hc0⟩ := hl
  simp only [DMem.get] at hc0
  cases hi : m.cells[i]? with
  | none => rw [hi] at hc0; simp at hc0
  | some o =>
    cases o with
    | none => rw [hi] at hc0; simp at hc0
    | some c1 =>
      have hlt : i < m.cells.length := (List.getElem?_eq_some_iff.mp hi).1
      refine ⟨{ m with cells := m.cells.set i none }, by simp [DMem.free, hi], by simp, ?_, ?_⟩
      · simp [DMem.get, hlt]
      · intro q hq
        cases q with
        | head => rfl
        | tail => rfl
        | node j =>
          have : ¬ i = j := fun h => hq (by rw [h])
          simp [DMem.get, this]

/-! ### the same facts at the level of the `next` / `prev` / payload functions -/

theorem live_iff_of_get {m' : DMem α} {c : Cell α}
    (hg : ∀ q, m'.get q = if q = r then .ok c else m.get q) (hl : Live m r) (q : Ref) :
    Live m' q ↔ Live m q := by
  unfold Live
  rw [hg q]
  by_cases h : q = r
  · subst h; simp; exact hl
  · simp [h]

theorem setNext_fn (hl : Live m r) (x : Option Ref) :
    ∃ m', m.setNext r x = .ok m' ∧ m'.cells.length = m.cells.length ∧
      (∀ q, nxt m' q = if q = r then x else nxt m q) ∧ (∀ q, prv m' q = prv m q) ∧
      (∀ q, valOf m' q = valOf m q) ∧ (∀ q, Live m' q ↔ Live m q) := by
  obtain ⟨c, hc⟩ := hl
  obtain ⟨m', h, hlen, hg⟩ := set_spec ⟨c, hc⟩ { c with next := x }
  replace h : m.setNext r x = .ok m' := by simp [DMem.setNext, hc, h]
  refine ⟨m', h, hlen, ?_, ?_, ?_, live_iff_of_get hg ⟨c, hc⟩⟩ <;>
    (intro q
     by_cases hq : q = r
     · subst hq; simp [nxt, prv, valOf, hg q, hc]
     · simp [nxt, prv, valOf, hg q, hq])

theorem setPrev_fn (hl : Live m r) (x : Option Ref) :
    ∃ m', m.setPrev r x = .ok m' ∧ m'.cells.length = m.cells.length ∧
      (∀ q, nxt m' q = nxt m q) ∧ (∀ q, prv m' q = if q = r then x else prv m q) ∧
      (∀ q, valOf m' q = valOf m q) ∧ (∀ q, Live m' q ↔ Live m q) := by
  obtain ⟨c, hc⟩ := hl
  obtain ⟨m', h, hlen, hg⟩ := set_spec ⟨c, hc⟩ { c with prev := x }
  replace h : m.setPrev r x = .ok m' := by simp [DMem.setPrev, hc, h]
  refine ⟨m', h, hlen, ?_, ?_, ?_, live_iff_of_get hg ⟨c, hc⟩⟩ <;>
    (intro q
     by_cases hq : q = r
     · subst hq; simp [nxt, prv, valOf, hg q, hc]
     · simp [nxt, prv, valOf, hg q, hq])

theorem setVal_fn (hl : Live m r) (v : α) :
    ∃ m', m.setVal r v = .ok m' ∧ m'.cells.length = m.cells.length ∧
      (∀ q, nxt m' q = nxt m q) ∧ (∀ q, prv m' q = prv m q) ∧
      (∀ q, valOf m' q = if q = r then some v else valOf m q) ∧ (∀ q, Live m' q ↔ Live m q) := by
  obtain ⟨c, hc⟩ := hl
  obtain ⟨m', h, hlen, hg⟩ := set_spec ⟨c, hc⟩ { c with val := v }
  replace h : m.setVal r v = .ok m' := by simp [DMem.setVal, hc, h]
  refine ⟨m', h, hlen, ?_, ?_, ?_, live_iff_of_get hg ⟨c, hc⟩⟩ <;>
    (intro q
     by_cases hq : q = r
     · subst hq; simp [nxt, prv, valOf, hg q, hc]
     · simp [nxt, prv, valOf, hg q, hq])

theorem alloc_fn (m : DMem α) (v : α) :
    Live (m.alloc v).1 (.node m.cells.length) ∧
    (m.alloc v).1.cells.length = m.cells.length + 1 ∧
    (∀ q, nxt (m.alloc v).1 q = if q = .node m.cells.length then none else nxt m q) ∧
    (∀ q, prv (m.alloc v).1 q = if q = .node m.cells.length then none else prv m q) ∧
    (∀ q, valOf (m.alloc v).1 q = if q = .node m.cells.length then some v else valOf m q) ∧
    (∀ q, q ≠ .node m.cells.length → (Live (m.alloc v).1 q ↔ Live m q)) := by
  obtain ⟨h2, h3, h4⟩ := alloc_spec m v
  refine ⟨⟨_, h3⟩, h2, ?_, ?_, ?_, ?_⟩
  · intro q; by_cases hq : q = .node m.cells.length
    · subst hq; simp [nxt, h3]
    · simp [nxt, h4 q hq, hq]
  · intro q; by_cases hq : q = .node m.cells.length
    · subst hq; simp [prv, h3]
    · simp [prv, h4 q hq, hq]
  · intro q; by_cases hq : q = .node m.cells.length
    · subst hq; simp [valOf, h3]
    · simp [valOf, h4 q hq, hq]
  · intro q hq; unfold Live; rw [h4 q hq]

theorem free_fn {i : Nat} (hl : Live m (.node i)) :
    ∃ m', m.free (.node i) = .ok m' ∧ m'.cells.length = m.cells.length ∧
      (∀ q, q ≠ .node i → nxt m' q = nxt m q) ∧ (∀ q, q ≠ .node i → prv m' q = prv m q) ∧
      (∀ q, q ≠ .node i → valOf m' q = valOf m q) ∧ ¬ Live m' (.node i) ∧
      (∀ q, q ≠ .node i → (Live m' q ↔ Live m q)) := by
  obtain ⟨m', h, hlen, hd, hg⟩ := free_spec hl
  refine ⟨m', h, hlen, ?_, ?_, ?_, ?_, ?_⟩
  · intro q hq; simp [nxt, hg q hq]
  · intro q hq; simp [prv, hg q hq]
  · intro q hq; simp [valOf, hg q hq]
  · rintro ⟨c, hc⟩; rw [hd] at hc; cases hc
  · intro q hq; unfold Live; rw [hg q hq]

theorem get_of_live (hl : Live m r) :
    ∃ c, m.get r = .ok c ∧ c.next = nxt m r ∧ c.prev = prv m r ∧ some c.val = valOf m r := by
  obtain ⟨c, hc⟩ := hl
  exact ⟨c, hc, by simp [nxt, hc], by simp [prv, hc], by simp [valOf, hc]⟩

theorem get_of_valOf {v : α} (h : valOf m r = some v) : ∃ c, m.get r = .ok c ∧ c.val = v := by
  obtain ⟨c, hc, -, -, hcv⟩ := get_of_live (live_of_valOf h)
  exact ⟨c, hc, Option.some.inj (hcv.trans h)⟩

theorem readCell_of_valOf {v : α} (h : valOf m r = some v) : m.readCell r = .ok (r, v) := by
  obtain ⟨c, hc, rfl⟩ := get_of_valOf h
  simp [DMem.readCell, hc]

/-- only the `next` half of the links is used (`pv` is arbitrary); likewise `prev` for `walkBwd` -/
theorem walkFwd_spec (m : DMem α) (pv : Ref → Option Ref) :
    ∀ (L : List Ref) (cur : Ref) (fuel : Nat), (L ++ [Ref.tail]).head? = some cur →
      Links (nxt m) pv (L ++ [Ref.tail]) → (L ++ [Ref.tail]).Nodup → L.length < fuel →
      m.walkFwd fuel cur = .ok L := by
  intro L
  induction L with
  | nil =>
    intro cur fuel hh _ _ hf
    simp at hh; subst hh
    cases fuel with
    | zero => omega
    | succ f => simp [DMem.walkFwd]
  | cons a L ih =>
    intro cur fuel hh hl hnd hf
    simp at hh; subst hh
    cases fuel with
    | zero => omega
    | succ f =>
      have hne : a ≠ Ref.tail := by
        intro h; subst h
        simp at hnd
      cases hL : L ++ [Ref.tail] with
      | nil => simp at hL
      | cons b rest =>
        simp only [List.cons_append, hL] at hl hnd
        obtain ⟨h1, _, h3⟩ := hl
        obtain ⟨c, hc⟩ := live_of_nxt h1
        have hcn : c.next = some b := by simpa [nxt, hc] using h1
        have := ih b f (by rw [hL]; rfl) (by rw [hL]; exact h3)
          (by rw [hL]; exact (List.nodup_cons.mp hnd).2) (by simp at hf; omega)
        simp [DMem.walkFwd, hne, hc, hcn, this]

/-- stated on the reversed list, which is the order of the walk and of the induction -/
theorem walkBwd_rev (m : DMem α) (nx : Ref → Option Ref) :
    ∀ (R : List Ref) (cur : Ref) (fuel : Nat), (Ref.head :: R.reverse).getLast? = some cur →
      Links nx (prv m) (Ref.head :: R.reverse) → (Ref.head :: R.reverse).Nodup → R.length < fuel →
      m.walkBwd fuel cur = .ok R := by
  intro R
  induction R with
  | nil =>
    intro cur fuel hh _ _ hf
    simp at hh; subst hh
    cases fuel with
    | zero => omega
    | succ f => simp [DMem.walkBwd]
  | cons a R ih =>
    intro cur fuel hh hl hnd hf
    have hrev : Ref.head :: (a :: R).reverse = (Ref.head :: R.reverse) ++ [a] := by simp
    rw [hrev] at hh hl hnd
    have hcur : cur = a := by rw [List.getLast?_concat] at hh; injection hh with hh; exact hh.symm
    subst hcur
    cases fuel with
    | zero => omega
    | succ f =>
      have hne : cur ≠ Ref.head := by
        intro h; subst h
        simp at hnd
      obtain ⟨A, p, hAp⟩ := exists_concat (X := Ref.head :: R.reverse) (by simp)
      have hpath : (Ref.head :: R.reverse) ++ [cur] = A ++ p :: [cur] := by rw [hAp]; simp
      rw [hpath, links_append] at hl
      obtain ⟨hl1, _, h2, _⟩ := hl
      obtain ⟨c, hc⟩ := live_of_prv h2
      have hcp : c.prev = some p := by simpa [prv, hc] using h2
      have hlast : (Ref.head :: R.reverse).getLast? = some p := by rw [hAp]; simp
      have hnd' : (Ref.head :: R.reverse).Nodup := (List.nodup_append.mp hnd).1
      have := ih p f hlast (by rw [hAp]; exact hl1) hnd' (by simp at hf; omega)
      simp [DMem.walkBwd, hne, hc, hcp, this]

theorem walkBwd_spec (m : DMem α) (nx : Ref → Option Ref) (L : List Ref) (cur : Ref) (fuel : Nat)
    (hh : (Ref.head :: L).getLast? = some cur) (hl : Links nx (prv m) (Ref.head :: L))
    (hnd : (Ref.head :: L).Nodup) (hf : L.length < fuel) :
    m.walkBwd fuel cur = .ok L.reverse := by
  apply walkBwd_rev m nx L.reverse cur fuel <;> simp [hh, hl, hnd, hf]

end MgProof.C11
