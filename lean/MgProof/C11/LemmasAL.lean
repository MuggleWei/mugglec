import MgModel.C11.ArrayList
import MgProof.C11.LemmasStore
/-! The array list: the shifting loops, one refinement lemma per C function, ownership. -/
namespace MgProof.C11.AL
open MgModel.C11 MgModel.C11.AL

/-- the cells `(hi - cnt, hi]` receive their left neighbour -/
theorem shiftUp_spec (a : Store) (hi cnt : Nat) (hcnt : cnt ≤ hi) (hhi : hi < a.length)
    (hinit : ∀ j, hi - cnt ≤ j → j < hi → ∃ v, a[j]? = some (some v)) :
    ∃ r, shiftUp a hi cnt = .ok r ∧ r.length = a.length ∧
      ∀ j, r[j]? = if hi - cnt < j ∧ j ≤ hi then a[j - 1]? else a[j]? := by
  refine foldlM_range_inv _
    (fun k r => r.length = a.length ∧
      ∀ j, r[j]? = if hi - k < j ∧ j ≤ hi then a[j - 1]? else a[j]?)
    cnt a ⟨rfl, fun j => by rw [if_neg (by omega)]⟩ ?_
  intro k r hk ⟨hl, hp⟩
  obtain ⟨v, hv⟩ := hinit (hi - 1 - k) (by omega) (by omega)
  -- the cell read in iteration `k` has not been overwritten by the iterations before
  have hrd : r[hi - 1 - k]? = some (some v) := by rw [hp, if_neg (by omega), hv]
  refine ⟨_, rd_wr_ok hrd (by omega), by simp [hl], fun j => ?_⟩
  rw [List.getElem?_set, hp j]
  by_cases hj : hi - 1 - k + 1 = j
  · rw [if_pos hj, if_pos (by omega), if_pos (by omega), show j - 1 = hi - 1 - k by omega, hv]
  · rw [if_neg hj]
    by_cases h1 : hi - k < j ∧ j ≤ hi
    · rw [if_pos h1, if_pos (by omega)]
    · rw [if_neg h1, if_neg (by omega)]

/-- the cells `[lo, lo + cnt)` receive their right neighbour -/
theorem shiftDown_spec (a : Store) (lo cnt : Nat) (hlen : lo + cnt < a.length)
    (hinit : ∀ j, lo < j → j ≤ lo + cnt → ∃ v, a[j]? = some (some v)) :
    ∃ r, shiftDown a lo cnt = .ok r ∧ r.length = a.length ∧
      ∀ j, r[j]? = if lo ≤ j ∧ j < lo + cnt then a[j + 1]? else a[j]? := by
  refine foldlM_range_inv _
    (fun k r => r.length = a.length ∧
      ∀ j, r[j]? = if lo ≤ j ∧ j < lo + k then a[j + 1]? else a[j]?)
    cnt a ⟨rfl, fun j => by rw [if_neg (by omega)]⟩ ?_
  intro k r hk ⟨hl, hp⟩
  obtain ⟨v, hv⟩ := hinit (lo + k + 1) (by omega) (by omega)
  have hrd : r[lo + k + 1]? = some (some v) := by rw [hp, if_neg (by omega), hv]
  refine ⟨_, rd_wr_ok hrd (by omega), by simp [hl], fun j => ?_⟩
  rw [List.getElem?_set, hp j]
  by_cases hj : lo + k = j
  · rw [if_pos hj, if_pos (by omega), if_pos (by omega), ← hj, hv]
  · rw [if_neg hj]
    by_cases h1 : lo ≤ j ∧ j < lo + k
    · rw [if_pos h1, if_pos (by omega)]
    · rw [if_neg h1, if_neg (by omega)]

/-- **Representation invariant**: the C state `s` holds the sequence `l`. -/
structure Inv (s : AL) (l : List Val) : Prop where
  len   : s.nodes.length = s.capacity
  size  : s.size = l.length
  le    : s.size ≤ s.capacity
  pos   : 0 < s.capacity
  data  : ∀ i, i < l.length → s.nodes[i]? = some (l[i]?)

variable {s : AL} {l : List Val}

theorem Inv.holds (inv : Inv s l) : Holds s.nodes l := inv.data

theorem getIndex_eq (n : Nat) (i : Int) : getIndex n i = normIndex n i := by
  unfold getIndex normIndex
  by_cases h0 : 0 ≤ i <;> by_cases h1 : i < n <;> by_cases h2 : -i ≤ n <;>
    simp [h0, h1, h2] <;> omega

theorem normIndex_lt {n : Nat} {i : Int} {k : Nat} (h : normIndex n i = some k) : k < n := by
  unfold normIndex at h
  split at h <;> split at h <;> simp only [Option.some.injEq, reduceCtorEq] at h <;> omega

theorem position_eq (inv : Inv s l) (i : Int) :
    position s i = specPos l i := by
  unfold position specPos
  rw [getIndex_eq, inv.size]
  cases normIndex l.length i with
  | some k => rfl
  | none => simp only [List.length_eq_zero_iff, and_comm]

theorem specPos_lt_or_nil {l : List Val} {i : Int} {k : Nat} (h : specPos l i = some k) :
    k < l.length ∨ (l = [] ∧ k = 0) := by
  unfold specPos at h
  cases hn : normIndex l.length i with
  | some k' =>
    rw [hn] at h; injection h with h; subst h
    exact Or.inl (normIndex_lt hn)
  | none =>
    simp only [hn, Option.ite_none_right_eq_some, Option.some.injEq] at h
    exact Or.inr ⟨h.1.1, h.2.symm⟩

theorem specPos_le {l : List Val} {i : Int} {k : Nat} (h : specPos l i = some k) : k ≤ l.length := by
  rcases specPos_lt_or_nil h with h | ⟨_, h⟩ <;> omega

theorem inv_init {c : Nat} {s : AL} (h : init c = some s) : Inv s [] := by
  simp only [init, capValid, Bool.not_eq_eq_eq_not, Bool.not_true, decide_eq_false_iff_not,
    Option.ite_none_left_eq_some, Option.some.injEq] at h
  obtain ⟨_, rfl⟩ := h
  exact ⟨by simp, rfl, Nat.zero_le _, by dsimp only; split <;> omega, Holds.nil _⟩

/-- the flag is the C return value (`false`: the request fails `MUGGLE_DS_CAP_IS_VALID`) -/
theorem ensureCapacity_inv (inv : Inv s l) (c : Nat) :
    ∃ s', ensureCapacity s c = .ok (s', decide (s.capacity ≥ c ∨ c < 2 ^ 31)) ∧ Inv s' l ∧
      s'.size = s.size ∧ s.capacity ≤ s'.capacity ∧
      (s.capacity ≥ c ∨ c < 2 ^ 31 → c ≤ s'.capacity) := by
  unfold ensureCapacity
  by_cases h1 : s.capacity ≥ c
  · exact ⟨s, by simp [h1], inv, rfl, Nat.le_refl _, fun _ => h1⟩
  · by_cases h2 : c < 2 ^ 31
    · have hle : l.length ≤ c := by have := inv.le; have := inv.size; omega
      obtain ⟨d, hd, hl, hp⟩ := inv.holds.copy hle
      exact ⟨{ s with nodes := d, capacity := c }, by simp [h1, h2, capValid, inv.size, hd],
        ⟨hl, inv.size, inv.size ▸ hle, by have := inv.pos; dsimp only; omega, hp⟩, rfl,
        by dsimp only; omega, fun _ => Nat.le_refl c⟩
    · exact ⟨s, by simp [h1, h2, capValid], inv, rfl, Nat.le_refl _, fun h => by omega⟩

theorem growIfFull_inv (inv : Inv s l) (hsmall : l.length < 2 ^ 30) :
    ∃ s', growIfFull s = .ok (s', true) ∧ Inv s' l ∧ s'.size < s'.capacity := by
  unfold growIfFull
  by_cases h : s.size = s.capacity
  · obtain ⟨s', he, inv', hs, -, hc⟩ := ensureCapacity_inv inv (s.capacity * 2)
    -- `hsmall`: the doubled capacity must pass `MUGGLE_DS_CAP_IS_VALID`
    have hv : s.capacity * 2 < 2 ^ 31 := by rw [← h, inv.size]; omega
    refine ⟨s', by rw [if_pos h, he]; simp [hv], inv', ?_⟩
    have := hc (Or.inr hv); have := inv.pos; omega
  · exact ⟨s, by rw [if_neg h]; rfl, inv, by have := inv.le; omega⟩

/-- the common tail of insert/append: open a gap at `k` and store `v` there -/
theorem insertAt_inv (inv : Inv s l) (hlt : s.size < s.capacity)
    {k : Nat} (hk : k ≤ l.length) (v : Val) :
    ∃ r nodes, shiftUp s.nodes s.size (s.size - k) = .ok r ∧ wr r k v = .ok nodes ∧
      Inv { s with nodes := nodes, size := s.size + 1 } (l.insertIdx k v) := by
  have hsz := inv.size
  have hlen := inv.len
  obtain ⟨r, hr, hrl, hrp⟩ := shiftUp_spec s.nodes s.size (s.size - k) (by omega)
    (by omega) (fun j h1 h2 => inv.holds.written (by omega))
  have hkr : k < r.length := by omega
  refine ⟨r, _, hr, wr_ok v hkr, by simp [hrl, hlen], by simp [List.length_insertIdx, hk, hsz],
    by dsimp only; omega, inv.pos, fun j hj => ?_⟩
  simp only [List.getElem?_set, List.getElem?_insertIdx, hrp j]
  by_cases h1 : k = j
  · subst h1; simp [hkr, hk]
  · rw [if_neg h1]
    by_cases h2 : j < k
    · rw [if_neg (by omega), if_pos h2]; exact inv.data j (by omega)
    · rw [List.length_insertIdx, if_pos hk] at hj
      rw [if_pos (by omega), if_neg h2, if_neg (by omega)]; exact inv.data (j - 1) (by omega)

theorem insert_refines (inv : Inv s l) (hsmall : l.length < 2 ^ 30)
    (i : Int) (v : Val) :
    ∃ s', AL.insert s i v = .ok (s', (specInsert l i v).2) ∧ Inv s' (specInsert l i v).1 := by
  obtain ⟨s1, hg, inv1, hlt⟩ := growIfFull_inv inv hsmall
  unfold AL.insert specInsert
  simp only [hg, ok_bind, position_eq inv1 i]
  cases hsp : specPos l i with
  | none => exact ⟨s1, rfl, inv1⟩
  | some k =>
    obtain ⟨r, nodes, hr, hw, inv'⟩ := insertAt_inv inv1 hlt (k := k)
      (specPos_le hsp) v
    exact ⟨_, by simp [hr, hw], inv'⟩

/-- `append` behind position `k` is `insert` at `k + 1`, and at `0` on the empty list -/
theorem append_refines (inv : Inv s l) (hsmall : l.length < 2 ^ 30)
    (i : Int) (v : Val) :
    ∃ s', AL.append s i v = .ok (s', (specAppend l i v).2) ∧ Inv s' (specAppend l i v).1 := by
  obtain ⟨s1, hg, inv1, hlt⟩ := growIfFull_inv inv hsmall
  unfold AL.append specAppend
  simp only [hg, ok_bind, position_eq inv1 i]
  cases hsp : specPos l i with
  | none => exact ⟨s1, rfl, inv1⟩
  | some k =>
    have hsz := inv1.size
    rcases specPos_lt_or_nil hsp with hk | ⟨rfl, rfl⟩
    · have hne : l ≠ [] := List.ne_nil_of_length_pos (by omega)
      obtain ⟨r, nodes, hr, hw, inv'⟩ := insertAt_inv inv1 hlt (k := k + 1) hk v
      rw [show s1.size - (k + 1) = s1.size - 1 - k by omega] at hr
      exact ⟨{ s1 with nodes := nodes, size := s1.size + 1 },
        by simp [hr, hw, show s1.size ≠ 0 by omega, hne], by simpa [hne] using inv'⟩
    · obtain ⟨r, nodes, hr, hw, inv'⟩ := insertAt_inv inv1 hlt (k := 0) (Nat.le_refl 0) v
      have hs0 : s1.size = 0 := hsz
      rw [hs0] at hr
      exact ⟨{ s1 with nodes := nodes, size := s1.size + 1 }, by simp [hr, hw, hs0],
        by simpa using inv'⟩

theorem remove_refines (inv : Inv s l) (i : Int) (fr : Bool) :
    ∃ s', AL.remove s i fr = .ok (s', (specRemove l i fr).2) ∧ Inv s' (specRemove l i fr).1 := by
  unfold AL.remove specRemove
  rw [getIndex_eq, inv.size]
  cases hn : normIndex l.length i with
  | none => exact ⟨s, rfl, inv⟩
  | some k =>
    have hk := normIndex_lt hn
    have hsz := inv.size
    have hle := inv.le
    have hlen := inv.len
    obtain ⟨r, hr, hrl, hrp⟩ := shiftDown_spec s.nodes k (s.size - 1 - k) (by omega)
      (fun j h1 h2 => inv.holds.written (by omega))
    have hd : (l.drop k).take 1 = [l[k]] := by
      rw [List.drop_eq_getElem_cons hk]; rfl
    refine ⟨{ s with nodes := r, size := s.size - 1 }, ?_, by simp [hrl, hlen],
      by simp [List.length_eraseIdx, hk, hsz], by dsimp only; omega, inv.pos, fun j hj => ?_⟩
    · rw [hsz] at hr
      cases fr <;> simp [hr, hsz, hd, rd_ok (inv.holds.cell hk)]
    · rw [List.length_eraseIdx, if_pos hk] at hj
      simp only [List.getElem?_eraseIdx, hrp j]
      by_cases h1 : j < k
      · rw [if_neg (by omega), if_pos h1]; exact inv.data j (by omega)
      · rw [if_pos (by omega), if_neg h1]; exact inv.data (j + 1) (by omega)

theorem index_refines (inv : Inv s l) (i : Int) :
    AL.index s i = .ok (specIndex l i) := by
  unfold AL.index specIndex
  rw [getIndex_eq, inv.size]
  cases hn : normIndex l.length i with
  | none => rfl
  | some k =>
    have hk := normIndex_lt hn
    simp [rd_ok (inv.holds.cell hk), hk]

theorem clear_refines (inv : Inv s l) (fr : Bool) :
    ∃ s', AL.clear s fr = .ok (s', (specClear l fr).2) ∧ Inv s' (specClear l fr).1 := by
  refine ⟨{ s with size := 0 }, ?_, inv.len, rfl, Nat.zero_le _, inv.pos, Holds.nil _⟩
  cases fr with
  | false => rfl
  | true => simp [AL.clear, specClear, inv.size, inv.holds.clearLoop_eq]

theorem contents_refines (inv : Inv s l) : AL.contents s = .ok l := by
  rw [AL.contents, inv.size, inv.holds.contents_eq]

theorem find_refines (inv : Inv s l) (i : Int) (v : Val) :
    AL.find s i v = .ok (specFind l i v) := by
  unfold AL.find specFind
  rw [getIndex_eq, inv.size]
  cases hn : normIndex l.length i with
  | none => rfl
  | some k =>
    have hk := normIndex_lt hn
    obtain ⟨r, h, hp⟩ := foldlM_range_inv
      (findStep s.nodes k v)
      -- after `m` iterations `r` is the first hit among the first `m` elements of `l.drop k`
      (fun m r => r = (((l.drop k).take m).idxOf? v).map (k + ·))
      (l.length - k) none (by simp)
      (by
        intro m r hm hp
        have hkm : k + m < l.length := by omega
        have htake : (l.drop k).take (m + 1) = (l.drop k).take m ++ [l[k + m]] := by
          rw [List.take_add_one]; simp [hkm]
        have hlen : ((l.drop k).take m).length = m := by simp; omega
        subst hp
        rw [htake]
        simp only [List.idxOf?, List.findIdx?_append]
        cases hr : ((l.drop k).take m).findIdx? (· == v) with
        | some j => exact ⟨some (k + j), rfl, rfl⟩
        | none =>
          refine ⟨if l[k + m] = v then some (k + m) else none,
            by simp [findStep, rd_ok (inv.holds.cell hkm)], ?_⟩
          by_cases hx : l[k + m] = v <;> simp [hx, hlen, List.findIdx?_cons])
    simp only [h, hp, List.take_of_length_le (l := l.drop k) (Nat.le_of_eq (List.length_drop ..))]
    cases (l.drop k).idxOf? v <;> rfl

theorem specStep_length (l : List Val) (op : Op) : (specStep l op).1.length ≤ l.length + 1 := by
  cases op with
  | insert i v =>
    simp only [specStep, specInsert]
    cases specPos l i <;> simp [List.length_insertIdx] <;> split <;> omega
  | append i v =>
    simp only [specStep, specAppend]
    cases specPos l i with
    | none => exact Nat.le_succ _
    | some k => dsimp only; split <;> simp [List.length_insertIdx] <;> split <;> omega
  | remove i fr =>
    simp only [specStep, specRemove]
    cases normIndex l.length i <;> simp [List.length_eraseIdx] <;> split <;> omega
  | clear fr => simp [specStep, specClear]
  | get i | find i v | ensure c | dump => simp [specStep]

/-! ### Ownership on the reference sequence -/

theorem stored_cons (op : Op) (r : Res) (ops : List Op) (rs : List Res) :
    stored (op :: ops) (r :: rs) = stored [op] [r] ++ stored ops rs := by
  -- only insert and append look at the answer, and there only `.pos (some _)` stores
  cases op
  case insert | append => cases r <;> first | rfl | (rename_i o; cases o <;> rfl)
  all_goals rfl

theorem freedBy_cons (r : Res) (rs : List Res) : freedBy (r :: rs) = freedBy [r] ++ freedBy rs := by
  cases r <;> simp [freedBy]

theorem allFree_cons (op : Op) (ops : List Op) :
    AllFree (op :: ops) ↔ AllFree [op] ∧ AllFree ops := by
  cases op <;> simp [AllFree]

theorem perm_append_insertIdx {l : List Val} {k : Nat} (hk : k ≤ l.length) (v : Val) :
    List.Perm (l ++ [v]) (l.insertIdx k v) :=
  List.perm_append_singleton v l |>.trans (List.perm_insertIdx v l hk).symm

/-- the element `remove` hands to the callback and the rest make up the list -/
theorem perm_take_drop_eraseIdx (l : List Val) (k : Nat) :
    List.Perm l ((l.drop k).take 1 ++ l.eraseIdx k) := by
  rw [List.eraseIdx_eq_take_drop_succ, ← List.append_assoc]
  refine List.Perm.trans ?_ (List.perm_append_comm.append_right _)
  rw [List.append_assoc, ← List.drop_drop, List.take_append_drop, List.take_append_drop]

/-- **Ownership, one call.** The non-NULL data in the list before the call and stored by it are
those handed to the callback by it and in the list afterwards. -/
theorem step_ownership (l : List Val) (op : Op) (hfree : AllFree [op]) :
    List.Perm ((l ++ stored [op] [(specStep l op).2]).filter (· ≠ 0))
      ((freedBy [(specStep l op).2] ++ (specStep l op).1).filter (· ≠ 0)) := by
  have same : ∀ l : List Val, List.Perm ((l ++ []).filter (· ≠ 0)) (([] ++ l).filter (· ≠ 0)) :=
    fun l => by rw [List.append_nil, List.nil_append]
  cases op with
  | insert i v =>
    simp only [specStep, specInsert]
    cases hp : specPos l i with
    | none => exact same l
    | some k => exact (perm_append_insertIdx
        (specPos_le hp) v).filter _
  | append i v =>
    simp only [specStep, specAppend]
    cases hp : specPos l i with
    | none => exact same l
    | some k =>
      rcases specPos_lt_or_nil hp with h | ⟨rfl, _⟩
      · simp only [if_neg (List.ne_nil_of_length_pos (Nat.zero_lt_of_lt h))]
        exact (perm_append_insertIdx (Nat.succ_le_of_lt h) v).filter _
      · exact .refl _
  | remove i fr =>
    obtain ⟨rfl, _⟩ := hfree
    simp only [specStep, specRemove]
    cases normIndex l.length i with
    | none => exact same l
    | some k =>
      show List.Perm ((l ++ []).filter _) (((l.drop k).take 1 ++ [] ++ l.eraseIdx k).filter _)
      rw [List.append_nil, List.append_nil]
      exact (perm_take_drop_eraseIdx l k).filter _
  | clear fr =>
    obtain ⟨rfl, _⟩ := hfree
    show List.Perm ((l ++ []).filter _) ((l.filter _ ++ [] ++ []).filter _)
    simp only [List.append_nil, List.filter_filter, Bool.and_self, List.Perm.refl]
  | get i => exact same l
  | find i v => exact same l
  | ensure c => exact same l
  | dump => exact same l

/-- **Ownership (reference sequence)**: `step_ownership` along a history. -/
theorem spec_ownership (ops : List Op) : ∀ (l : List Val), AllFree ops →
    List.Perm ((l ++ stored ops (specRun l ops).2).filter (· ≠ 0))
      ((freedBy (specRun l ops).2 ++ (specRun l ops).1).filter (· ≠ 0)) := by
  induction ops with
  | nil => intro l _; exact .of_eq (by simp [specRun, stored, freedBy])
  | cons op ops ih =>
    intro l hall
    obtain ⟨h1, h2⟩ := (allFree_cons op ops).mp hall
    have hs := step_ownership l op h1
    have ht := ih (specStep l op).1 h2
    simp only [specRun]
    rw [stored_cons, freedBy_cons]
    simp only [List.filter_append, List.append_assoc] at hs ht ⊢
    rw [← List.append_assoc]
    refine (hs.append_right _).trans ?_
    rw [List.append_assoc]
    exact ht.append_left _

end MgProof.C11.AL
