import MgModel.C11.PointerSlot
import MgProof.C11.LemmasSurgery
import MgProof.C11.LemmasStore
import MgProof.C20.BitsLemmas
/-! The pointer slot: ring arithmetic (`& (capacity-1)` is `mod`, counters wrapping at `2^32` are
harmless because the capacity divides `2^32`), the representation invariant, the ring of free
slots on its own, and `muggle_next_pow_of_2`. -/
namespace MgProof.C11.PS
open MgModel.C11 MgModel.C11.PS MgProof.C11.Link
open MgProof.C20 (IsLeastPow2 smear16N smeared32 leastPow2_of_smeared)

theorem ringIdx_eq (idx : BitVec 32) {k : Nat} (hk : k ≤ 31) :
    ringIdx idx (2 ^ k) = idx.toNat % 2 ^ k := by
  unfold ringIdx
  have h1 : (2:Nat) ^ k < 2 ^ 32 := Nat.pow_lt_pow_right (by omega) (by omega)
  have h0 : 0 < (2:Nat) ^ k := Nat.pow_pos (by omega)
  have hm : (BitVec.ofNat 32 (2 ^ k) - 1).toNat = 2 ^ k - 1 := by
    rw [BitVec.toNat_sub]
    simp only [BitVec.toNat_ofNat, BitVec.toNat_ofNat]
    rw [Nat.mod_eq_of_lt h1]
    generalize (2:Nat) ^ k = M at *
    simp
    omega
  rw [BitVec.toNat_and, hm, Nat.and_two_pow_sub_one_eq_mod]

/-- ring positions less than a full turn apart differ -/
theorem mod_add_ne {F d M : Nat} (h0 : 0 < d) (hd : d < M) : (F + d) % M ≠ F % M := by
  intro h
  have := Nat.sub_mod_eq_zero_of_mod_eq h
  rw [Nat.add_sub_cancel_left, Nat.mod_eq_of_lt hd] at this
  omega

theorem toNat_succ {x : BitVec 32} {A : Nat} (h : x.toNat = A % 2 ^ 32) :
    (x + 1).toNat = (A + 1) % 2 ^ 32 := by
  rw [BitVec.toNat_add]
  show (x.toNat + 1) % 2 ^ 32 = (A + 1) % 2 ^ 32
  omega

/-- slot indices of the live entries, in insertion order -/
def idxs (l : Spec) : List Nat := l.map (·.1)
/-- the cells of the live entries -/
def refs (l : Spec) : List Ref := l.map (fun e => Ref.node e.1)
/-- the chain `head → live slots in insertion order → tail` -/
def ppath (l : Spec) : List Ref := Ref.head :: (refs l ++ [Ref.tail])

@[simp] theorem idxs_cons (e : Nat × Val) (l : Spec) : idxs (e :: l) = e.1 :: idxs l := rfl
@[simp] theorem idxs_append (L1 L2 : Spec) : idxs (L1 ++ L2) = idxs L1 ++ idxs L2 := List.map_append
@[simp] theorem length_idxs (l : Spec) : (idxs l).length = l.length := List.length_map _

theorem mem_refs {l : Spec} {k : Nat} : Ref.node k ∈ refs l ↔ k ∈ idxs l := by
  simp [refs, idxs]

theorem ppath_cut (L1 L2 : Spec) :
    ppath (L1 ++ L2) = (Ref.head :: refs L1) ++ (refs L2 ++ [Ref.tail]) := by simp [ppath, refs]

theorem ppath_at (L1 L2 : Spec) (e : Nat × Val) :
    ppath (L1 ++ e :: L2) = (Ref.head :: refs L1) ++ Ref.node e.1 :: (refs L2 ++ [Ref.tail]) := by
  simp [ppath, refs]

theorem not_mem_ppath {l : Spec} {k : Nat} (h : k ∉ idxs l) : Ref.node k ∉ ppath l := by
  simpa [ppath, mem_refs] using h

/-- **Representation invariant of the pointer slot.** `A`, `F` are the unbounded
(ghost) values of the two free-running counters; `fl` lists the free slot
descriptors in the order the ring will hand them out. `k ≤ 31`: `ringIdx_eq` needs `2^k < 2^32` for the
32-bit mask; `roundCap_spec` gives it for requests `≤ 2^31`. -/
structure PInv (s : PS) (l : Spec) (A F : Nat) (fl : List Nat) : Prop where
  pow      : ∃ k, k ≤ 31 ∧ s.capacity = 2 ^ k
  cells_len : s.mem.cells.length = s.capacity
  pp_len   : s.ppSlots.length = s.capacity
  pp_lt    : ∀ j, j < s.capacity → ∃ x, s.ppSlots[j]? = some x ∧ x < s.capacity
  chain    : Chain (nxt s.mem) (prv s.mem) (ppath l)
  lt       : ∀ e ∈ l, e.1 < s.capacity
  slots    : ∀ i, i < s.capacity → ∃ sv, valOf s.mem (.node i) = some sv ∧ sv.slotIdx = i ∧
               ((sv.inUsed = 1 ∧ (i, sv.data) ∈ l) ∨ (sv.inUsed = 0 ∧ i ∉ idxs l))
  cnt      : A = F + l.length
  a_eq     : s.allocIndex.toNat = A % 2 ^ 32
  f_eq     : s.freeIndex.toNat = F % 2 ^ 32
  fl_len   : fl.length + l.length = s.capacity
  fl_nodup : fl.Nodup
  fl_ring  : ∀ j (h : j < fl.length), s.ppSlots[(A + j) % s.capacity]? = some fl[j]
  fl_mem   : ∀ i, i ∈ fl ↔ (i < s.capacity ∧ i ∉ idxs l)

variable {s : PS} {l : Spec} {A F : Nat} {fl : List Nat}

theorem PInv.idxs_nodup (inv : PInv s l A F fl) :
    (idxs l).Nodup := by
  have h2 : (refs l).Nodup := (List.nodup_append.mp (List.nodup_cons.mp inv.chain.nodup).2).1
  unfold refs at h2
  unfold idxs
  rw [List.Nodup, List.pairwise_map] at h2 ⊢
  exact h2.imp (fun hab e => hab (by rw [e]))

theorem PInv.ring_pos (inv : PInv s l A F fl) :
    ringIdx s.allocIndex s.capacity = A % s.capacity ∧
    ringIdx s.freeIndex s.capacity = F % s.capacity := by
  obtain ⟨k, hk, hc⟩ := inv.pow
  have hd : 2 ^ k ∣ 2 ^ 32 := Nat.pow_dvd_pow 2 (by omega)
  rw [hc, ringIdx_eq _ hk, ringIdx_eq _ hk, inv.a_eq, inv.f_eq, Nat.mod_mod_of_dvd _ hd,
    Nat.mod_mod_of_dvd _ hd]
  exact ⟨rfl, rfl⟩

theorem PInv.cap_pos (inv : PInv s l A F fl) :
    0 < s.capacity := by
  obtain ⟨k, _, hc⟩ := inv.pow
  rw [hc]; exact Nat.pow_pos (by omega)

theorem PInv.data_unique (inv : PInv s l A F fl)
    {i : Nat} {d1 d2 : Val} (h1 : (i, d1) ∈ l) (h2 : (i, d2) ∈ l) : d1 = d2 := by
  obtain ⟨L1, L2, rfl, hn1, hn2⟩ := decompose_keyed h1 inv.idxs_nodup
  simp only [List.mem_append, List.mem_cons, Prod.mk.injEq] at h2
  rcases h2 with h | h | h
  · exact absurd (List.mem_map.mpr ⟨_, h, rfl⟩) hn1
  · exact h.2.symm
  · exact absurd (List.mem_map.mpr ⟨_, h, rfl⟩) hn2

/-- the ring of free slot descriptors apart from the memory: from position `A mod cap` on, `pp`
hands out the free slots `fl`; `live` are the indices in use -/
structure Ring (pp : List Nat) (cap A F : Nat) (fl live : List Nat) : Prop where
  pp_len   : pp.length = cap
  pp_lt    : ∀ j, j < cap → ∃ x, pp[j]? = some x ∧ x < cap
  cnt      : A = F + live.length
  fl_len   : fl.length + live.length = cap
  fl_nodup : fl.Nodup
  fl_ring  : ∀ j (h : j < fl.length), pp[(A + j) % cap]? = some fl[j]
  fl_mem   : ∀ i, i ∈ fl ↔ (i < cap ∧ i ∉ live)

theorem PInv.ring (inv : PInv s l A F fl) :
    Ring s.ppSlots s.capacity A F fl (idxs l) :=
  ⟨inv.pp_len, inv.pp_lt, by rw [length_idxs]; exact inv.cnt, by rw [length_idxs]; exact inv.fl_len,
    inv.fl_nodup, inv.fl_ring, inv.fl_mem⟩

/-- the `slots` clause of `PInv`, named so that the call lemmas can speak of it -/
def SlotsOk (m : DMem SlotVal) (cap : Nat) (l : Spec) : Prop :=
  ∀ i, i < cap → ∃ sv, valOf m (.node i) = some sv ∧ sv.slotIdx = i ∧
    ((sv.inUsed = 1 ∧ (i, sv.data) ∈ l) ∨ (sv.inUsed = 0 ∧ i ∉ idxs l))

theorem PInv.of_ring {s : PS} {l : Spec} {A F : Nat} {fl : List Nat}
    (r : Ring s.ppSlots s.capacity A F fl (idxs l))
    (pow : ∃ k, k ≤ 31 ∧ s.capacity = 2 ^ k) (a_eq : s.allocIndex.toNat = A % 2 ^ 32)
    (f_eq : s.freeIndex.toNat = F % 2 ^ 32) (cells_len : s.mem.cells.length = s.capacity)
    (chain : Chain (nxt s.mem) (prv s.mem) (ppath l)) (lt : ∀ e ∈ l, e.1 < s.capacity)
    (slots : SlotsOk s.mem s.capacity l) :
    PInv s l A F fl :=
  { pow, cells_len, pp_len := r.pp_len, pp_lt := r.pp_lt, chain, lt, slots,
    cnt := length_idxs l ▸ r.cnt, a_eq, f_eq, fl_len := length_idxs l ▸ r.fl_len,
    fl_nodup := r.fl_nodup, fl_ring := r.fl_ring, fl_mem := r.fl_mem }

/-- what `insert` does to the ring: the first free slot is handed out -/
theorem Ring.pop {pp : List Nat} {cap A F k : Nat} {t live : List Nat}
    (r : Ring pp cap A F (k :: t) live) :
    pp[A % cap]? = some k ∧ k < cap ∧ k ∉ live ∧ Ring pp cap (A + 1) F t (live ++ [k]) := by
  obtain ⟨hkM, hkl⟩ := (r.fl_mem k).mp (by simp)
  have hnd := List.nodup_cons.mp r.fl_nodup
  have hlen := r.fl_len
  have hcnt := r.cnt
  simp only [List.length_cons] at hlen
  refine ⟨r.fl_ring 0 (by simp), hkM, hkl, r.pp_len, r.pp_lt, by simp; omega, by simp; omega,
    hnd.2, fun j hj => ?_, fun i => ?_⟩
  · have := r.fl_ring (j + 1) (by simp; omega)
    rwa [List.getElem_cons_succ, show A + (j + 1) = A + 1 + j by omega] at this
  · have hm := r.fl_mem i
    simp only [List.mem_cons, List.mem_append, List.not_mem_nil, or_false, not_or] at hm ⊢
    constructor
    · intro hit
      exact ⟨(hm.mp (Or.inr hit)).1, (hm.mp (Or.inr hit)).2, fun h : i = k => hnd.1 (h ▸ hit)⟩
    · rintro ⟨h1, h2, h3⟩
      exact (hm.mpr ⟨h1, h2⟩).resolve_left h3

theorem Ring.full {pp : List Nat} {cap A F : Nat} {live : List Nat} (r : Ring pp cap A F [] live)
    (hcap : 0 < cap) : ∃ x, pp[A % cap]? = some x ∧ x < cap ∧ x ∈ live := by
  obtain ⟨x, hx, hxM⟩ := r.pp_lt (A % cap) (Nat.mod_lt _ hcap)
  refine ⟨x, hx, hxM, Classical.byContradiction fun hn => ?_⟩
  simpa using (r.fl_mem x).mpr ⟨hxM, hn⟩

/-- `remove`: the `cap` positions from `A` on are the free slots and then the live ones, and
`F = A - live.length`, so the slot goes back right behind the free ones -/
theorem Ring.push {pp : List Nat} {cap A F idx : Nat} {fl L1 L2 : List Nat}
    (r : Ring pp cap A F fl (L1 ++ idx :: L2)) (hlt : idx < cap) (h1 : idx ∉ L1) (h2 : idx ∉ L2) :
    F % cap < pp.length ∧ Ring (pp.set (F % cap) idx) cap A (F + 1) (fl ++ [idx]) (L1 ++ L2) := by
  have hFlt : F % cap < pp.length := by rw [r.pp_len]; exact Nat.mod_lt _ (by omega)
  have hlen := r.fl_len
  have hcnt := r.cnt
  simp only [List.length_append, List.length_cons] at hlen hcnt
  refine ⟨hFlt, by simp [r.pp_len], fun j hj => ?_, by simp; omega, by simp; omega, ?_,
    fun j hj => ?_, fun i => ?_⟩
  · rw [List.getElem?_set]
    by_cases hjF : F % cap = j
    · rw [if_pos hjF, if_pos hFlt]; exact ⟨idx, rfl, hlt⟩
    · rw [if_neg hjF]; exact r.pp_lt j hj
  · rw [List.nodup_append]
    refine ⟨r.fl_nodup, by simp, fun a ha b hb => ?_⟩
    rw [List.mem_singleton.mp hb]
    rintro rfl
    exact ((r.fl_mem a).mp ha).2 (by simp)
  · simp only [List.length_append, List.length_singleton] at hj
    by_cases hjl : j < fl.length
    · have hne : (A + j) % cap ≠ F % cap := by
        rw [show A + j = F + (L1.length + (L2.length + 1) + j) by omega]
        exact mod_add_ne (by omega) (by omega)
      rw [List.getElem?_set, if_neg (fun h => hne h.symm), r.fl_ring j hjl,
        List.getElem_append_left hjl]
    · obtain rfl : j = fl.length := by omega
      rw [show A + fl.length = F + cap by omega, Nat.add_mod_right, List.getElem?_set]
      simp [hFlt]
  · have hm := r.fl_mem i
    simp only [List.mem_append, List.mem_cons, List.not_mem_nil, or_false, not_or] at hm ⊢
    constructor
    · rintro (h | rfl)
      · exact ⟨(hm.mp h).1, (hm.mp h).2.1, (hm.mp h).2.2.2⟩
      · exact ⟨hlt, h1, h2⟩
    · rintro ⟨h1, h2, h3⟩
      by_cases hik : i = idx
      · exact Or.inr hik
      · exact Or.inl (hm.mpr ⟨h1, h2, hik, h3⟩)

/-- **`muggle_next_pow_of_2`** returns the least power of two `≥ x` for `0 < x < 2^32`. The five
smears are `smear16N` of C20, whose bit lemmas are about `Nat`; the result is at most `2^32`, so the
64-bit `+ 1` does not wrap. -/
theorem nextPow2_least {x : Nat} (h0 : 0 < x) (hx : x < 2 ^ 32) : IsLeastPow2 x (nextPow2 x) := by
  have hl := leastPow2_of_smeared h0 hx (smeared32 x)
  have hle := hl.2.2 _ ⟨32, rfl⟩ (Nat.le_of_lt hx)
  unfold nextPow2 isPow2
  by_cases h : x &&& (x - 1) = 0
  · rw [if_pos h] at hl
    rwa [if_pos (decide_eq_true h)]
  · rw [if_neg h] at hl hle
    rw [if_neg (by simpa using h)]
    show IsLeastPow2 x ((smear16N x + 1) % 2 ^ 64)
    rwa [Nat.mod_eq_of_lt (by omega)]

/-- for `n ≤ 2^31` the exponent is at most `31`, since `2^31` is a candidate -/
theorem exponent_of_least {n p : Nat} (h : IsLeastPow2 n p) (hn : n ≤ 2 ^ 31) :
    ∃ k, k ≤ 31 ∧ p = 2 ^ k ∧ n ≤ 2 ^ k := by
  obtain ⟨⟨k, rfl⟩, hle, hmin⟩ := h
  exact ⟨k, (Nat.pow_le_pow_iff_right (by omega)).mp (hmin _ ⟨31, rfl⟩ hn), rfl, hle⟩

theorem nextPow2_spec {x : Nat} (h0 : 0 < x) (hx : x ≤ 2 ^ 31) :
    ∃ k, k ≤ 31 ∧ nextPow2 x = 2 ^ k ∧ x ≤ 2 ^ k :=
  exponent_of_least (nextPow2_least h0 (by omega)) hx

theorem roundCap_least {req : Nat} (hreq : req ≤ 2 ^ 31) :
    IsLeastPow2 (if req > 0 then req else 1) (roundCap req) := by
  unfold roundCap
  generalize hx : (if req > 0 then req else 1) = x
  have h : 0 < x ∧ x ≤ 2 ^ 31 := by subst hx; split <;> omega
  have hl := nextPow2_least h.1 (by omega)
  have : nextPow2 x ≤ 2 ^ 31 := hl.2.2 _ ⟨31, rfl⟩ h.2
  rwa [Nat.mod_eq_of_lt (by omega)]

theorem roundCap_spec {req : Nat} (hreq : req ≤ 2 ^ 31) :
    ∃ k, k ≤ 31 ∧ roundCap req = 2 ^ k ∧ req ≤ 2 ^ k := by
  obtain ⟨k, hk, hc, hle⟩ := exponent_of_least (roundCap_least hreq) (by split <;> omega)
  exact ⟨k, hk, hc, Nat.le_trans (by split <;> omega) hle⟩

end MgProof.C11.PS
