import MgProof.C11.LemmasDMem
/-! The pointer surgeries of `linked_list.c`, `queue.c` and `pointer_slot.c`, statement by
statement, on a `DMem` whose cells form a chain; and the chain all three containers keep,
`head → element cells → tail` (`spine`): its two ends, its traversals. -/
namespace MgProof.C11
open MgModel.C11 MgProof.C11.Link

variable {α : Type}

/-- `m'` differs from `m` at most in the links: what the pointer writes of a surgery leave alone -/
structure Linked (m m' : DMem α) : Prop where
  len  : m'.cells.length = m.cells.length
  vals : ∀ q, valOf m' q = valOf m q
  live : ∀ q, Live m' q ↔ Live m q

/-! Plan of the four proofs: each C statement is one `set…_fn`, giving `nxt` / `prv` of the next
memory (`m3 … m6`) as an if-then-else over the one before; the premises of `chain_insert` /
`chain_remove` are read off by rewriting back through the writes (`rw [n6, n5, n4, n3]`). -/

/-- `muggle_linked_list_insert` -/
theorem linkBefore_spec {m : DMem α} {X Y : List Ref} {n nw : Ref}
    (c : Chain (nxt m) (prv m) (X ++ Y)) (hX : X ≠ []) (hn : Y.head? = some n) (hnw : nw ∉ X ++ Y)
    (hlive : Live m nw) :
    ∃ m6, m.linkBefore n nw = .ok m6 ∧ Chain (nxt m6) (prv m6) (X ++ nw :: Y) ∧ Linked m m6 := by
  obtain ⟨A, p, rfl⟩ := exists_concat hX
  obtain ⟨B, rfl⟩ := List.head?_eq_some_iff.mp hn
  simp only [List.append_assoc, List.cons_append, List.nil_append] at c hnw ⊢
  obtain ⟨hpn, hnp, -⟩ := chain_adj c
  have hp_ne : p ≠ nw := by intro h; apply hnw; simp [h]
  have hn_ne : n ≠ nw := by intro h; apply hnw; simp [h]
  have hlp : Live m p := live_of_nxt hpn
  have hln : Live m n := live_of_prv hnp
  obtain ⟨cn, hcn, _, hcnp, _⟩ := get_of_live hln
  obtain ⟨m3, h3, l3, n3, p3, v3, lv3⟩ := setNext_fn hlp (some nw)
  obtain ⟨cn', hcn', _, hcnp', _⟩ := get_of_live ((lv3 n).mpr hln)
  obtain ⟨m4, h4, l4, n4, p4, v4, lv4⟩ := setPrev_fn ((lv3 nw).mpr hlive) (some p)
  obtain ⟨m5, h5, l5, n5, p5, v5, lv5⟩ := setNext_fn ((lv4 nw).mpr ((lv3 nw).mpr hlive)) (some n)
  obtain ⟨m6, h6, l6, n6, p6, v6, lv6⟩ :=
    setPrev_fn ((lv5 n).mpr ((lv4 n).mpr ((lv3 n).mpr hln))) (some nw)
  have e1 : cn.prev = some p := by rw [hcnp, hnp]
  have e2 : cn'.prev = some p := by rw [hcnp', p3, hnp]
  refine ⟨m6, by simp [DMem.linkBefore, hcn, e1, deref, h3, hcn', e2, h4, h5, h6],
    ?_, ⟨by omega, fun q => by rw [v6, v5, v4, v3], fun q => by rw [lv6, lv5, lv4, lv3]⟩⟩
  apply chain_insert c hnw
  · rw [n6, n5, n4, n3]; simp [hp_ne]
  · rw [n6, n5]; simp
  · intro x hx1 hx2; rw [n6, n5, n4, n3]; simp [hx1, hx2]
  · rw [p6]; simp
  · rw [p6, p5, p4]; simp [hn_ne.symm]
  · intro x hx1 hx2; rw [p6, p5, p4, p3]; simp [hx1, hx2]

/-- `muggle_linked_list_append`, `muggle_queue_enqueue` -/
theorem linkAfter_spec {m : DMem α} {X Y : List Ref} {p nw : Ref}
    (c : Chain (nxt m) (prv m) (X ++ Y)) (hp : X.getLast? = some p) (hY : Y ≠ []) (hnw : nw ∉ X ++ Y)
    (hlive : Live m nw) :
    ∃ m6, m.linkAfter p nw = .ok m6 ∧ Chain (nxt m6) (prv m6) (X ++ nw :: Y) ∧ Linked m m6 := by
  obtain ⟨A, rfl⟩ := List.getLast?_eq_some_iff.mp hp
  obtain ⟨n, B, rfl⟩ := List.exists_cons_of_ne_nil hY
  simp only [List.append_assoc, List.cons_append, List.nil_append] at c hnw ⊢
  obtain ⟨hpn, hnp, -⟩ := chain_adj c
  have hp_ne : p ≠ nw := by intro h; apply hnw; simp [h]
  have hn_ne : n ≠ nw := by intro h; apply hnw; simp [h]
  have hlp : Live m p := live_of_nxt hpn
  have hln : Live m n := live_of_prv hnp
  obtain ⟨cp, hcp, hcpn, _, _⟩ := get_of_live hlp
  obtain ⟨m3, h3, l3, n3, p3, v3, lv3⟩ := setPrev_fn hln (some nw)
  obtain ⟨cp', hcp', hcpn', _, _⟩ := get_of_live ((lv3 p).mpr hlp)
  obtain ⟨m4, h4, l4, n4, p4, v4, lv4⟩ := setNext_fn ((lv3 nw).mpr hlive) (some n)
  obtain ⟨m5, h5, l5, n5, p5, v5, lv5⟩ := setPrev_fn ((lv4 nw).mpr ((lv3 nw).mpr hlive)) (some p)
  obtain ⟨m6, h6, l6, n6, p6, v6, lv6⟩ :=
    setNext_fn ((lv5 p).mpr ((lv4 p).mpr ((lv3 p).mpr hlp))) (some nw)
  have e1 : cp.next = some n := by rw [hcpn, hpn]
  have e2 : cp'.next = some n := by rw [hcpn', n3, hpn]
  refine ⟨m6, by simp [DMem.linkAfter, hcp, e1, deref, h3, hcp', e2, h4, h5, h6],
    ?_, ⟨by omega, fun q => by rw [v6, v5, v4, v3], fun q => by rw [lv6, lv5, lv4, lv3]⟩⟩
  apply chain_insert c hnw
  · rw [n6]; simp
  · rw [n6, n5, n4]; simp [hp_ne.symm]
  · intro x hx1 hx2; rw [n6, n5, n4, n3]; simp [hx1, hx2]
  · rw [p6, p5, p4, p3]; simp [hn_ne]
  · rw [p6, p5]; simp
  · intro x hx1 hx2; rw [p6, p5, p4, p3]; simp [hx1, hx2]

/-- `muggle_pointer_slot_insert` -/
theorem linkTail_spec {m : DMem α} {X : List Ref} {nw : Ref}
    (c : Chain (nxt m) (prv m) (X ++ [Ref.tail])) (hX : X ≠ []) (hnw : nw ∉ X ++ [Ref.tail])
    (hlive : Live m nw) :
    ∃ m6, m.linkTail nw = .ok m6 ∧
      Chain (nxt m6) (prv m6) (X ++ [nw, Ref.tail]) ∧ Linked m m6 := by
  obtain ⟨A, p, rfl⟩ := exists_concat hX
  simp only [List.append_assoc, List.cons_append, List.nil_append] at c hnw ⊢
  obtain ⟨hpn, hnp, -⟩ := chain_adj c
  have hp_ne : p ≠ nw := by intro h; apply hnw; simp [h]
  have hn_ne : Ref.tail ≠ nw := by intro h; apply hnw; simp [h]
  have hlp : Live m p := live_of_nxt hpn
  have htp : ∀ m' : DMem α, m'.tail.prev = prv m' .tail := fun _ => rfl
  obtain ⟨m3, h3, l3, n3, p3, v3, lv3⟩ := setPrev_fn hlive (some p)
  obtain ⟨m4, h4, l4, n4, p4, v4, lv4⟩ := setNext_fn ((lv3 nw).mpr hlive) (some .tail)
  obtain ⟨m5, h5, l5, n5, p5, v5, lv5⟩ := setNext_fn ((lv4 p).mpr ((lv3 p).mpr hlp)) (some nw)
  obtain ⟨m6, h6, l6, n6, p6, v6, lv6⟩ :=
    setPrev_fn (r := Ref.tail) ⟨m5.tail, rfl⟩ (some nw)
  have e1 : m.tail.prev = some p := by rw [htp, hnp]
  have e2 : m4.tail.prev = some p := by rw [htp, p4, p3]; simp [hn_ne, hnp]
  refine ⟨m6, by simp [DMem.linkTail, e1, h3, h4, e2, deref, h5, h6],
    ?_, ⟨by omega, fun q => by rw [v6, v5, v4, v3], fun q => by rw [lv6, lv5, lv4, lv3]⟩⟩
  apply chain_insert c hnw
  · rw [n6, n5]; simp
  · rw [n6, n5, n4]; simp [hp_ne.symm]
  · intro x hx1 hx2; rw [n6, n5, n4, n3]; simp [hx1, hx2]
  · rw [p6]; simp
  · rw [p6, p5, p4, p3]; simp [hn_ne.symm]
  · intro x hx1 hx2; rw [p6, p5, p4, p3]; simp [hx1, hx2]

/-- `*_free_node`, `muggle_pointer_slot_remove` -/
theorem unlink_spec {m : DMem α} {X Y : List Ref} {x : Ref}
    (c : Chain (nxt m) (prv m) (X ++ x :: Y)) (hX : X ≠ []) (hY : Y ≠ []) :
    ∃ m4, m.unlink x = .ok m4 ∧ Chain (nxt m4) (prv m4) (X ++ Y) ∧ Linked m m4 := by
  obtain ⟨A, p, rfl⟩ := exists_concat hX
  obtain ⟨n, B, rfl⟩ := List.exists_cons_of_ne_nil hY
  obtain ⟨hxn, hnx, -⟩ := chain_adj c
  simp only [List.append_assoc, List.cons_append, List.nil_append] at c ⊢
  obtain ⟨hpx, hxp, hne1⟩ := chain_adj c
  have hlp : Live m p := live_of_nxt hpx
  have hlx : Live m x := live_of_nxt hxn
  have hln : Live m n := live_of_prv hnx
  obtain ⟨cx, hcx, hcxn, hcxp, _⟩ := get_of_live hlx
  obtain ⟨m3, h3, l3, n3, p3, v3, lv3⟩ := setNext_fn hlp (some n)
  obtain ⟨cx', hcx', hcxn', hcxp', _⟩ := get_of_live ((lv3 x).mpr hlx)
  obtain ⟨m4, h4, l4, n4, p4, v4, lv4⟩ := setPrev_fn ((lv3 n).mpr hln) (some p)
  have e1 : cx.prev = some p := by rw [hcxp, hxp]
  have e2 : cx.next = some n := by rw [hcxn, hxn]
  have e3 : cx'.next = some n := by rw [hcxn', n3]; simp [hne1.symm, hxn]
  have e4 : cx'.prev = some p := by rw [hcxp', p3, hxp]
  refine ⟨m4, by simp [DMem.unlink, hcx, e1, e2, deref, h3, hcx', e3, e4, h4], ?_,
    ⟨by omega, fun q => by rw [v4, v3], fun q => by rw [lv4, lv3]⟩⟩
  apply chain_remove c
  · rw [n4, n3]; simp
  · intro q hq1 hq2; rw [n4, n3]; simp [hq1]
  · rw [p4]; simp
  · intro q hq1 hq2; rw [p4, p3]; simp [hq1]

/-- the cells of a container in list order: `head`, the element cells `R`, `tail` -/
def spine (R : List Ref) : List Ref := Ref.head :: (R ++ [Ref.tail])

theorem spine_is_node {R : List Ref} (h : (spine R).Nodup) {n : Ref} (hn : n ∈ R) :
    ∃ i, n = .node i := by
  simp only [spine, List.nodup_cons, List.mem_append, List.mem_singleton, not_or,
    List.nodup_append] at h
  cases n with
  | head => exact absurd hn h.1.1
  | tail => exact absurd rfl (h.2.2.2 _ hn _ (by simp))
  | node i => exact ⟨i, rfl⟩

theorem spine_first {m : DMem α} {R : List Ref} (c : Chain (nxt m) (prv m) (spine R)) :
    m.head.next = (R ++ [Ref.tail]).head? := by
  obtain ⟨n, B, h⟩ := List.exists_cons_of_ne_nil (l := R ++ [Ref.tail]) (by simp)
  rw [spine, h] at c
  rw [h]
  exact (chain_adj (A := []) c).1

theorem spine_last {m : DMem α} {R : List Ref} (c : Chain (nxt m) (prv m) (spine R)) :
    m.tail.prev = (Ref.head :: R).getLast? := by
  obtain ⟨A, p, h⟩ := exists_concat (X := Ref.head :: R) (by simp)
  rw [show spine R = (Ref.head :: R) ++ [Ref.tail] from rfl, h, List.append_assoc] at c
  rw [h, List.getLast?_concat]
  exact (chain_adj c).2.1

theorem spine_walks {m : DMem α} {R : List Ref} (c : Chain (nxt m) (prv m) (spine R))
    (hlen : R.length ≤ m.cells.length) :
    (∃ first, m.head.next = some first ∧ m.walkFwd (m.cells.length + 1) first = .ok R) ∧
    (∃ last, m.tail.prev = some last ∧ m.walkBwd (m.cells.length + 1) last = .ok R.reverse) := by
  obtain ⟨n, B, hN⟩ := List.exists_cons_of_ne_nil (l := R ++ [Ref.tail]) (by simp)
  obtain ⟨A, p, hP⟩ := exists_concat (X := Ref.head :: R) (by simp)
  have hl := c.links
  rw [show spine R = [Ref.head] ++ (R ++ [Ref.tail]) from rfl, hN, links_append, ← hN] at hl
  have hl' := c.links
  rw [show spine R = (Ref.head :: R) ++ [Ref.tail] from rfl, hP, List.append_assoc,
    List.singleton_append, links_append, ← hP] at hl'
  exact ⟨⟨n, by rw [spine_first c, hN]; rfl, walkFwd_spec m (prv m) R n _ (by rw [hN]; rfl) hl.2
      (List.nodup_cons.mp c.nodup).2 (by omega)⟩,
    ⟨p, by rw [spine_last c, hP, List.getLast?_concat], walkBwd_spec m (nxt m) R p _
      (by rw [hP, List.getLast?_concat]) hl'.1
      (List.nodup_append.mp (show ((Ref.head :: R) ++ [Ref.tail]).Nodup from c.nodup)).1 (by omega)⟩⟩

end MgProof.C11
