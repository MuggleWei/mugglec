import MgProof.C10.HeapOps
/-! C10 — heap sort: insert all, then drain the heap into the array. -/
namespace MgProof.C10
open MgModel.C10

/-- strict: heap sort's heap (`count + 1` slots) never has to grow -/
theorem hsInsert_spec {a : Array Elem} {i : Nat} {h : Heap} (inv : HeapInv h)
    (hc : h.size + (a.size - i) < h.cap) :
    ∃ h', hsInsert a a.size h i = .ok h' ∧ HeapInv h' ∧
      (entries h').Perm (a.toList.drop i ++ entries h) ∧ h'.size = h.size + (a.size - i) := by
  induction hm : a.size - i generalizing i h with
  | zero =>
    unfold hsInsert
    simp only [show ¬ i < a.size by omega, if_false]
    refine ⟨h, rfl, inv, ?_, by omega⟩
    rw [List.drop_eq_nil_of_le (by simp; omega)]
    exact .refl _
  | succ m ih =>
    have hlt : i < a.size := by omega
    obtain ⟨h1, e1, e2, e3, e4, e5⟩ := insert_spec a[i] inv (by omega)
    obtain ⟨h2, f1, f2, f3, f4⟩ := ih (i := i + 1) e2 (by omega) (by omega)
    refine ⟨h2, ?_, f2, ?_, by omega⟩
    · unfold hsInsert
      simp only [hlt, if_true, rd_of_lt hlt, e1, f1]
    · rw [List.drop_eq_getElem_cons (by simpa using hlt), Array.getElem_toList]
      exact f3.trans ((List.Perm.append_left _ e3).trans (by simp))

theorem hsExtract_drain {count i : Nat} {a : Array Elem} {h : Heap} {l : List Elem}
    (hd : drain (count - i) h = .ok l) (hl : l.length = count - i) (hsz : a.size = count) :
    ∃ a', hsExtract a count h i = .ok a' ∧ a'.toList = a.toList.take i ++ l := by
  induction hm : count - i generalizing i a h l with
  | zero =>
    obtain rfl := List.eq_nil_of_length_eq_zero (hl.trans hm)
    unfold hsExtract
    simp only [show ¬ i < count by omega, if_false]
    exact ⟨a, rfl, by rw [List.append_nil, List.take_of_length_le (by simp; omega)]⟩
  | succ m ih =>
    have hil : i < a.size := by omega
    rw [hm, drain] at hd
    unfold hsExtract
    simp only [show i < count by omega, if_true]
    split at hd
    · cases hd
    · cases hd; simp at hl; omega
    next r h' he =>
      split at hd
      · cases hd
      next l' hd' =>
        cases hd
        simp only [he, wr_of_lt hil]
        obtain ⟨a', f1, f2⟩ := ih (i := i + 1) (a := a.setIfInBounds i r)
          (by rw [show count - (i + 1) = m by omega]; exact hd') (by simp at hl; omega)
          (by simpa using hsz) (by omega)
        refine ⟨a', f1, ?_⟩
        rw [f2, Array.toList_setIfInBounds,
          List.take_succ_eq_append_getElem (by simpa using hil),
          List.take_set_of_le (Nat.le_refl _)]
        simp

end MgProof.C10
