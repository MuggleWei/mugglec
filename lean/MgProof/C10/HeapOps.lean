import MgProof.C10.HeapLemmas
/-! C10 — heap: the API functions against the multiset specification. -/
namespace MgProof.C10
open MgModel.C10

/-- representation invariant of `muggle_heap_t`: slot 0 exists, live nodes are heap-ordered -/
structure HeapInv (h : Heap) : Prop where
  size_pos : 1 ≤ h.nodes.size
  ord : HeapOrd h.nodes

/-- the contents of the heap: the live nodes `nodes[1..size]` (as a list; used up to `Perm`) -/
def entries (h : Heap) : List Elem := h.nodes.toList.drop 1

theorem entries_length (h : Heap) : (entries h).length = h.size := by
  simp [entries, Heap.size]

theorem entries_nil_iff {h : Heap} : entries h = [] ↔ h.size = 0 := by
  rw [← entries_length]
  constructor
  · intro e; rw [e]; rfl
  · exact List.eq_nil_of_length_eq_zero

theorem drop_one_perm {A B : Array Elem} (hp : A.Perm B) (h0 : A[0]? = B[0]?) :
    (A.toList.drop 1).Perm (B.toList.drop 1) := by
  refine List.Perm.drop_of_getElem? hp.toList fun j hj => ?_
  obtain rfl : j = 0 := by omega
  simpa using h0

theorem drop_one_push {A : Array Elem} {x : Elem} (h : 1 ≤ A.size) :
    (A.push x).toList.drop 1 = A.toList.drop 1 ++ [x] := by
  simp only [Array.toList_push]
  rw [List.drop_append_of_le_length (by simpa using h)]

/-- `F`: the last node has filled slot `idx`, then the live slots were rearranged -/
theorem drop_one_remove {a F : Array Elem} {idx : Nat} {l e : Elem} (h1 : 1 ≤ idx)
    (h2 : idx < a.size) (hl : a[a.size - 1]? = some l) (he : a[idx]? = some e)
    (hF : PermOn F (a.pop.setIfInBounds idx l) 1 (a.size - 1)) :
    (a.toList.drop 1).Perm (e :: F.toList.drop 1) := by
  have hsz : F.size = a.size - 1 := by simpa using hF.size_eq
  have h0 : (F.push e)[0]? = a[0]? := by
    rw [Array.getElem?_push, if_neg (by omega), hF.frame 0 (.inl Nat.one_pos),
      Array.getElem?_setIfInBounds_ne (by omega), Array.getElem?_pop, if_pos (by omega)]
  have := drop_one_perm ((hF.perm.push e).trans (pop_set_push_perm h2 hl he)) h0
  rw [drop_one_push (by omega)] at this
  exact this.symm.trans (List.perm_append_singleton _ _)

theorem drop_one_pop {a : Array Elem} {e : Elem} (h : 2 ≤ a.size)
    (he : a[a.size - 1]? = some e) : (a.toList.drop 1).Perm (e :: a.pop.toList.drop 1) :=
  drop_one_remove (idx := a.size - 1) (by omega) (by omega) he he
    (by rw [Array.setIfInBounds_eq_of_size_le (by simp)]; exact .refl _ _ _)

theorem mem_entries_iff {h : Heap} {e : Elem} :
    e ∈ entries h ↔ ∃ i, 1 ≤ i ∧ h.nodes[i]? = some e := by
  simp only [entries, List.mem_iff_getElem?, List.getElem?_drop, Array.getElem?_toList]
  constructor
  · rintro ⟨i, hi⟩; exact ⟨1 + i, by omega, hi⟩
  · rintro ⟨i, h1, hi⟩; exact ⟨i - 1, by rwa [show 1 + (i - 1) = i by omega]⟩

theorem size_mk (c : Nat) (a : Array Elem) : (Heap.mk c a).size = a.size - 1 := rfl

theorem heapInv_empty (c : Nat) :
    HeapInv { cap := c, nodes := #[dummy] } ∧ entries { cap := c, nodes := #[dummy] } = [] := by
  refine ⟨⟨by simp, fun i h1 h2 => ?_⟩, by simp [entries]⟩
  simp at h2
  omega

theorem init_inv {c : Nat} {h : Heap} (hi : Heap.init c = some h) :
    HeapInv h ∧ entries h = [] ∧ 1 ≤ h.cap := by
  unfold Heap.init at hi
  by_cases hv : capValid (if c = 0 then 8 else c) = true
  · simp only [hv, if_true] at hi
    injection hi with hi
    subst hi
    refine ⟨(heapInv_empty _).1, (heapInv_empty _).2, ?_⟩
    simp only []
    split <;> omega
  · simp [hv] at hi

theorem init_none_iff (c : Nat) : Heap.init c = none ↔ 2147483648 ≤ c := by
  unfold Heap.init capValid
  by_cases h0 : c = 0
  · simp [h0]
  · simp [h0]

/-- refused exactly when the heap would have to grow to an invalid capacity; never shrinks -/
theorem ensureCapacity_eq (h : Heap) (c : Nat) :
    h.ensureCapacity c =
      if h.cap < c ∧ 2147483648 ≤ c then none else some { h with cap := max h.cap c } := by
  unfold Heap.ensureCapacity capValid
  by_cases h1 : h.cap ≥ c
  · rw [if_pos h1, if_neg (by omega), Nat.max_eq_left h1]
  · rw [if_neg h1, Nat.max_eq_right (by omega)]
    by_cases h2 : c < 2147483648
    · simp [h2]
    · simp [h2]; omega

theorem insert_spec {h : Heap} (x : Elem) (inv : HeapInv h)
    (hc : h.cap = h.size → h.cap * 2 < 2147483648) :
    ∃ h', h.insert x = .ok (some h') ∧ HeapInv h' ∧ (entries h').Perm (x :: entries h) ∧
      h'.size = h.size + 1 ∧ h.cap ≤ h'.cap := by
  obtain ⟨hs, ho⟩ := inv
  have hg : ∃ c, (if h.cap = h.size then h.ensureCapacity (h.cap * 2) else some h) =
      some { cap := c, nodes := h.nodes } ∧ h.cap ≤ c := by
    by_cases he : h.cap = h.size
    · rw [if_pos he, ensureCapacity_eq, if_neg (by have := hc he; omega)]
      exact ⟨_, rfl, Nat.le_max_left _ _⟩
    · exact ⟨h.cap, by rw [if_neg he], Nat.le_refl _⟩
  obtain ⟨c, hg1, hg2⟩ := hg
  unfold Heap.insert
  simp only [hg1]
  have hlt : h.nodes.size < (h.nodes.push x).size := by simp
  have hself : (h.nodes.push x).setIfInBounds h.nodes.size x = h.nodes.push x := by
    simpa using set_self_eq (a := h.nodes.push x) (i := h.nodes.size) hlt
  have inv0 : UpInv ((h.nodes.push x).setIfInBounds h.nodes.size x) h.nodes.size := by
    rw [hself]
    constructor
    · intro i h1 h2 h3
      simp only [Array.size_push] at h2
      rw [K_push, K_push, if_neg (by omega), if_neg (by omega)]
      exact ho i h1 (by omega)
    · intro c' h1 h2 h3
      simp only [Array.size_push] at h1
      omega
  obtain ⟨a', e1, e2, e3⟩ := siftUp_spec (x := x) hs hlt inv0
  rw [hself] at e3
  have hsz : a'.size = h.nodes.size + 1 := by simpa using e3.size_eq
  rw [show (h.nodes.push x).size - 1 = h.nodes.size by simp]
  simp only [e1]
  refine ⟨_, rfl, ⟨by simp [hsz], e2⟩, ?_, by rw [size_mk, hsz]; simp [Heap.size]; omega, hg2⟩
  have := drop_one_perm e3.perm (e3.frame 0 (.inl Nat.one_pos))
  rw [drop_one_push hs] at this
  exact this.trans (List.perm_append_singleton _ _)

theorem root_min_entries {h : Heap} (inv : HeapInv h) {r : Elem} (hr : h.nodes[1]? = some r) :
    ∀ e ∈ entries h, r.1 ≤ e.1 := by
  intro e he
  obtain ⟨i, hi, hie⟩ := mem_entries_iff.mp he
  have := heapOrd_root_min inv.ord i hi (Array.getElem?_eq_some_iff.mp hie).1
  rwa [K_of_getElem? hie, K_of_getElem? hr] at this

theorem root_spec {h : Heap} (inv : HeapInv h) :
    (h.size = 0 ∧ h.root = .ok none) ∨
    (∃ r, h.root = .ok (some r) ∧ h.nodes[1]? = some r ∧ r ∈ entries h ∧
      ∀ e ∈ entries h, r.1 ≤ e.1) := by
  unfold Heap.root
  by_cases h0 : h.size = 0
  · left; simp [h0]
  · right
    have hlt : 1 < h.nodes.size := by unfold Heap.size at h0; omega
    have hroot := Array.getElem?_eq_getElem hlt
    simp only [h0, if_false, rdN_of_lt Nat.one_pos hlt]
    exact ⟨_, rfl, hroot, mem_entries_iff.mpr ⟨1, Nat.le_refl _, hroot⟩,
      root_min_entries inv hroot⟩

theorem find_spec {h : Heap} (inv : HeapInv h) (key : Int) :
    (∃ j, h.find key = .ok (some j) ∧ 1 ≤ j ∧ j ≤ h.size ∧ K h.nodes j = key ∧
        ∀ p, 1 ≤ p → p < j → K h.nodes p ≠ key) ∨
    (h.find key = .ok none ∧ ∀ e ∈ entries h, e.1 ≠ key) := by
  unfold Heap.find
  have hsz : h.nodes.size = h.size + 1 := by have := inv.size_pos; unfold Heap.size; omega
  rcases findLoop_spec (key := key) (Nat.le_refl 1) hsz with h | ⟨e1, e2⟩
  · exact .inl h
  · refine .inr ⟨e1, fun e he => ?_⟩
    obtain ⟨i, hi, hie⟩ := mem_entries_iff.mp he
    have := e2 i hi (by have := (Array.getElem?_eq_some_iff.mp hie).1; omega)
    rwa [K_of_getElem? hie] at this

theorem remove_invalid {h : Heap} {idx : Nat} (hbad : idx = 0 ∨ h.size < idx) :
    h.remove idx = .ok none := by
  unfold Heap.remove Heap.removeCore
  by_cases h0 : h.size = 0
  · simp [h0]
  · simp only [h0, if_false]
    have : idx = 0 ∨ idx > h.size := hbad
    simp [this]

theorem remove_spec {h : Heap} {idx : Nat} (inv : HeapInv h) (h1 : 1 ≤ idx) (h2 : idx ≤ h.size) :
    ∃ e h', h.remove idx = .ok (some (e, h')) ∧ h.nodes[idx]? = some e ∧ HeapInv h' ∧
      (entries h).Perm (e :: entries h') ∧ h'.size + 1 = h.size ∧ h'.cap = h.cap := by
  obtain ⟨hs, ho⟩ := inv
  have hsz : h.size = h.nodes.size - 1 := rfl
  have hidx : idx < h.nodes.size := by omega
  have hlst : h.size < h.nodes.size := by omega
  have hrem := Array.getElem?_eq_getElem hidx
  unfold Heap.remove Heap.removeCore
  simp only [show h.size ≠ 0 by omega, if_false, show ¬ (idx = 0 ∨ idx > h.size) by omega,
    rdN_of_lt h1 hidx, rdN_of_lt (show 0 < h.size by omega) hlst, Bool.true_and]
  by_cases hl : idx = h.size
  · -- the node in the last slot (the early return of the fix)
    simp only [hl, decide_true, if_true]
    exact ⟨_, _, rfl, hl ▸ hrem, ⟨by simp; omega, heapOrd_pop ho⟩,
      drop_one_pop (by omega) (by rw [← hsz]; exact hl ▸ hrem), by rw [size_mk]; simp; omega, rfl⟩
  · simp only [hl, decide_false, if_false, Bool.false_eq_true]
    obtain ⟨a', i', r1, r2⟩ := rmLoop_spec (n := h.size - 1) (fuel := 2 * (h.size - 1) + 2)
      (by omega) h1 (by omega) (by simp; omega)
      (bothInv_pop_set h.nodes[h.size] ho (by omega))
    have hF := r2.perm.size_eq
    simp only [Array.size_setIfInBounds, Array.size_pop] at hF
    simp only [r1, wrN_of_lt r2.pos (show i' < a'.size by have := r2.le; omega)]
    refine ⟨_, _, rfl, hrem, ⟨by simp; omega, r2.ord⟩, ?_, by rw [size_mk]; simp; omega, rfl⟩
    exact drop_one_remove h1 (by omega) (by rw [← hsz]; exact Array.getElem?_eq_getElem hlst) hrem
      (by rw [show h.nodes.size - 1 = h.size - 1 + 1 by omega]; exact r2.perm)

theorem extract_empty {h : Heap} (h0 : h.size = 0) : h.extract = .ok none := by
  simp [Heap.extract, h0]

/-- the two loops agree at the root -/
theorem extract_eq_remove {h : Heap} (inv : HeapInv h) (hne : h.size ≠ 0) :
    h.extract = h.remove 1 := by
  have hsz : h.size = h.nodes.size - 1 := rfl
  have hs := inv.size_pos
  unfold Heap.extract Heap.remove Heap.removeCore
  simp only [hne, if_false, show ¬ (1 = 0 ∨ 1 > h.size) by omega,
    rdN_of_lt Nat.one_pos (show 1 < h.nodes.size by omega),
    rdN_of_lt (show 0 < h.size by omega) (show h.size < h.nodes.size by omega), Bool.true_and]
  by_cases hn0 : h.size - 1 = 0
  · rw [extLoop, if_neg Nat.one_ne_zero, if_neg (by omega)]
    simp only [hn0, if_true, decide_eq_true (show 1 = h.size by omega)]
  · obtain ⟨a', i', e1, e2, _⟩ := siftDown_spec (l := h.nodes[h.size]) (n := h.size - 1)
      (fuel := 2 * (h.size - 1) + 2) (idx := 1) (a := h.nodes.pop) (by omega) (Nat.le_refl 1)
      (by omega) (by simp; omega)
      (downInv_of_both (bothInv_pop_set h.nodes[h.size] inv.ord (by omega)) fun h => by omega)
    simp only [e1, e2, hn0, if_false, show ¬ 1 = h.size by omega, decide_false, Bool.false_eq_true]

theorem extract_spec {h : Heap} (inv : HeapInv h) (hne : h.size ≠ 0) :
    ∃ r h', h.extract = .ok (some (r, h')) ∧ h.nodes[1]? = some r ∧ HeapInv h' ∧
      (entries h).Perm (r :: entries h') ∧ (∀ e ∈ entries h, r.1 ≤ e.1) ∧
      h'.size + 1 = h.size ∧ h'.cap = h.cap := by
  obtain ⟨r, h', e1, e2, e3, e4, e5⟩ := remove_spec inv (Nat.le_refl 1) (by omega)
  exact ⟨r, h', (extract_eq_remove inv hne).trans e1, e2, e3, e4, root_min_entries inv e2, e5⟩

theorem removeOrig_eq_remove {h : Heap} {idx : Nat} (hne : idx ≠ h.size) :
    h.removeOrig idx = h.remove idx := by
  unfold Heap.removeOrig Heap.remove Heap.removeCore
  simp [hne]

/-- **defect of the unpatched code**: removing the node in the last slot of a heap with at
least two nodes hands a NULL key to the comparison callback -/
theorem removeOrig_last_fails {h : Heap} (h2 : 2 ≤ h.size) :
    h.removeOrig h.size = .error .null := by
  have hsz : h.size = h.nodes.size - 1 := rfl
  unfold Heap.removeOrig Heap.removeCore
  simp only [show h.size ≠ 0 by omega, if_false,
    rdN_of_lt (show 0 < h.size by omega) (show h.size < h.nodes.size by omega), Bool.false_and,
    Bool.false_eq_true, if_true]
  have : 2 * (h.size - 1) + 2 = (2 * (h.size - 1) + 1) + 1 := by omega
  rw [this]
  unfold rmLoop rmUp
  have hp : h.size / 2 ≠ 0 := by omega
  have hpl : h.size / 2 < h.nodes.pop.size := by simp; omega
  simp [hp, rdN_of_lt (show 0 < h.size / 2 by omega) hpl, derefKey]

end MgProof.C10
