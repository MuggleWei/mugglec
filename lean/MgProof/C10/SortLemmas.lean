import MgProof.C10.Basic
/-! C10 — insertion sort: the loop invariant on the virtual array.  Shell sort: the passes with
a gap above 1 only permute, the pass with gap 1 is the insertion sort (`shellMid_one`). -/
namespace MgProof.C10
open MgModel.C10

/-- ordered except for pairs whose right index is the hole `base + j` -/
def InsInv (V : Array Elem) (base i j : Nat) : Prop :=
  ∀ p q, base ≤ p → p < q → q ≤ base + i → q ≠ base + j → K V p ≤ K V q

theorem insInner_spec {base i j : Nat} {tmp : Elem} {a : Array Elem} (hj : j ≤ i)
    (hsz : base + i < a.size) (inv : InsInv (a.setIfInBounds (base + j) tmp) base i j) :
    ∃ a', insInner a base tmp j = .ok a' ∧ SortedOn a' base (base + i + 1) ∧
      PermOn a' (a.setIfInBounds (base + j) tmp) base (base + i + 1) := by
  induction j generalizing a with
  | zero =>
    refine ⟨_, wr_of_lt (by omega), ?_, .refl _ _ _⟩
    intro p q h1 h2 h3
    exact inv p q h1 h2 (by omega) (by omega)
  | succ j ih =>
    have hx : base + j < a.size := by omega
    have hx1 : base + (j + 1) < a.size := by omega
    simp only [insInner, rd_of_lt hx, cmp_pos, K_getElem hx, wr_of_lt hx1]
    split
    next hc =>
      obtain ⟨a', h1, h2, h3⟩ := ih (a := a.setIfInBounds (base + (j + 1)) a[base + j])
        (by omega) (by simpa using hsz) (by
          intro p q h1 h2 h3 h4
          -- `q` the slot just filled: `e2` (`hc` for `p` the new hole); `p` the new hole or the slot
          -- just filled, `q` further right: `tmp <` (`hc`) `K a (base + j) ≤ K a q` (`e3`); else `e1`
          have e1 := inv p q
          have e2 := inv p (base + j)
          have e3 := inv (base + j) q
          clear inv ih
          simp only [K_move hx1 hx, K_set hx1] at *
          grind)
      exact ⟨a', h1, h2, h3.trans (hole_permOn tmp hx1 hx (by omega) (by omega))⟩
    next hc =>
      refine ⟨_, rfl, ?_, .refl _ _ _⟩
      intro p q h1 h2 h3
      -- `q` the slot `tmp` goes to: `e2`, then `hc`; else `e1`
      have e1 := inv p q
      have e2 := inv p (base + j)
      clear inv ih
      simp only [K_set hx1] at *
      grind

theorem insOuter_spec {base count i : Nat} {a : Array Elem}
    (hsz : base + count ≤ a.size) (hs : SortedOn a base (base + i)) :
    ∃ a', insOuter a base count i = .ok a' ∧ SortedOn a' base (base + count) ∧
      PermOn a' a base (base + count) := by
  induction hn : count - i generalizing i a with
  | zero =>
    unfold insOuter
    simp only [show ¬ i < count by omega, if_false]
    exact ⟨a, rfl, sortedOn_mono hs (Nat.le_refl _) (by omega), .refl _ _ _⟩
  | succ n ih =>
    have hx : base + i < a.size := by omega
    unfold insOuter
    simp only [show i < count by omega, if_true, rd_of_lt hx]
    obtain ⟨a1, e1, e2, e3⟩ := insInner_spec (tmp := a[base + i]) (Nat.le_refl i) hx (by
      rw [set_self_eq hx]
      intro p q h1 h2 h3 h4
      exact hs p q h1 h2 (by omega))
    rw [set_self_eq hx] at e3
    simp only [e1]
    obtain ⟨a2, f1, f2, f3⟩ := ih (i := i + 1) (a := a1) (by rw [e3.size_eq]; exact hsz) e2
      (by omega)
    exact ⟨a2, f1, f2, f3.trans (e3.mono (Nat.le_refl _) (by omega))⟩

theorem insertionSortAt_spec {a : Array Elem} {base count : Nat} (h : base + count ≤ a.size) :
    ∃ a', insertionSortAt a base count = .ok a' ∧ SortedOn a' base (base + count) ∧
      PermOn a' a base (base + count) :=
  insOuter_spec h (fun p q _ _ _ => by omega)

theorem shellInner_perm {h : Nat} (hpos : 0 < h) (tmp : Elem) {j : Nat} {a : Array Elem}
    (hj : j < a.size) :
    ∃ a', shellInner a h hpos tmp j = .ok a' ∧ a'.Perm (a.setIfInBounds j tmp) := by
  induction j using Nat.strongRecOn generalizing a with
  | _ j ih =>
    unfold shellInner
    split
    next hle =>
      have hx : j - h < a.size := by omega
      simp only [rd_of_lt hx, wr_of_lt hj]
      split
      · obtain ⟨a', e1, e2⟩ := ih (j - h) (by omega) (a := a.setIfInBounds j a[j - h])
          (by simpa using hx)
        exact ⟨a', e1, e2.trans
          (hole_permOn (lo := 0) (hi := a.size) tmp hj hx (by omega) (by omega)).perm⟩
      · exact ⟨_, rfl, .rfl⟩
    next => exact ⟨_, wr_of_lt hj, .rfl⟩

theorem shellMid_perm {h : Nat} (hpos : 0 < h) {count i : Nat} {a : Array Elem}
    (hsz : count ≤ a.size) :
    ∃ a', shellMid a h hpos count i = .ok a' ∧ a'.Perm a := by
  induction hn : count - i generalizing i a with
  | zero =>
    unfold shellMid
    simp only [show ¬ i < count by omega, if_false]
    exact ⟨a, rfl, .rfl⟩
  | succ n ih =>
    have hx : i < a.size := by omega
    unfold shellMid
    simp only [show i < count by omega, if_true, rd_of_lt hx]
    obtain ⟨a1, e1, e2⟩ := shellInner_perm hpos a[i] hx
    rw [set_self_eq hx] at e2
    simp only [e1]
    obtain ⟨a2, f1, f2⟩ := ih (i := i + 1) (a := a1) (by rw [e2.size_eq]; exact hsz) (by omega)
    exact ⟨a2, f1, f2.trans e2⟩

theorem shellInner_one (tmp : Elem) (j : Nat) (a : Array Elem) :
    shellInner a 1 Nat.one_pos tmp j = insInner a 0 tmp j := by
  induction j generalizing a with
  | zero => unfold shellInner; simp [insInner]
  | succ j ih =>
    unfold shellInner
    simp only [show 1 ≤ j + 1 by omega, if_true, insInner, Nat.add_sub_cancel, Nat.zero_add,
      cmp_neg, cmp_pos, ih]

theorem shellMid_one (count i : Nat) (a : Array Elem) :
    shellMid a 1 Nat.one_pos count i = insOuter a 0 count i := by
  induction hn : count - i generalizing i a with
  | zero =>
    unfold shellMid insOuter
    simp [show ¬ i < count by omega]
  | succ n ih =>
    have ih' := fun a' => ih (i + 1) a' (by omega)
    unfold shellMid insOuter
    simp only [show i < count by omega, if_true, Nat.zero_add, shellInner_one, ih']

theorem shellOuter_spec {count inc : Nat} {a : Array Elem} (hpos : 0 < inc)
    (hsz : count = a.size) :
    ∃ a', shellOuter a count inc = .ok a' ∧ SortedOn a' 0 count ∧ a'.Perm a := by
  induction inc using Nat.strongRecOn generalizing a with
  | _ inc ih =>
    unfold shellOuter
    simp only [hpos, dite_true]
    by_cases h1 : inc = 1
    · subst h1
      obtain ⟨a1, e1, e2, e3⟩ := insertionSortAt_spec (a := a) (base := 0) (count := count)
        (by omega)
      rw [shellMid_one, ← insertionSortAt, e1]
      unfold shellOuter
      simp only [show ¬ 0 < 1 / 2 by omega, dite_false]
      exact ⟨a1, rfl, by simpa using e2, e3.perm⟩
    · obtain ⟨a1, e1, e2⟩ := shellMid_perm (i := inc) hpos (Nat.le_of_eq hsz)
      simp only [e1]
      obtain ⟨a2, f1, f2, f3⟩ := ih (inc / 2) (by omega) (a := a1) (by omega)
        (by rw [e2.size_eq]; exact hsz)
      exact ⟨a2, f1, f2, f3.trans e2⟩

end MgProof.C10
