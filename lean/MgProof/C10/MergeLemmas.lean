import MgProof.C10.Basic
/-! C10 — merge sort: the filling loops compute `List.merge`; the recursion sorts a segment. -/
namespace MgProof.C10
open MgModel.C10

/-- the order used by the merge step: `cmp x y ≤ 0` -/
def leKey (x y : Elem) : Bool := decide (x.1 ≤ y.1)

/-! A copy loop reads the part `S` of the source `P ++ S ++ Q` and overwrites the part `B` of
the target `A ++ B ++ C` with it. -/

theorem getElem?_decomp {a : Array Elem} {P S : List Elem} {x : Elem} {i : Nat}
    (h : a.toList = P ++ x :: S) (hi : P.length = i) : a[i]? = some x := by
  rw [← Array.getElem?_toList, h, ← hi]
  simp

theorem set_decomp {a : Array Elem} {A B C : List Elem} {i : Nat} (y : Elem)
    (h : a.toList = A ++ B ++ C) (hi : A.length = i) (hB : 0 < B.length) :
    i < a.size ∧ (a.setIfInBounds i y).toList = (A ++ [y]) ++ B.tail ++ C ∧
      B.tail.length + 1 = B.length := by
  obtain ⟨b, B, rfl⟩ := List.exists_cons_of_length_pos hB
  have hl : a.size = A.length + (B.length + 1 + C.length) := by
    rw [← Array.length_toList, h]; simp; omega
  refine ⟨by omega, ?_, rfl⟩
  rw [Array.toList_setIfInBounds, h, ← hi]
  simp

theorem copyTail_done {p arr : Array Elem} {hi l idx : Nat} (h : hi < l) :
    copyTail p arr hi l idx = .ok (arr, idx) := by
  rw [copyTail, if_neg (by omega)]

theorem copyTail_list {p arr : Array Elem} {hi l idx : Nat} {P S Q A B C : List Elem}
    (hl : l + S.length = hi + 1) (hp : p.toList = P ++ S ++ Q) (hP : P.length = l)
    (harr : arr.toList = A ++ B ++ C) (hA : A.length = idx) (hB : B.length = S.length) :
    ∃ arr', copyTail p arr hi l idx = .ok (arr', idx + S.length) ∧ arr'.toList = A ++ S ++ C := by
  induction S generalizing l idx arr P A B with
  | nil =>
    obtain rfl := List.eq_nil_of_length_eq_zero hB
    exact ⟨arr, copyTail_done (by simp at hl; omega), harr⟩
  | cons x S ih =>
    simp only [List.length_cons] at hl hB
    obtain ⟨hlt, hset, htl⟩ := set_decomp x harr hA (by omega)
    obtain ⟨arr', e1, e2⟩ := ih (l := l + 1) (idx := idx + 1) (P := P ++ [x]) (by omega)
      (by simpa using hp) (by simp [hP]) hset (by simp [hA]) (by omega)
    refine ⟨arr', ?_, by simpa using e2⟩
    rw [copyTail]
    simp only [show l ≤ hi by omega, if_true, wr_of_lt hlt, e1, List.length_cons,
      rd_eq_ok.mpr (getElem?_decomp (S := S ++ Q) (by simpa using hp) hP)]
    congr 2
    omega

theorem copyBack_eq (p arr : Array Elem) (right idx : Nat) :
    copyBack p arr right idx =
      match copyTail arr p right idx idx with
      | .error e => .error e
      | .ok (p', _) => .ok p' := by
  induction hn : right + 1 - idx generalizing idx p with
  | zero => rw [copyBack, copyTail]; simp only [show ¬ idx ≤ right by omega, if_false]
  | succ n ih =>
    rw [copyBack, copyTail]
    simp only [show idx ≤ right by omega, if_true]
    cases rd arr idx with
    | error e => rfl
    | ok x =>
      simp only []
      cases wr p idx x with
      | error e => rfl
      | ok p' => exact ih p' (idx + 1) (by omega)

/-- induction as `List.merge` recurses -/
theorem mergeFill_list {p arr : Array Elem} {center right l r idx : Nat}
    {L R A B C Pl Ql Pr Qr : List Elem}
    (hl : l + L.length = center + 1) (hr : r + R.length = right + 1)
    (hpl : p.toList = Pl ++ L ++ Ql) (hPl : Pl.length = l)
    (hpr : p.toList = Pr ++ R ++ Qr) (hPr : Pr.length = r)
    (harr : arr.toList = A ++ B ++ C) (hA : A.length = idx)
    (hB : B.length = L.length + R.length) :
    ∃ arr', mergeFill p arr center right l r idx = .ok arr' ∧
      arr'.toList = A ++ List.merge L R leKey ++ C := by
  induction L generalizing R l r idx arr A B Pl Pr with
  | nil =>
    simp only [List.length_nil, Nat.add_zero, Nat.zero_add] at hl hB
    obtain ⟨arr', e1, e2⟩ := copyTail_list hr hpr hPr harr hA hB
    refine ⟨arr', ?_, by simpa using e2⟩
    rw [mergeFill, mergeLoop, if_neg (by omega)]
    simp only [copyTail_done (show center < l by omega), e1]
  | cons x L ihL =>
    induction R generalizing r idx arr A B Pr with
    | nil =>
      simp only [List.length_nil, Nat.add_zero] at hr hB
      obtain ⟨arr', e1, e2⟩ := copyTail_list hl hpl hPl harr hA hB
      refine ⟨arr', ?_, by simpa using e2⟩
      rw [mergeFill, mergeLoop, if_neg (by omega)]
      simp only [e1, copyTail_done (show right < r by omega)]
    | cons y R ihR =>
      simp only [List.length_cons] at hl hr hB
      rw [mergeFill, mergeLoop]
      simp only [show l ≤ center ∧ r ≤ right by omega, cmp_nonpos,
        rd_eq_ok.mpr (getElem?_decomp (S := L ++ Ql) (by simpa using hpl) hPl),
        rd_eq_ok.mpr (getElem?_decomp (S := R ++ Qr) (by simpa using hpr) hPr)]
      by_cases hc : x.1 ≤ y.1
      · obtain ⟨hlt, hset, htl⟩ := set_decomp x harr hA (by omega)
        simp only [hc, if_true, wr_of_lt hlt]
        obtain ⟨arr', e1, e2⟩ := ihL (R := y :: R) (l := l + 1) (idx := idx + 1) (Pl := Pl ++ [x])
          (by omega) (by simpa using hr) (by simpa using hpl) (by simp [hPl]) hpr hPr hset
          (by simp [hA]) (by rw [List.length_cons]; omega)
        rw [mergeFill] at e1
        exact ⟨arr', e1, by rw [e2]; simp [leKey, hc]⟩
      · obtain ⟨hlt, hset, htl⟩ := set_decomp y harr hA (by omega)
        simp only [hc, if_false, wr_of_lt hlt]
        obtain ⟨arr', e1, e2⟩ := ihR (r := r + 1) (idx := idx + 1) (Pr := Pr ++ [y]) (by omega)
          (by simpa using hpr) (by simp [hPr]) hset (by simp [hA])
          (by rw [List.length_cons]; omega)
        rw [mergeFill] at e1
        exact ⟨arr', e1, by rw [e2]; simp [leKey, hc]⟩

theorem sorted_merge {L R : List Elem} (hL : Sorted L) (hR : Sorted R) :
    Sorted (List.merge L R leKey) := by
  have h := List.pairwise_merge (le := leKey)
    (fun a b c h1 h2 => by simp only [leKey, decide_eq_true_eq] at *; omega)
    (fun a b => by simp only [leKey, Bool.or_eq_true, decide_eq_true_eq]; omega) L R
    (hL.imp (by intro a b h; simpa [leKey] using h)) (hR.imp (by intro a b h; simpa [leKey] using h))
  exact h.imp (by intro a b h; simpa [leKey] using h)

theorem mergeStep_list {p arr : Array Elem} {left center right : Nat} {pre L R post : List Elem}
    (hp : p.toList = pre ++ L ++ R ++ post) (h1 : pre.length = left)
    (h2 : left + L.length = center + 1) (h3 : center + 1 + R.length = right + 1)
    (hsz : arr.size = p.size) :
    ∃ p' arr', mergeStep p arr left center right = .ok (p', arr') ∧
      p'.toList = pre ++ List.merge L R leKey ++ post ∧ arr'.size = p'.size := by
  have hpsz : p.size = left + L.length + R.length + post.length := by
    rw [← Array.length_toList, hp]; simp; omega
  have hml : (List.merge L R leKey).length = L.length + R.length := List.length_merge leKey L R
  -- the scratch array is only known by its size
  obtain ⟨A, B, C, harr, hA, hB⟩ : ∃ A B C, arr.toList = A ++ B ++ C ∧ A.length = left ∧
      B.length = L.length + R.length :=
    ⟨arr.toList.take left, (arr.toList.drop left).take (L.length + R.length),
      (arr.toList.drop left).drop (L.length + R.length),
      by rw [List.append_assoc, List.take_append_drop, List.take_append_drop], by simp; omega,
      by simp; omega⟩
  have hasz : arr.size = left + (L.length + R.length) + C.length := by
    rw [← Array.length_toList, harr]; simp [hA, hB]; omega
  obtain ⟨arr3, e1, e2⟩ := mergeFill_list (p := p) (idx := left) (Ql := R ++ post)
    (Pr := pre ++ L) (Qr := post) h2 h3 (by simpa using hp) h1 hp (by simp; omega) harr hA hB
  obtain ⟨p', f1, f2⟩ := copyTail_list (p := arr3) (arr := p) (hi := right) (l := left)
    (idx := left) (B := L ++ R) (by omega) e2 hA (by simpa using hp) h1 (by simp [hml])
  refine ⟨p', arr3, by simp only [mergeStep, e1, copyBack_eq, f1], f2, ?_⟩
  rw [← Array.length_toList, e2, ← Array.length_toList, f2]
  simp only [List.length_append, hml, hA, h1]
  omega

theorem mergeRec_spec {left right : Nat} {p arr : Array Elem} {pre mid post : List Elem}
    (hp : p.toList = pre ++ mid ++ post) (hpre : pre.length = left)
    (hmid : left + mid.length = right + 1) (hsz : arr.size = p.size) :
    ∃ p' arr' mid', mergeRec p arr left right = .ok (p', arr') ∧
      p'.toList = pre ++ mid' ++ post ∧ Sorted mid' ∧ mid'.Perm mid ∧ arr'.size = p'.size := by
  induction hn : mid.length using Nat.strongRecOn generalizing left right p arr pre mid post with
  | _ n ih =>
    unfold mergeRec
    split
    next hlt =>
      generalize hcdef : (left + right) / 2 = c
      have hc1 : left ≤ c := by omega
      have hc2 : c < right := by omega
      clear hcdef
      -- `mid` splits into the two runs after `k = c + 1 - left` elements
      obtain ⟨k, hk⟩ : ∃ k, left + k = c + 1 := ⟨c + 1 - left, by omega⟩
      generalize hL : mid.take k = L
      generalize hR : mid.drop k = R
      have hLlen : L.length = k := by rw [← hL, List.length_take]; omega
      obtain rfl : mid = L ++ R := by rw [← hL, ← hR, List.take_append_drop]
      rw [List.length_append] at hmid hn
      obtain ⟨p1, arr1, L', e1, e2, e3, e4, e5⟩ := ih L.length (by omega) (left := left)
        (right := c) (mid := L) (post := R ++ post) (by simpa using hp) hpre (by omega) hsz rfl
      obtain ⟨p2, arr2, R', f1, f2, f3, f4, f5⟩ := ih R.length (by omega) (left := c + 1)
        (right := right) (pre := pre ++ L') (mid := R) (post := post)
        (by simpa using e2) (by rw [List.length_append, e4.length_eq]; omega) (by omega) e5 rfl
      obtain ⟨p3, arr3, g1, g2, g3⟩ := mergeStep_list (left := left) (center := c) (right := right)
        f2 hpre (by rw [e4.length_eq]; omega) (by rw [f4.length_eq]; omega) f5
      simp only [e1, f1]
      exact ⟨p3, arr3, List.merge L' R' leKey, g1, g2, sorted_merge e3 f3,
        (List.merge_perm_append leKey).trans (e4.append f4), g3⟩
    next hlt => exact ⟨p, arr, mid, rfl, hp, sorted_of_length_le_one (by omega), .refl _, hsz⟩

theorem mergeRec_empty_oob : ∀ (right : Nat), 0 < right →
    mergeRec #[] #[] 0 right = .error .oob := by
  intro right
  induction right using Nat.strongRecOn with
  | _ right ih =>
    intro h
    unfold mergeRec
    simp only [h, if_true, Nat.zero_add]
    by_cases h2 : 0 < right / 2
    · rw [ih (right / 2) (by omega) h2]
    · have h1 : right = 1 := by omega
      subst h1
      have e1 : mergeRec #[] #[] 0 (1 / 2) = .ok (#[], #[]) := by
        unfold mergeRec; simp
      have e2 : mergeRec #[] #[] (1 / 2 + 1) 1 = .ok (#[], #[]) := by
        unfold mergeRec; simp
      simp only [e1, e2]
      unfold mergeStep mergeFill mergeLoop rd
      simp

/-- **defect of the unpatched code**: `count - 1` wraps for the empty array -/
theorem mergeSortOrig_empty_fails : mergeSortOrig #[] = .error .oob := by
  unfold mergeSortOrig mergeSortTo
  have h : 0 < wrapSub1 (#[] : Array Elem).size := by
    rw [Array.size_empty, wrapSub1_zero]; unfold sizeMod; omega
  rw [mergeRec_empty_oob _ h]

theorem mergeSortOrig_eq_mergeSort {a : Array Elem} (h : 2 ≤ a.size)
    (h64 : a.size < sizeMod) : mergeSortOrig a = mergeSort a := by
  unfold mergeSortOrig mergeSort
  rw [wrapSub1_of_pos (by omega) h64]
  simp [show ¬ a.size < 2 by omega]

end MgProof.C10
