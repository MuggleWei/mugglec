import MgProof.C10.HeapOps
/-! C10 — heap: whole operation histories against the multiset specification; draining. -/
namespace MgProof.C10
open MgModel.C10

/-- what the property says one call does to the multiset `E` of entries and which entry it
hands back (`ret`); remove-by-node refuses every index outside `1..size` -/
def SpecStep (E : List Elem) (op : HOp) (ret : Option Elem) (E' : List Elem) : Prop :=
  match op with
  | .ins x => ret = some x ∧ E'.Perm (x :: E)
  | .ext => (E = [] ∧ ret = none ∧ E' = E) ∨
      (∃ r, ret = some r ∧ (∀ e ∈ E, r.1 ≤ e.1) ∧ E.Perm (r :: E'))
  | .rm key => ((∀ e ∈ E, e.1 ≠ key) ∧ ret = none ∧ E' = E) ∨
      (∃ r, ret = some r ∧ r.1 = key ∧ E.Perm (r :: E'))
  | .rmi idx => ((idx = 0 ∨ E.length < idx) ∧ ret = none ∧ E' = E) ∨
      (1 ≤ idx ∧ idx ≤ E.length ∧ ∃ r, ret = some r ∧ E.Perm (r :: E'))

def SpecRun : List Elem → List HOp → List (Option Elem) → List Elem → Prop
  | E, [], rets, E' => rets = [] ∧ E' = E
  | E, op :: ops, rets, E' =>
    ∃ r rs E1, rets = r :: rs ∧ SpecStep E op r E1 ∧ SpecRun E1 ops rs E'

/-- `2^30`: a full heap can still double its capacity (`< 2^31`), so `insert` never refuses -/
theorem hstep_refines {h : Heap} (op : HOp) (inv : HeapInv h) (hsz : h.size < 1073741824) :
    ∃ h' ret, hstep h op = .ok (h', ret) ∧ HeapInv h' ∧
      SpecStep (entries h) op ret (entries h') ∧ h'.size ≤ h.size + 1 := by
  cases op with
  | ins x =>
    obtain ⟨h', e1, e2, e3, e4, _⟩ := insert_spec x inv (by omega)
    exact ⟨h', some x, by simp [hstep, e1], e2, ⟨rfl, e3⟩, by omega⟩
  | ext =>
    by_cases h0 : h.size = 0
    · refine ⟨h, none, by simp [hstep, extract_empty h0], inv, ?_, by omega⟩
      exact Or.inl ⟨entries_nil_iff.mpr h0, rfl, rfl⟩
    · obtain ⟨r, h', e1, _, e3, e4, e5, e6, _⟩ := extract_spec inv h0
      exact ⟨h', some r, by simp [hstep, e1], e3, Or.inr ⟨r, rfl, e5, e4⟩, by omega⟩
  | rm key =>
    rcases find_spec inv key with ⟨j, f1, f2, f3, f4, _⟩ | ⟨f1, f2⟩
    · obtain ⟨e, h', e1, e2, e3, e4, e5, _⟩ := remove_spec inv f2 f3
      refine ⟨h', some e, by simp [hstep, f1, e1], e3, Or.inr ⟨e, rfl, ?_, e4⟩, by omega⟩
      rw [← K_of_getElem? e2]; exact f4
    · exact ⟨h, none, by simp [hstep, f1], inv, Or.inl ⟨f2, rfl, rfl⟩, by omega⟩
  | rmi idx =>
    by_cases hv : 1 ≤ idx ∧ idx ≤ h.size
    · obtain ⟨e, h', e1, _, e3, e4, e5, _⟩ := remove_spec inv hv.1 hv.2
      refine ⟨h', some e, by simp [hstep, e1], e3, Or.inr ⟨hv.1, ?_, e, rfl, e4⟩, by omega⟩
      rw [entries_length]; exact hv.2
    · have hbad : idx = 0 ∨ h.size < idx := by omega
      refine ⟨h, none, by simp [hstep, remove_invalid hbad], inv, Or.inl ⟨?_, rfl, rfl⟩, by omega⟩
      rw [entries_length]; exact hbad

theorem drain_spec : ∀ (n : Nat) {h : Heap}, HeapInv h → h.size ≤ n →
    ∃ l, drain n h = .ok l ∧ Sorted l ∧ l.Perm (entries h) := by
  intro n
  induction n with
  | zero =>
    intro h inv hn
    refine ⟨[], rfl, List.Pairwise.nil, ?_⟩
    rw [entries_nil_iff.mpr (by omega)]
  | succ n ih =>
    intro h inv hn
    by_cases h0 : h.size = 0
    · refine ⟨[], by simp [drain, extract_empty h0], List.Pairwise.nil, ?_⟩
      rw [entries_nil_iff.mpr h0]
    · obtain ⟨r, h', e1, _, e3, e4, e5, e6, _⟩ := extract_spec inv h0
      obtain ⟨l, f1, f2, f3⟩ := ih e3 (by omega)
      refine ⟨r :: l, by simp [drain, e1, f1], ?_, (List.Perm.cons r f3).trans e4.symm⟩
      refine List.Pairwise.cons ?_ f2
      intro e he
      exact e5 e (e4.symm.subset (List.mem_cons_of_mem _ (f3.subset he)))

end MgProof.C10
