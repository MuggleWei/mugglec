import MgProof.C10.Basic
/-! C10 — heap: the sift invariants on the virtual array (hole technique), their steps, the loops;
one sift-down step serves the loops of `extract` and `remove`. -/
namespace MgProof.C10
open MgModel.C10

theorem rdN_of_lt {a : Array Elem} {i : Nat} (h0 : 0 < i) (h : i < a.size) :
    rdN a i = .ok a[i] := by
  simp [rdN, show i ≠ 0 by omega, rd_of_lt h]

theorem wrN_of_lt {a : Array Elem} {i : Nat} {v : Elem} (h0 : 0 < i) (h : i < a.size) :
    wrN a i v = .ok (a.setIfInBounds i v) := by
  simp [wrN, show i ≠ 0 by omega, wr_of_lt h]

def HeapOrd (a : Array Elem) : Prop := ∀ i, 2 ≤ i → i < a.size → K a (i / 2) ≤ K a i

theorem heapOrd_root_min {a : Array Elem} (ho : HeapOrd a) :
    ∀ i, 1 ≤ i → i < a.size → K a 1 ≤ K a i := by
  intro i
  induction i using Nat.strongRecOn with
  | _ i ih =>
    intro h1 h2
    by_cases hi : i = 1
    · subst hi; exact Int.le_refl _
    · have := ih (i / 2) (by omega) (by omega) (by omega)
      have := ho i (by omega) h2
      omega

theorem heapOrd_pop {a : Array Elem} (ho : HeapOrd a) : HeapOrd a.pop := by
  intro i h1 h2
  simp only [Array.size_pop] at h2
  rw [K_pop (by omega), K_pop (by omega)]
  exact ho i h1 (by omega)

/-- every pair is ordered except (parent(idx), idx); grandparent(idx) ≤ children(idx) keeps the
children ordered when the parent's entry drops into `idx` -/
def UpInv (V : Array Elem) (idx : Nat) : Prop :=
  (∀ i, 2 ≤ i → i < V.size → i ≠ idx → K V (i / 2) ≤ K V i) ∧
  (∀ c, c < V.size → c / 2 = idx → 2 ≤ idx → K V (idx / 2) ≤ K V c)

/-- every pair is ordered except (idx, children(idx)); grandparent(idx) ≤ children(idx) keeps
`idx` ordered with its parent when a child's entry rises into it -/
def DownInv (V : Array Elem) (idx : Nat) : Prop :=
  (∀ c, 2 ≤ c → c < V.size → c / 2 ≠ idx → K V (c / 2) ≤ K V c) ∧
  (∀ c, c < V.size → c / 2 = idx → 2 ≤ idx → K V (idx / 2) ≤ K V c)

/-- invariant of `muggle_heap_remove`'s loop at entry: only pairs involving `idx` may be broken -/
def BothInv (V : Array Elem) (idx : Nat) : Prop :=
  (∀ c, 2 ≤ c → c < V.size → c ≠ idx → c / 2 ≠ idx → K V (c / 2) ≤ K V c) ∧
  (∀ c, c < V.size → c / 2 = idx → 2 ≤ idx → K V (idx / 2) ≤ K V c)

/-- from `BothInv`: `remove`'s up phase uses it too -/
theorem upInv_step {a : Array Elem} {idx : Nat} {x : Elem} (h1 : 2 ≤ idx) (hsz : idx < a.size)
    (inv : BothInv (a.setIfInBounds idx x) idx) (hc : x.1 < K a (idx / 2)) :
    UpInv ((a.setIfInBounds idx a[idx / 2]).setIfInBounds (idx / 2) x) (idx / 2) := by
  have hpl : idx / 2 < a.size := by omega
  obtain ⟨i1, i2⟩ := inv
  constructor
  · intro i hi1 hi2 hi3
    -- `i = idx` (holds the parent's entry): `hc`.  `i` the sibling of `idx`: `hc`, then `e1`.
    -- `i` a child of `idx`: the second clause of the invariant (`e2`).  Elsewhere `e1`.
    have e1 := i1 i
    have e2 := i2 i
    clear i1 i2
    simp only [K_move hsz hpl, K_set hsz, Array.size_setIfInBounds] at *
    grind
  · intro c hc1 hc2 hc3
    -- `c = idx` (holds the parent's entry): `e3`; `c` the sibling: `e3`, then `e1`
    have e1 := i1 c
    have e3 := i1 (idx / 2)
    clear i1 i2
    simp only [K_move hsz hpl, K_set hsz, Array.size_setIfInBounds] at *
    grind

theorem upInv_both {V : Array Elem} {idx : Nat} (h : UpInv V idx) : BothInv V idx :=
  ⟨fun c a1 a2 a3 _ => h.1 c a1 a2 a3, h.2⟩

theorem downInv_both {V : Array Elem} {idx : Nat} (h : DownInv V idx) : BothInv V idx :=
  ⟨fun c a1 a2 _ a4 => h.1 c a1 a2 a4, h.2⟩

theorem downInv_of_both {V : Array Elem} {idx : Nat} (h : BothInv V idx)
    (hp : 2 ≤ idx → K V (idx / 2) ≤ K V idx) : DownInv V idx :=
  ⟨fun c c1 c2 c3 => if hc : c = idx then hc ▸ hp (hc ▸ c1) else h.1 c c1 c2 hc c3, h.2⟩

theorem siftUp_spec {x : Elem} {idx : Nat} {a : Array Elem} (h1 : 1 ≤ idx) (hsz : idx < a.size)
    (inv : UpInv (a.setIfInBounds idx x) idx) :
    ∃ a', siftUp a x idx = .ok a' ∧ HeapOrd a' ∧ PermOn a' (a.setIfInBounds idx x) 1 a.size := by
  induction idx using Nat.strongRecOn generalizing a with
  | _ idx ih =>
    unfold siftUp
    split
    next hp =>
      refine ⟨_, wrN_of_lt h1 hsz, fun i hi1 hi2 => ?_, .refl _ _ _⟩
      exact inv.1 i hi1 hi2 (by omega)
    next hp =>
      have hpl : idx / 2 < a.size := by omega
      simp only [rdN_of_lt (show 0 < idx / 2 by omega) hpl, cmp_nonpos, K_getElem hpl,
        wrN_of_lt h1 hsz]
      split
      next hc =>
        refine ⟨_, rfl, fun i hi1 hi2 => ?_, .refl _ _ _⟩
        by_cases hi : i = idx
        · subst hi; rw [K_set hsz, K_set hsz, if_neg (by omega), if_pos rfl]; exact hc
        · exact inv.1 i hi1 hi2 hi
      next hc =>
        obtain ⟨a', e1, e2, e3⟩ := ih (idx / 2) (by omega) (a := a.setIfInBounds idx a[idx / 2])
          (by omega) (by simpa using hpl) (upInv_step (by omega) hsz (upInv_both inv) (by omega))
        rw [Array.size_setIfInBounds] at e3
        exact ⟨a', e1, e2, e3.trans (hole_permOn x hsz hpl (by omega) (by omega))⟩

theorem downInv_step {a : Array Elem} {i child n : Nat} {l : Elem}
    (hsz : a.size = n + 1) (hch : child = i * 2 ∨ child = i * 2 + 1) (hcl : child < a.size)
    (hsm : ∀ c, c / 2 = i → c ≤ n → K a child ≤ K a c)
    (inv : DownInv (a.setIfInBounds i l) i) (hc : K a child ≤ l.1) :
    DownInv ((a.setIfInBounds i a[child]).setIfInBounds child l) child := by
  have hi : i < a.size := by omega
  obtain ⟨i1, i2⟩ := inv
  constructor
  · intro c hc1 hc2 hc3
    -- `c = child` (holds `l`): `hc`.  `c` the other child of `i`: the chosen one is smaller (`e4`).
    -- `c = i` (holds `a[child]`): the second clause of the invariant (`e3`).  Elsewhere `e1`.
    have e1 := i1 c
    have e3 := i2 child
    have e4 := hsm c
    clear i1 i2 hsm
    simp only [K_move hi hcl, K_set hi, Array.size_setIfInBounds] at *
    grind
  · intro c hc1 hc2 hc3
    -- `K a child ≤ K a c` is `e1`: the parent of `c` is `child`, not `i`
    have e1 := i1 c
    clear i1 i2 hsm
    simp only [K_move hi hcl, K_set hi, Array.size_setIfInBounds] at *
    grind

theorem downInv_exit {a : Array Elem} {i n : Nat} {l : Elem} (hi : i ≤ n)
    (hsz : a.size = n + 1) (inv : DownInv (a.setIfInBounds i l) i)
    (hch : ∀ c, c / 2 = i → c ≤ n → l.1 ≤ K a c) :
    HeapOrd (a.setIfInBounds i l) := by
  intro c hc1 hc2
  have hil : i < a.size := by omega
  rw [Array.size_setIfInBounds] at hc2
  by_cases h : c / 2 = i
  · rw [K_set hil, K_set hil, if_pos h, if_neg (by omega)]; exact hch c h (by omega)
  · exact inv.1 c hc1 (by simpa using hc2) h

theorem pickChildExt_spec {a : Array Elem} {n c : Nat} (h1 : 1 ≤ c) (hc : c ≤ n)
    (hsz : a.size = n + 1) :
    ∃ b, pickChildExt a n c = .ok b ∧ (b = true → c + 1 ≤ n ∧ K a (c + 1) < K a c) ∧
      (b = false → c = n ∨ K a c ≤ K a (c + 1)) := by
  unfold pickChildExt
  by_cases h : c = n
  · simp [h]
  · have h2 : c + 1 < a.size := by omega
    have h3 : c < a.size := by omega
    simp only [ne_eq, h, not_false_eq_true, if_true, rdN_of_lt (show 0 < c + 1 by omega) h2,
      rdN_of_lt h1 h3]
    refine ⟨_, rfl, ?_, ?_⟩
    · intro hb
      simp only [decide_eq_true_eq, cmp_neg, K_getElem h2, K_getElem h3] at hb
      exact ⟨by omega, hb⟩
    · intro hb
      simp only [decide_eq_false_iff_not, cmp_neg, K_getElem h2, K_getElem h3] at hb
      right; omega

/-- the tests of `extract` (`!=`) and `remove` (`<`) agree below the size -/
theorem pickChildRm_eq {a : Array Elem} {n c : Nat} (hc : c ≤ n) :
    pickChildRm a n c = pickChildExt a n c := by
  unfold pickChildRm pickChildExt
  by_cases h : c = n
  · simp [h]
  · simp [h, show c < n by omega]

theorem pickChildExt_min {a : Array Elem} {n i : Nat} (h1 : 1 ≤ i) (h2 : i * 2 ≤ n)
    (hsz : a.size = n + 1) :
    ∃ b, pickChildExt a n (i * 2) = .ok b ∧
      let child := if b then i * 2 + 1 else i * 2
      (child = i * 2 ∨ child = i * 2 + 1) ∧ child ≤ n ∧
        (∀ c, c / 2 = i → c ≤ n → K a child ≤ K a c) := by
  obtain ⟨b, hb, hb1, hb2⟩ := pickChildExt_spec (a := a) (c := i * 2) (by omega) h2 hsz
  refine ⟨b, hb, ?_⟩
  cases b with
  | true =>
    obtain ⟨h3, h4⟩ := hb1 rfl
    refine ⟨Or.inr rfl, h3, fun c hc1 hc2 => ?_⟩
    have : c = i * 2 ∨ c = i * 2 + 1 := by omega
    rcases this with rfl | rfl
    · simp; omega
    · simp
  | false =>
    have h4 := hb2 rfl
    refine ⟨Or.inl rfl, h2, fun c hc1 hc2 => ?_⟩
    have : c = i * 2 ∨ c = i * 2 + 1 := by omega
    rcases this with rfl | rfl
    · simp
    · simp; omega

/-- one sift-down iteration, for `rmDown` and `extLoop` at once (for `siftDown_spec`) -/
theorem siftStep_spec {a : Array Elem} {l : Elem} {n idx : Nat} (h1 : 1 ≤ idx) (hin : idx ≤ n)
    (hsz : a.size = n + 1) (inv : DownInv (a.setIfInBounds idx l) idx) :
    (rmDown a (some l) n idx = .ok none ∧ extLoop a l n idx = .ok (a, idx) ∧
      HeapOrd (a.setIfInBounds idx l)) ∨
    (∃ c, ∃ hc : c < a.size, rmDown a (some l) n idx = .ok (some (a.setIfInBounds idx a[c], c)) ∧
      extLoop a l n idx = extLoop (a.setIfInBounds idx a[c]) l n c ∧
      idx < c ∧ c ≤ n ∧ DownInv ((a.setIfInBounds idx a[c]).setIfInBounds c l) c) := by
  rw [rmDown, extLoop.eq_1 a l n idx, if_neg (show idx ≠ 0 by omega)]
  by_cases h2 : idx * 2 ≤ n
  · obtain ⟨b, hb, f1, f2, f4⟩ := pickChildExt_min (a := a) h1 h2 hsz
    simp only [h2, if_true, pickChildRm_eq h2, hb, derefKey]
    generalize (if b = true then idx * 2 + 1 else idx * 2) = child at f1 f2 f4
    have hcl : child < a.size := by omega
    simp only [rdN_of_lt (show 0 < child by omega) hcl, cmp_nonneg, K_getElem hcl,
      wrN_of_lt h1 (show idx < a.size by omega)]
    split
    next hc =>
      exact .inr ⟨child, hcl, rfl, rfl, by omega, f2, downInv_step hsz f1 hcl f4 inv hc⟩
    next hc =>
      refine .inl ⟨rfl, rfl, downInv_exit hin hsz inv fun c hc1 hc2 => ?_⟩
      have := f4 c hc1 hc2
      omega
  · simp only [h2, if_false]
    exact .inl ⟨trivial, trivial, downInv_exit hin hsz inv fun c hc1 hc2 => by omega⟩

/-- what the sift loops deliver when they stop with the hole at `i'` -/
structure Sifted (a : Array Elem) (l : Elem) (n idx : Nat) (a' : Array Elem) (i' : Nat) : Prop where
  pos : 1 ≤ i'
  le : i' ≤ n
  ord : HeapOrd (a'.setIfInBounds i' l)
  perm : PermOn (a'.setIfInBounds i' l) (a.setIfInBounds idx l) 1 (n + 1)

theorem Sifted.stop {a : Array Elem} {l : Elem} {n idx : Nat} (h1 : 1 ≤ idx) (hin : idx ≤ n)
    (ho : HeapOrd (a.setIfInBounds idx l)) : Sifted a l n idx a idx :=
  ⟨h1, hin, ho, .refl _ _ _⟩

theorem Sifted.step {a a' : Array Elem} {l : Elem} {n idx c i' : Nat} (hsz : a.size = n + 1)
    (h1 : 1 ≤ idx ∧ idx ≤ n) (hc : 1 ≤ c ∧ c ≤ n)
    (h : Sifted (a.setIfInBounds idx (a[c]'(by omega))) l n c a' i') : Sifted a l n idx a' i' :=
  ⟨h.pos, h.le, h.ord,
    h.perm.trans (hole_permOn l (by omega) (by omega) (by omega) (by omega))⟩

theorem rmUp_none {a : Array Elem} {l : Elem} {idx : Nat} (hsz : idx < a.size)
    (hle : idx / 2 ≠ 0 → K a (idx / 2) ≤ l.1) : rmUp a (some l) idx = .ok none := by
  unfold rmUp
  by_cases hp : idx / 2 = 0
  · simp [hp]
  · have hpl : idx / 2 < a.size := by omega
    have := hle hp
    simp only [ne_eq, hp, not_false_eq_true, if_true, rdN_of_lt (show 0 < idx / 2 by omega) hpl,
      derefKey, cmp_neg, K_getElem hpl, show ¬ l.1 < K a (idx / 2) by omega, if_false]

theorem rmUp_some {a : Array Elem} {l : Elem} {idx : Nat} (h1 : 1 ≤ idx) (hsz : idx < a.size)
    (hp : idx / 2 ≠ 0) (hlt : l.1 < K a (idx / 2)) :
    rmUp a (some l) idx = .ok (some (a.setIfInBounds idx (a[idx / 2]'(by omega)))) := by
  unfold rmUp
  have hpl : idx / 2 < a.size := by omega
  simp only [ne_eq, hp, not_false_eq_true, if_true, rdN_of_lt (show 0 < idx / 2 by omega) hpl,
    derefKey, cmp_neg, K_getElem hpl, hlt, wrN_of_lt h1 hsz]

/-- under the sift-down invariant `remove`'s loop never moves up: it does what `extract`'s does.
Fuel: every iteration but the last moves the hole to a child, so at most `n + 1 - idx`. -/
theorem siftDown_spec {l : Elem} {n fuel idx : Nat} {a : Array Elem} (hf : n + 1 - idx < fuel)
    (h1 : 1 ≤ idx) (hin : idx ≤ n) (hsz : a.size = n + 1)
    (inv : DownInv (a.setIfInBounds idx l) idx) :
    ∃ a' i', extLoop a l n idx = .ok (a', i') ∧ rmLoop fuel a (some l) n idx = .ok (a', i') ∧
      Sifted a l n idx a' i' := by
  induction fuel generalizing idx a with
  | zero => omega
  | succ fuel ih =>
    have hup := rmUp_none (l := l) (show idx < a.size by omega) fun hp => by
      have := inv.1 idx (by omega) (by simp; omega) (by omega)
      simpa only [K_set (show idx < a.size by omega), show idx / 2 ≠ idx by omega, if_false,
        if_true] using this
    rw [rmLoop, hup]
    rcases siftStep_spec h1 hin hsz inv with ⟨e, e', ho⟩ | ⟨c, hc, e, e', c1, c2, inv'⟩
    · simp only [e]
      exact ⟨a, idx, e', rfl, .stop h1 hin ho⟩
    · simp only [e, e']
      obtain ⟨a', i', r1, r2, r3⟩ := ih (idx := c) (a := a.setIfInBounds idx a[c]) (by omega)
        (by omega) c2 (by simpa using hsz) inv'
      exact ⟨a', i', r1, r2, r3.step hsz ⟨h1, hin⟩ ⟨by omega, c2⟩⟩

/-- up while the filler is smaller than the parent, then down.  Fuel: at most `idx` iterations up
(each decreases `idx`), then at most `n + 1` down; `remove_spec` gives `2 * n + 2`, `idx ≤ n`. -/
theorem rmLoop_spec {l : Elem} {n idx fuel : Nat} {a : Array Elem} (hf : idx + n + 2 ≤ fuel)
    (h1 : 1 ≤ idx) (hin : idx ≤ n) (hsz : a.size = n + 1)
    (inv : BothInv (a.setIfInBounds idx l) idx) :
    ∃ a' i', rmLoop fuel a (some l) n idx = .ok (a', i') ∧ Sifted a l n idx a' i' := by
  induction idx using Nat.strongRecOn generalizing fuel a with
  | _ idx ih =>
    have hil : idx < a.size := by omega
    by_cases hup : idx / 2 ≠ 0 ∧ l.1 < K a (idx / 2)
    · obtain ⟨hp, hlt⟩ := hup
      have hpl : idx / 2 < a.size := by omega
      obtain ⟨fuel', rfl⟩ : ∃ f, fuel = f + 1 := ⟨fuel - 1, by omega⟩
      rw [rmLoop, rmUp_some h1 hil hp hlt]
      obtain ⟨a', i', r1, r2⟩ := ih (idx / 2) (by omega) (fuel := fuel')
        (a := a.setIfInBounds idx a[idx / 2]) (by omega) (by omega) (by omega) (by simpa using hsz)
        (upInv_both (upInv_step (by omega) hil inv hlt))
      exact ⟨a', i', r1, r2.step hsz ⟨h1, hin⟩ ⟨by omega, by omega⟩⟩
    · have invd := downInv_of_both inv fun h2 => by
        simp only [K_set hil, show idx / 2 ≠ idx by omega, if_false, if_true]
        omega
      obtain ⟨a', i', _, r⟩ := siftDown_spec (fuel := fuel) (by omega) h1 hin hsz invd
      exact ⟨a', i', r⟩

/-- overwriting slot `idx` of a heap breaks only the pairs `idx` is part of -/
theorem bothInv_set {a : Array Elem} {idx : Nat} (l : Elem) (ho : HeapOrd a) (hi : idx < a.size) :
    BothInv (a.setIfInBounds idx l) idx := by
  constructor
  · intro c c1 c2 c3 c4
    rw [Array.size_setIfInBounds] at c2
    rw [K_set hi, K_set hi, if_neg c4, if_neg c3]
    exact ho c c1 c2
  · intro c c1 c2 c3
    rw [Array.size_setIfInBounds] at c1
    rw [K_set hi, K_set hi, if_neg (by omega), if_neg (by omega)]
    exact Int.le_trans (ho idx c3 hi) (c2 ▸ ho c (by omega) c1)

/-- the state in which `remove` enters its loop -/
theorem bothInv_pop_set {a : Array Elem} {idx : Nat} (l : Elem) (ho : HeapOrd a)
    (h2 : idx + 1 < a.size) : BothInv (a.pop.setIfInBounds idx l) idx :=
  bothInv_set l (heapOrd_pop ho) (by simp; omega)

/-- the last element fills slot `idx` (nothing moves when `idx` is the last slot) -/
theorem pop_set_push_perm {a : Array Elem} {idx : Nat} {l e : Elem} (h1 : idx < a.size)
    (hl : a[a.size - 1]? = some l) (he : a[idx]? = some e) :
    ((a.pop.setIfInBounds idx l).push e).Perm a := by
  have : (a.pop.setIfInBounds idx l).push e =
      a.swap idx (a.size - 1) (by omega) (by omega) := by
    apply Array.ext_getElem?
    intro i
    simp only [Array.getElem?_push, Array.size_setIfInBounds, Array.size_pop,
      Array.getElem?_setIfInBounds, Array.getElem?_pop, Array.getElem?_swap]
    rw [Array.getElem?_eq_getElem (by omega)] at hl he
    grind
  rw [this]
  exact Array.swap_perm _ _

theorem findLoop_spec {a : Array Elem} {key : Int} {n i : Nat} (h1 : 1 ≤ i)
    (hsz : a.size = n + 1) :
    (∃ j, findLoop a key n i = .ok (some j) ∧ i ≤ j ∧ j ≤ n ∧ K a j = key ∧
        ∀ p, i ≤ p → p < j → K a p ≠ key) ∨
    (findLoop a key n i = .ok none ∧ ∀ p, i ≤ p → p ≤ n → K a p ≠ key) := by
  induction hm : n + 1 - i generalizing i with
  | zero =>
    unfold findLoop
    simp only [show ¬ i ≤ n by omega, if_false]
    exact .inr ⟨trivial, fun p _ _ => by omega⟩
  | succ m ih =>
    unfold findLoop
    have hil : i < a.size := by omega
    simp only [show i ≤ n by omega, if_true, rdN_of_lt h1 hil, cmp_eq_zero, K_getElem hil]
    split
    next hk => exact .inl ⟨i, rfl, Nat.le_refl _, by omega, hk, fun p _ _ => by omega⟩
    next hk =>
      have hi : ∀ p, i ≤ p → p ≠ i → i + 1 ≤ p := fun p _ _ => by omega
      rcases ih (i := i + 1) (by omega) (by omega) with ⟨j, e1, e2, e3, e4, e5⟩ | ⟨e1, e2⟩
      · refine .inl ⟨j, e1, by omega, e3, e4, fun p hp1 hp2 => ?_⟩
        by_cases hpi : p = i
        · exact hpi ▸ hk
        · exact e5 p (hi p hp1 hpi) hp2
      · refine .inr ⟨e1, fun p hp1 hp2 => ?_⟩
        by_cases hpi : p = i
        · exact hpi ▸ hk
        · exact e2 p (hi p hp1 hpi) hp2

end MgProof.C10
