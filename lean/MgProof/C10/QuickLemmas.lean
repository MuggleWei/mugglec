import MgProof.C10.SortLemmas
/-! C10 — quick sort: median of three, the partition loop (sentinel argument), the recursion. -/
namespace MgProof.C10
open MgModel.C10

theorem condSwap_spec {a : Array Elem} {i j lo hi : Nat} (hi' : i < a.size) (hj : j < a.size)
    (h1 : lo ≤ i ∧ i < hi) (h2 : lo ≤ j ∧ j < hi) :
    ∃ a', condSwap a i j = .ok a' ∧ PermOn a' a lo hi ∧
      K a' i = min (K a i) (K a j) ∧ K a' j = max (K a i) (K a j) ∧
      (∀ p, p ≠ i → p ≠ j → K a' p = K a p) := by
  unfold condSwap
  simp only [rd_of_lt hi', rd_of_lt hj, cmp_pos, K_getElem hi', K_getElem hj]
  split
  next hc =>
    obtain ⟨a', e, p, ki, kj, ko⟩ := swp_spec hi' hj h1 h2
    exact ⟨a', e, p, by omega, by omega, ko⟩
  next hc => exact ⟨a, rfl, .refl _ _ _, by omega, by omega, fun _ _ _ => rfl⟩

/-- the three swaps order `left`, `center`, `right`; the median goes to `right - 1 = r` -/
theorem median3_spec {a : Array Elem} {left r : Nat} (h1 : left + 2 ≤ r) (h2 : r + 1 < a.size) :
    ∃ a' pivot, median3 a left (r + 1) = .ok (a', pivot) ∧ PermOn a' a left (r + 2) ∧
      K a' left ≤ pivot.1 ∧ K a' r = pivot.1 ∧ pivot.1 ≤ K a' (r + 1) := by
  unfold median3
  simp only [Nat.add_sub_cancel]
  generalize hc : (left + (r + 1)) / 2 = c
  have hc1 : left < c := by omega
  have hc2 : c < r := by omega
  clear hc
  -- the `min`/`max` facts are consumed at once: every later `omega` would split on them
  obtain ⟨a1, e1, p1, m1, x1, r1⟩ := condSwap_spec (a := a) (i := left) (j := c)
    (lo := left) (hi := r + 2) (by omega) (by omega) (by omega) (by omega)
  have s1 := p1.size_eq
  have o1 : K a1 left ≤ K a1 c := by omega
  clear m1 x1 r1
  obtain ⟨a2, e2, p2, m2, x2, r2⟩ := condSwap_spec (a := a1) (i := left) (j := r + 1)
    (lo := left) (hi := r + 2) (by omega) (by omega) (by omega) (by omega)
  have s2 := p2.size_eq
  have o2 : K a2 left ≤ K a2 c ∧ K a2 left ≤ K a2 (r + 1) := by
    have := r2 c (by omega) (by omega); omega
  clear m2 x2 r2 o1
  obtain ⟨a3, e3, p3, m3, x3, r3⟩ := condSwap_spec (a := a2) (i := c) (j := r + 1)
    (lo := left) (hi := r + 2) (by omega) (by omega) (by omega) (by omega)
  have s3 := p3.size_eq
  have o3 : K a3 left ≤ K a3 c ∧ K a3 c ≤ K a3 (r + 1) := by
    have := r3 left (by omega) (by omega); omega
  clear m3 x3 r3 o2
  obtain ⟨a4, e4, p4, kc, kr, ko⟩ := swp_spec (a := a3) (i := c) (j := r) (lo := left)
    (hi := r + 2) (by omega) (by omega) (by omega) (by omega)
  have hr4 : r < a4.size := by rw [p4.size_eq]; omega
  simp only [e1, e2, e3, e4, rd_of_lt hr4]
  refine ⟨_, _, rfl, p4.trans (p3.trans (p2.trans p1)), ?_, K_getElem hr4 ▸ rfl, ?_⟩
  · rw [K_getElem hr4, kr, ko left (by omega) (by omega)]; exact o3.1
  · rw [K_getElem hr4, kr, ko (r + 1) (by omega) (by omega)]; exact o3.2

/-- sentinel argument: a key `≥ pivot` at `j` stops the scan inside the range -/
theorem scanUp_spec {a : Array Elem} {pivot : Elem} {i j : Nat} (hij : i < j) (hj : j < a.size)
    (hs : pivot.1 ≤ K a j) :
    ∃ i', scanUp a pivot i = .ok i' ∧ i < i' ∧ i' ≤ j ∧ pivot.1 ≤ K a i' ∧
      ∀ p, i < p → p < i' → K a p < pivot.1 := by
  induction hn : j - i generalizing i with
  | zero => omega
  | succ n ih =>
    unfold scanUp
    have hlt : i + 1 < a.size := by omega
    simp only [hlt, dite_true, cmp_neg, K_getElem hlt]
    split
    next hc =>
      have hne : i + 1 ≠ j := by intro h; rw [h] at hc; omega
      obtain ⟨i', e1, e2, e3, e4, e5⟩ := ih (i := i + 1) (by omega) (by omega)
      refine ⟨i', e1, by omega, e3, e4, fun p hp1 hp2 => ?_⟩
      by_cases hp : p = i + 1
      · subst hp; exact hc
      · exact e5 p (by omega) hp2
    next hc => exact ⟨i + 1, rfl, by omega, by omega, by omega, fun p _ _ => by omega⟩

theorem scanDown_spec {a : Array Elem} {pivot : Elem} {i j : Nat} (hij : i < j) (hj : j ≤ a.size)
    (hs : K a i ≤ pivot.1) :
    ∃ j', scanDown a pivot j = .ok j' ∧ i ≤ j' ∧ j' < j ∧ K a j' ≤ pivot.1 ∧
      ∀ p, j' < p → p < j → pivot.1 < K a p := by
  induction j with
  | zero => omega
  | succ j ih =>
    unfold scanDown
    have hlt : j < a.size := by omega
    simp only [rd_of_lt hlt, cmp_pos, K_getElem hlt]
    split
    next hc =>
      have hne : i ≠ j := by intro h; rw [h] at hs; omega
      obtain ⟨j', e1, e2, e3, e4, e5⟩ := ih (by omega) (by omega)
      refine ⟨j', e1, e2, by omega, e4, fun p hp1 hp2 => ?_⟩
      by_cases hp : p = j
      · subst hp; exact hc
      · exact e5 p hp1 (by omega)
    next hc => exact ⟨j, rfl, by omega, by omega, by omega, fun p _ _ => by omega⟩

/-- `partLoop` matches with equation hypotheses, which `simp` cannot rewrite: unfold with this -/
theorem partLoop_unfold {a : Array Elem} {pivot : Elem} {i j i' j' : Nat}
    (hu : scanUp a pivot i = .ok i') (hd : scanDown a pivot j = .ok j') :
    partLoop a pivot i j =
      if i' < j' then
        match swp a i' j' with
        | .error e => .error e
        | .ok a' => partLoop a' pivot i' j'
      else .ok (a, i') := by
  conv => lhs; unfold partLoop
  split
  · rename_i h; rw [hu] at h; cases h
  · rename_i h; rw [hu] at h; injection h with h; subst h
    split
    · rename_i h2; rw [hd] at h2; cases h2
    · rename_i h2; rw [hd] at h2; injection h2 with h2; subst h2; rfl

/-- invariant: `[left, i]` ≤ pivot ≤ `[j, right]`; each scan is stopped by the other side -/
theorem partLoop_spec {pivot : Elem} {left right i j : Nat} {a : Array Elem} (hli : left ≤ i)
    (hij : i < j) (hjr : j < right) (hra : right < a.size)
    (hlo : ∀ p, left ≤ p → p ≤ i → K a p ≤ pivot.1)
    (hhi : ∀ p, j ≤ p → p ≤ right → pivot.1 ≤ K a p) :
    ∃ a' i', partLoop a pivot i j = .ok (a', i') ∧ PermOn a' a (i + 1) j ∧ i < i' ∧ i' ≤ j ∧
      (∀ p, left ≤ p → p < i' → K a' p ≤ pivot.1) ∧
      (∀ p, i' ≤ p → p ≤ right → pivot.1 ≤ K a' p) := by
  induction hn : j - i using Nat.strongRecOn generalizing i j a with
  | _ n ih =>
    obtain ⟨i', u1, u2, u3, u4, u5⟩ := scanUp_spec (a := a) hij (by omega)
      (hhi j (Nat.le_refl _) (by omega))
    obtain ⟨j', d1, d2, d3, d4, d5⟩ := scanDown_spec (a := a) hij (by omega)
      (hlo i hli (Nat.le_refl _))
    have lo' : ∀ p, left ≤ p → p < i' → K a p ≤ pivot.1 := fun p hp1 hp2 =>
      if h : p ≤ i then hlo p hp1 h else Int.le_of_lt (u5 p (by omega) hp2)
    have hi' : ∀ p, j' < p → p ≤ right → pivot.1 ≤ K a p := fun p hp1 hp2 =>
      if h : j ≤ p then hhi p h hp2 else Int.le_of_lt (d5 p hp1 (by omega))
    rw [partLoop_unfold u1 d1]
    split
    next hlt =>
      obtain ⟨a1, s1, s2, ki, kj, ko⟩ := swp_spec (a := a) (i := i') (j := j') (lo := i + 1)
        (hi := j) (by omega) (by omega) (by omega) (by omega)
      simp only [s1]
      obtain ⟨a', i'', e1, e2, e3, e4, e5, e6⟩ := ih (j' - i') (by omega) (i := i') (j := j')
        (a := a1) (by omega) hlt (by omega) (by rw [s2.size_eq]; exact hra)
        (fun p hp1 hp2 => by
          by_cases hpi : p = i'
          · rw [hpi, ki]; exact d4
          · rw [ko p hpi (by omega)]; exact lo' p hp1 (by omega))
        (fun p hp1 hp2 => by
          by_cases hpj : p = j'
          · rw [hpj, kj]; exact u4
          · rw [ko p (by omega) hpj]; exact hi' p (by omega) hp2)
        rfl
      exact ⟨a', i'', e1, (e2.mono (by omega) (by omega)).trans s2, by omega, by omega, e5, e6⟩
    next hlt =>
      refine ⟨a, i', rfl, .refl _ _ _, u2, u3, lo', fun p hp1 hp2 => ?_⟩
      by_cases hpi : p = i'
      · subst hpi; exact u4
      · exact hi' p (by omega) hp2

/-- the three calls `quickRec` makes before it recurses, taken together: a partition around the
key at `i`. `r` is the model's `right - 1`: the window is `[left, r + 2)`. -/
theorem partition_spec {a : Array Elem} {left r : Nat} (h1 : left + 2 ≤ r) (h2 : r + 1 < a.size) :
    ∃ a1 pivot a2 i a3, median3 a left (r + 1) = .ok (a1, pivot) ∧
      partLoop a1 pivot left r = .ok (a2, i) ∧ swp a2 i r = .ok a3 ∧ left < i ∧ i ≤ r ∧
      PermOn a3 a left (r + 2) ∧ (∀ p, left ≤ p → p < i → K a3 p ≤ K a3 i) ∧
      (∀ p, i < p → p < r + 2 → K a3 i ≤ K a3 p) := by
  obtain ⟨a1, pivot, e1, p1, m1, m2, m3⟩ := median3_spec (a := a) h1 h2
  have s1 := p1.size_eq
  obtain ⟨a2, i, e2, p2, i1, i2, lo2, hi2⟩ := partLoop_spec (pivot := pivot) (left := left)
    (right := r + 1) (i := left) (j := r) (a := a1) (Nat.le_refl _) (by omega)
    (Nat.lt_succ_self r) (by omega)
    (fun p hp1 hp2 => (show p = left by omega) ▸ m1)
    (fun p hp1 hp2 => by
      by_cases hp : p = r + 1
      · exact hp ▸ m3
      · exact (show p = r by omega) ▸ Int.le_of_eq m2.symm)
  have s2 := p2.size_eq
  obtain ⟨a3, e3, p3, ki, kr, ko⟩ := swp_spec (a := a2) (i := i) (j := r) (lo := left)
    (hi := r + 2) (by omega) (by omega) (by omega) (by omega)
  have kpiv : K a3 i = pivot.1 := by rw [ki, p2.K_eq (by omega)]; exact m2
  refine ⟨a1, pivot, a2, i, a3, e1, e2, e3, i1, i2,
    p3.trans ((p2.mono (by omega) (by omega)).trans p1), fun p h1 h2 => ?_, fun p h1 h2 => ?_⟩
  · rw [kpiv, ko p (by omega) (by omega)]
    exact lo2 p h1 h2
  · rw [kpiv]
    by_cases h : p = r
    · rw [h, kr]; exact hi2 i (Nat.le_refl _) (by omega)
    · rw [ko p (by omega) h]; exact hi2 p (by omega) (by omega)

theorem sortedOn_of_partition {a a1 a2 : Array Elem} {lo i hi : Nat} (hi' : i < hi)
    (hhi : hi ≤ a.size) (A : ∀ p, lo ≤ p → p < i → K a p ≤ K a i)
    (C : ∀ p, i < p → p < hi → K a i ≤ K a p)
    (p1 : PermOn a1 a lo i) (s1 : SortedOn a1 lo i)
    (p2 : PermOn a2 a1 (i + 1) hi) (s2 : SortedOn a2 (i + 1) hi) : SortedOn a2 lo hi := by
  have B2 : K a2 i = K a i := by rw [p2.K_eq (by omega), p1.K_eq (by omega)]
  refine sortedOn_join (i := i) (fun p q hp hpq hq => ?_) s2 (fun p hp hpi => ?_)
    (fun p hip hp => ?_)
  · rw [p2.K_eq (by omega), p2.K_eq (by omega)]; exact s1 p q hp hpq hq
  · rw [B2, p2.K_eq (by omega)]
    exact p1.forall_keys (· ≤ K a i) (fun p h1 h2 _ => A p h1 h2) p hp hpi
      (by rw [p1.size_eq]; omega)
  · rw [B2]
    refine p2.forall_keys (K a i ≤ ·) (fun p h1 h2 _ => ?_) p hip hp
      (by rw [p2.size_eq, p1.size_eq]; omega)
    rw [p1.K_eq (by omega)]; exact C p h1 h2

theorem quickRec_spec {left right : Nat} {a : Array Elem} (hle : left ≤ right)
    (hra : right < a.size) :
    ∃ a', quickRec a left right = .ok a' ∧ SortedOn a' left (right + 1) ∧
      PermOn a' a left (right + 1) := by
  induction hn : right - left using Nat.strongRecOn generalizing left right a with
  | _ n ih =>
    unfold quickRec
    split
    next h10 =>
      obtain ⟨r, rfl⟩ : ∃ r, right = r + 1 := ⟨right - 1, by omega⟩
      obtain ⟨a1, pivot, a2, i, a3, e1, e2, e3, i1, i2, p3, lo3, hi3⟩ :=
        partition_spec (a := a) (left := left) (r := r) (by omega) hra
      obtain ⟨i, rfl⟩ : ∃ i0, i = i0 + 1 := ⟨i - 1, by omega⟩
      simp only [Nat.add_sub_cancel, e1, e2, e3, show left < i + 1 ∧ i + 1 < r + 1 by omega,
        and_self, if_true]
      obtain ⟨a4, f1, f2, f3⟩ := ih (i - left) (by omega) (left := left) (right := i) (a := a3)
        (by omega) (by rw [p3.size_eq]; omega) rfl
      obtain ⟨a5, g1, g2, g3⟩ := ih (r + 1 - (i + 2)) (by omega) (left := i + 2) (right := r + 1)
        (a := a4) (by omega) (by rw [f3.size_eq, p3.size_eq]; omega) rfl
      simp only [f1, g1]
      exact ⟨a5, rfl,
        sortedOn_of_partition (a := a3) (by omega) (by rw [p3.size_eq]; omega) lo3 hi3 f3 f2 g3 g2,
        (g3.mono (by omega) (Nat.le_refl _)).trans ((f3.mono (Nat.le_refl _) (by omega)).trans p3)⟩
    next h10 =>
      obtain ⟨a', e1, e2, e3⟩ := insertionSortAt_spec (a := a) (base := left)
        (count := right + 1 - left) (by omega)
      rw [show left + (right + 1 - left) = right + 1 by omega] at e2 e3
      exact ⟨a', e1, e2, e3⟩

theorem quickRec_empty_oob (right : Nat) (h : 10 ≤ right) :
    quickRec #[] 0 right = .error .oob := by
  unfold quickRec
  simp only [show 0 + 10 ≤ right by omega, if_true]
  unfold median3 condSwap rd
  simp

/-- **defect of the unpatched code**: `count - 1` wraps for the empty array and the median of
three reads `ptr[0]` -/
theorem quickSortOrig_empty_fails : quickSortOrig #[] = .error .oob := by
  unfold quickSortOrig
  exact quickRec_empty_oob _ (by rw [Array.size_empty, wrapSub1_zero]; unfold sizeMod; omega)

theorem quickSortOrig_eq_quickSort {a : Array Elem} (h : 2 ≤ a.size)
    (h64 : a.size < sizeMod) : quickSortOrig a = quickSort a := by
  unfold quickSortOrig quickSort
  rw [wrapSub1_of_pos (by omega) h64]
  simp [show ¬ a.size < 2 by omega]

end MgProof.C10
