import MgModel.C10.Spec
/-! C10 — shared: the comparison callback, checked reads and writes, keys by index, `PermOn`. -/
namespace MgProof.C10
open MgModel.C10

theorem cmp_cases (a b : Elem) :
    (a.1 < b.1 ∧ cmp a b = -1) ∨ (a.1 = b.1 ∧ cmp a b = 0) ∨ (b.1 < a.1 ∧ cmp a b = 1) := by
  unfold cmp; split <;> (try split) <;> omega

@[simp] theorem cmp_pos {a b : Elem} : 0 < cmp a b ↔ b.1 < a.1 := by
  have := cmp_cases a b; omega
@[simp] theorem cmp_neg {a b : Elem} : cmp a b < 0 ↔ a.1 < b.1 := by
  have := cmp_cases a b; omega
@[simp] theorem cmp_nonpos {a b : Elem} : cmp a b ≤ 0 ↔ a.1 ≤ b.1 := by
  have := cmp_cases a b; omega
@[simp] theorem cmp_nonneg {a b : Elem} : 0 ≤ cmp a b ↔ b.1 ≤ a.1 := by
  have := cmp_cases a b; omega
@[simp] theorem cmp_eq_zero {a b : Elem} : cmp a b = 0 ↔ a.1 = b.1 := by
  have := cmp_cases a b; omega

theorem rd_eq_ok {a : Array Elem} {i : Nat} {v : Elem} : rd a i = .ok v ↔ a[i]? = some v := by
  unfold rd; split <;> simp_all

theorem rd_of_lt {a : Array Elem} {i : Nat} (h : i < a.size) : rd a i = .ok a[i] := by
  simp [rd_eq_ok, h]

theorem rd_eq_error {a : Array Elem} {i : Nat} {e : Err} : rd a i = .error e → a.size ≤ i := by
  unfold rd; split <;> simp_all

theorem wr_eq_ok {a a' : Array Elem} {i : Nat} {v : Elem} :
    wr a i v = .ok a' ↔ i < a.size ∧ a' = a.setIfInBounds i v := by
  unfold wr
  split
  · simp_all [eq_comm]
  · simp; omega

theorem wr_of_lt {a : Array Elem} {i : Nat} {v : Elem} (h : i < a.size) :
    wr a i v = .ok (a.setIfInBounds i v) := by
  simp [wr, h]

theorem size_of_wr {a a' : Array Elem} {i : Nat} {v : Elem} (h : wr a i v = .ok a') :
    a'.size = a.size := by
  obtain ⟨_, rfl⟩ := wr_eq_ok.mp h
  simp

/-- key at index `i`; `0` outside the array (never relied upon) -/
def K (a : Array Elem) (i : Nat) : Int := (a.getD i (0, 0)).1

theorem K_set {a : Array Elem} {i : Nat} {v : Elem} (h : i < a.size) (p : Nat) :
    K (a.setIfInBounds i v) p = if p = i then v.1 else K a p := by
  unfold K
  by_cases hp : p = i
  · subst hp; simp [h]
  · simp [hp, Array.getD_eq_getD_getElem?, Ne.symm hp]

theorem K_getElem {a : Array Elem} {i : Nat} (h : i < a.size) : a[i].1 = K a i := by
  simp [K, h]

theorem K_move {a : Array Elem} {h k : Nat} {x : Elem} (hh : h < a.size) (hk : k < a.size)
    (p : Nat) :
    K ((a.setIfInBounds h a[k]).setIfInBounds k x) p =
      if p = k then x.1 else if p = h then K a k else K a p := by
  rw [K_set (by simpa using hk), K_set hh, K_getElem hk]

theorem K_of_getElem? {a : Array Elem} {i : Nat} {x : Elem} (h : a[i]? = some x) : K a i = x.1 := by
  simp [K, Array.getD_eq_getD_getElem?, h]

theorem K_push {a : Array Elem} {x : Elem} (p : Nat) :
    K (a.push x) p = if p = a.size then x.1 else K a p := by
  unfold K
  simp only [Array.getD_eq_getD_getElem?, Array.getElem?_push]
  by_cases hp : p = a.size <;> simp [hp]

theorem K_pop {a : Array Elem} {p : Nat} (h : p + 1 < a.size) : K a.pop p = K a p := by
  unfold K
  simp only [Array.getD_eq_getD_getElem?, Array.getElem?_pop]
  simp [show p < a.size - 1 by omega]

def SortedOn (a : Array Elem) (lo hi : Nat) : Prop :=
  ∀ p q, lo ≤ p → p < q → q < hi → K a p ≤ K a q

/-- executable: `isSorted` (`isSorted_iff`) -/
def Sorted (l : List Elem) : Prop := l.Pairwise (fun x y => x.1 ≤ y.1)

theorem isSorted_iff (l : List Elem) : isSorted l = true ↔ Sorted l := by
  unfold Sorted
  induction l with
  | nil => simp [isSorted]
  | cons x l ih =>
    cases l with
    | nil => simp [isSorted]
    | cons y l =>
      simp only [isSorted, Bool.and_eq_true, decide_eq_true_eq, ih]
      constructor
      · rintro ⟨h1, h2⟩
        refine List.Pairwise.cons ?_ h2
        intro z hz
        rcases List.mem_cons.mp hz with rfl | hz
        · exact h1
        · exact Int.le_trans h1 (List.rel_of_pairwise_cons h2 hz)
      · intro h
        exact ⟨List.rel_of_pairwise_cons h List.mem_cons_self, h.tail⟩

theorem sorted_of_length_le_one {l : List Elem} (h : l.length ≤ 1) : Sorted l := by
  match l, h with
  | [], _ => exact .nil
  | [x], _ => exact List.pairwise_singleton _ _

theorem sorted_iff_sortedOn {a : Array Elem} : Sorted a.toList ↔ SortedOn a 0 a.size := by
  unfold Sorted SortedOn
  rw [List.pairwise_iff_getElem]
  simp only [Array.length_toList, Array.getElem_toList]
  constructor
  · intro h p q _ hpq hq
    rw [← K_getElem (show p < a.size by omega), ← K_getElem hq]
    exact h p q (by omega) hq hpq
  · intro h i j hi hj hij
    rw [K_getElem hi, K_getElem hj]
    exact h i j (Nat.zero_le _) hij hj

theorem sortedOn_of_sorted {a : Array Elem} (h : Sorted a.toList) : SortedOn a 0 a.size :=
  sorted_iff_sortedOn.mp h

theorem sortedOn_mono {a : Array Elem} {lo hi lo' hi' : Nat} (h : SortedOn a lo hi)
    (h1 : lo ≤ lo') (h2 : hi' ≤ hi) : SortedOn a lo' hi' :=
  fun p q a1 a2 a3 => h p q (by omega) a2 (by omega)

theorem sortedOn_join {a : Array Elem} {lo i hi : Nat} (h1 : SortedOn a lo i)
    (h2 : SortedOn a (i + 1) hi) (hl : ∀ p, lo ≤ p → p < i → K a p ≤ K a i)
    (hr : ∀ p, i < p → p < hi → K a i ≤ K a p) : SortedOn a lo hi := by
  intro p q hp hpq hq
  rcases Nat.lt_trichotomy q i with hqi | rfl | hqi
  · exact h1 p q hp hpq hqi
  · exact hl p hp hpq
  · rcases Nat.lt_trichotomy p i with hpi | rfl | hpi
    · exact Int.le_trans (hl p hp hpi) (hr q hqi hq)
    · exact hr q hqi hq
    · exact h2 p q hpi hpq hq

structure PermOn (a' a : Array Elem) (lo hi : Nat) : Prop where
  perm : a'.Perm a
  frame : ∀ p, p < lo ∨ hi ≤ p → a'[p]? = a[p]?

namespace PermOn
variable {a a' a'' : Array Elem} {lo hi lo' hi' : Nat}

theorem refl (a : Array Elem) (lo hi : Nat) : PermOn a a lo hi := ⟨.rfl, fun _ _ => rfl⟩

theorem trans (h1 : PermOn a'' a' lo hi) (h2 : PermOn a' a lo hi) : PermOn a'' a lo hi :=
  ⟨h1.perm.trans h2.perm, fun p hp => (h1.frame p hp).trans (h2.frame p hp)⟩

theorem mono (h : PermOn a' a lo hi) (h1 : lo' ≤ lo) (h2 : hi ≤ hi') : PermOn a' a lo' hi' :=
  ⟨h.perm, fun p hp => h.frame p (by omega)⟩

theorem size_eq (h : PermOn a' a lo hi) : a'.size = a.size := h.perm.size_eq

theorem K_eq (h : PermOn a' a lo hi) {p : Nat} (hp : p < lo ∨ hi ≤ p) : K a' p = K a p := by
  simp only [K, Array.getD_eq_getD_getElem?, h.frame p hp]

theorem forall_keys (h : PermOn a' a lo hi) (P : Int → Prop)
    (hP : ∀ p, lo ≤ p → p < hi → p < a.size → P (K a p)) :
    ∀ p, lo ≤ p → p < hi → p < a'.size → P (K a' p) := by
  intro p h1 h2 h3
  have hext := Array.Perm.extract h.perm (lo := lo) (hi := hi)
    (fun i hi' => h.frame i (Or.inl hi')) (fun i hi' => h.frame i (Or.inr hi'))
  have hm : a'[p] ∈ a'.extract lo hi := by
    rw [Array.mem_iff_getElem]
    refine ⟨p - lo, by simp; omega, ?_⟩
    simp only [Array.getElem_extract]
    congr 1
    omega
  obtain ⟨k, hk, he⟩ := Array.mem_iff_getElem.mp (hext.mem_iff.mp hm)
  simp only [Array.size_extract] at hk
  simp only [Array.getElem_extract] at he
  have := hP (lo + k) (by omega) (by omega) (by omega)
  rwa [← K_getElem (by omega), he, K_getElem h3] at this

end PermOn

/-! Loops that hold one element in a local while shifting others (`tmp`, `*last_node`, the
inserted node) are described on the *virtual* array `a.setIfInBounds h x` (the held `x` put
into the hole `h`): moving `a[k]` into the hole is a swap of `h` and `k` there.

Where an order invariant has to be shown again after a move, the proofs take its instances that
matter, `clear` it (left in the context it is instantiated at every index in sight), rewrite the
keys (`K_move`, `K_set`) and leave the split on "is this index the hole" to `grind`. -/

theorem set_self_eq {a : Array Elem} {i : Nat} (h : i < a.size) : a.setIfInBounds i a[i] = a := by
  rw [Array.setIfInBounds_def, dif_pos h, Array.set_getElem_self]

theorem hole_permOn {a : Array Elem} {h k lo hi : Nat} (x : Elem) (hh : h < a.size)
    (hk : k < a.size) (h1 : lo ≤ h ∧ h < hi) (h2 : lo ≤ k ∧ k < hi) :
    PermOn ((a.setIfInBounds h a[k]).setIfInBounds k x) (a.setIfInBounds h x) lo hi := by
  refine ⟨?_, fun p hp => ?_⟩
  · have : ((a.setIfInBounds h a[k]).setIfInBounds k x) =
        ((a.setIfInBounds h x).swap h k (by simp; omega) (by simp; omega)) := by
      apply Array.ext_getElem?
      intro i
      simp only [Array.getElem?_swap, Array.getElem?_setIfInBounds, Array.size_setIfInBounds]
      grind
    rw [this]
    exact Array.swap_perm _ _
  · rw [Array.getElem?_setIfInBounds_ne (by omega), Array.getElem?_setIfInBounds_ne (by omega),
      Array.getElem?_setIfInBounds_ne (by omega)]

theorem swp_eq_ok {a : Array Elem} {i j : Nat} (hi : i < a.size) (hj : j < a.size) :
    swp a i j = .ok ((a.setIfInBounds i a[j]).setIfInBounds j a[i]) := by
  simp only [swp, rd_of_lt hi, rd_of_lt hj, bind, Except.bind, wr_of_lt hi]
  rw [wr_of_lt (by simpa using hj)]

theorem swp_permOn {a : Array Elem} {i j lo hi : Nat} (hi' : i < a.size) (hj : j < a.size)
    (h1 : lo ≤ i ∧ i < hi) (h2 : lo ≤ j ∧ j < hi) :
    PermOn ((a.setIfInBounds i a[j]).setIfInBounds j a[i]) a lo hi := by
  have := hole_permOn a[i] hi' hj h1 h2
  rwa [set_self_eq hi'] at this

theorem swp_spec {a : Array Elem} {i j lo hi : Nat} (hi' : i < a.size) (hj : j < a.size)
    (h1 : lo ≤ i ∧ i < hi) (h2 : lo ≤ j ∧ j < hi) :
    ∃ a', swp a i j = .ok a' ∧ PermOn a' a lo hi ∧ K a' i = K a j ∧ K a' j = K a i ∧
      ∀ p, p ≠ i → p ≠ j → K a' p = K a p := by
  refine ⟨_, swp_eq_ok hi' hj, swp_permOn hi' hj h1 h2, ?_, ?_, fun p hp1 hp2 => ?_⟩
  · rw [K_move hi' hj, K_getElem hi', if_pos rfl]
    by_cases h : i = j
    · rw [if_pos h, h]
    · rw [if_neg h]
  · rw [K_move hi' hj, if_pos rfl, K_getElem hi']
  · rw [K_move hi' hj, if_neg hp2, if_neg hp1]

theorem wrapSub1_of_pos {n : Nat} (h1 : 1 ≤ n) (h2 : n < sizeMod) : wrapSub1 n = n - 1 := by
  unfold wrapSub1
  rw [show n + sizeMod - 1 = (n - 1) + sizeMod by omega, Nat.add_mod_right,
    Nat.mod_eq_of_lt (by omega)]

theorem wrapSub1_zero : wrapSub1 0 = sizeMod - 1 := by
  unfold wrapSub1
  have : 0 < sizeMod := by unfold sizeMod; omega
  rw [Nat.zero_add, Nat.mod_eq_of_lt (by omega)]

end MgProof.C10
