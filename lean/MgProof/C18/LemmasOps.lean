import MgProof.C18.Lemmas
/-!
# C18 — the contract of an operation from an arbitrary well-formed state; memory pool and arrays

`OpContract`: the call never reaches `Err`; the new state is well-formed; the heap changed by
exactly the change of what the object owns (so nothing acquired by the call is unaccounted
for); the schedule position and the fault count do not go back; success is only reported when no
acquisition of the call failed.  `OpContractS`: moreover a failed call leaves the object as it
was — for `muggle_trie_insert` only the weak one holds (the prefix nodes created before the failing
allocation stay in the trie).

The growing step of the two `*_ensure_*` functions is an `InitContract` from the old state to the new
(`mpoolEnsure_grows`, `arrEnsure_grows`); `InitContract.toOpS` reads the strong contract off it.
-/
namespace MgProof.C18
open MgModel.C18

structure OpResult {σ : Type} (wf : σ → Prop) (ownM ownF : σ → Int) (s : σ) (h : Heap)
    (s' : σ) (ok : Bool) (h' : Heap) : Prop where
  wf' : wf s'
  mem : h'.mem - ownM s' = h.mem - ownM s
  fds : h'.fds - ownF s' = h.fds - ownF s
  nacq : h.nacq ≤ h'.nacq
  inj : h.inj ≤ h'.inj
  okClean : ok = true → h'.inj = h.inj

def OpContract {σ : Type} (wf : σ → Prop) (ownM ownF : σ → Int) (s : σ) (h : Heap)
    (r : Except Err (σ × Bool × Heap)) : Prop :=
  ∃ s' ok h', r = .ok (s', ok, h') ∧ OpResult wf ownM ownF s h s' ok h'

def OpContractS {σ : Type} (wf : σ → Prop) (ownM ownF : σ → Int) (s : σ) (h : Heap)
    (r : Except Err (σ × Bool × Heap)) : Prop :=
  ∃ s' ok h', r = .ok (s', ok, h') ∧ OpResult wf ownM ownF s h s' ok h' ∧ (ok = false → s' = s)

section
variable {σ : Type} {wf : σ → Prop} {ownM ownF : σ → Int} {s s' : σ} {h h' : Heap} {ok : Bool}

theorem opResult_iff : OpResult wf ownM ownF s h s' ok h' ↔
    wf s' ∧ h'.mem - ownM s' = h.mem - ownM s ∧ h'.fds - ownF s' = h.fds - ownF s ∧
      h.nacq ≤ h'.nacq ∧ h.inj ≤ h'.inj ∧ (ok = true → h'.inj = h.inj) :=
  ⟨fun ⟨a, b, c, d, e, g⟩ => ⟨a, b, c, d, e, g⟩, fun ⟨a, b, c, d, e, g⟩ => ⟨a, b, c, d, e, g⟩⟩

theorem opContract_ok : OpContract wf ownM ownF s h (.ok (s', ok, h')) ↔
    OpResult wf ownM ownF s h s' ok h' :=
  ⟨fun ⟨_, _, _, hr, hres⟩ => by cases hr; exact hres, fun hres => ⟨_, _, _, rfl, hres⟩⟩

theorem opContractS_ok : OpContractS wf ownM ownF s h (.ok (s', ok, h')) ↔
    OpResult wf ownM ownF s h s' ok h' ∧ (ok = false → s' = s) :=
  ⟨fun ⟨_, _, _, hr, hres⟩ => by cases hr; exact hres, fun hres => ⟨_, _, _, rfl, hres⟩⟩

variable {wf' : σ → Prop} {s1 s2 : σ} {h1 h2 : Heap} {r : Except Err (σ × Bool × Heap)}

theorem OpResult.refl (ok : Bool) (hw : wf s) : OpResult wf ownM ownF s h s ok h :=
  ⟨hw, rfl, rfl, Nat.le_refl _, Nat.le_refl _, fun _ => rfl⟩

theorem OpResult.trans (r1 : OpResult wf' ownM ownF s h s1 true h1)
    (r2 : OpResult wf ownM ownF s1 h1 s2 ok h2) : OpResult wf ownM ownF s h s2 ok h2 :=
  ⟨r2.wf', r2.mem.trans r1.mem, r2.fds.trans r1.fds, Nat.le_trans r1.nacq r2.nacq,
    Nat.le_trans r1.inj r2.inj, fun hok => (r2.okClean hok).trans (r1.okClean rfl)⟩

theorem OpResult.mono (hw : ∀ s, wf s → wf' s) (r : OpResult wf ownM ownF s h s1 ok h1) :
    OpResult wf' ownM ownF s h s1 ok h1 :=
  ⟨hw _ r.wf', r.mem, r.fds, r.nacq, r.inj, r.okClean⟩

/-- the start state enters only through what it owns -/
theorem OpResult.of_own_eq (r : OpResult wf ownM ownF s1 h s2 ok h2) (hm : ownM s = ownM s1)
    (hf : ownF s = ownF s1) : OpResult wf ownM ownF s h s2 ok h2 :=
  ⟨r.wf', hm ▸ r.mem, hf ▸ r.fds, r.nacq, r.inj, r.okClean⟩

/-- a call that may report success may report failure -/
theorem OpResult.of_true (r : OpResult wf ownM ownF s h s1 true h1) : OpResult wf ownM ownF s h s1 ok h1 :=
  ⟨r.wf', r.mem, r.fds, r.nacq, r.inj, fun _ => r.okClean rfl⟩

theorem OpContract.mono (hw : ∀ s, wf s → wf' s) (c : OpContract wf ownM ownF s h r) :
    OpContract wf' ownM ownF s h r := by
  obtain ⟨s', ok, h', hr, hres⟩ := c
  exact ⟨s', ok, h', hr, hres.mono hw⟩

theorem OpContractS.mono (hw : ∀ s, wf s → wf' s) (c : OpContractS wf ownM ownF s h r) :
    OpContractS wf' ownM ownF s h r := by
  obtain ⟨s', ok, h', hr, hres, hs⟩ := c
  exact ⟨s', ok, h', hr, hres.mono hw, hs⟩

theorem OpContractS.weak (c : OpContractS wf ownM ownF s h r) : OpContract wf ownM ownF s h r := by
  obtain ⟨s', ok, h', hr, hres, _⟩ := c
  exact ⟨s', ok, h', hr, hres⟩

end

/-- a failed call under the strong contract leaves the heap's live counts unchanged -/
theorem OpContractS.fail_heap {σ : Type} {wf : σ → Prop} {ownM ownF : σ → Int} {s : σ} {h : Heap}
    {r : Except Err (σ × Bool × Heap)} (c : OpContractS wf ownM ownF s h r) :
    ∀ s' h', r = .ok (s', false, h') → s' = s ∧ h'.mem = h.mem ∧ h'.fds = h.fds := by
  rintro s' h' rfl
  obtain ⟨hres, hs⟩ := opContractS_ok.mp c
  cases hs rfl
  exact ⟨rfl, by have := hres.mem; omega, by have := hres.fds; omega⟩

/-- `InitContract s1 s m fd n` read as a transaction from `s` to `s1` (all `n` acquisitions or none,
nothing kept on failure) -/
theorem InitContract.toOpS {σ : Type} {wf : σ → Prop} {ownM ownF : σ → Int} {s s1 : σ} {m fd : Int}
    {n : Nat} {f : Sched} {h : Heap} {r : Except Err (σ × Bool × Heap)}
    (c : InitContract s1 s m fd n f h r) (hw : wf s) (hw1 : wf s1)
    (hm : ownM s1 = ownM s + m) (hf : ownF s1 = ownF s + fd) : OpContractS wf ownM ownF s h r := by
  obtain ⟨o, ok, h', hr, _, hok, hfail⟩ := c.total
  refine ⟨o, ok, h', hr, ?_⟩
  cases ok with
  | false =>
    obtain ⟨rfl, hm', hf', hi, hk, _⟩ := hfail rfl
    exact ⟨⟨hw, by rw [hm'], by rw [hf'], Nat.le_of_lt hk, Nat.le_of_lt hi, nofun⟩, fun _ => rfl⟩
  | true =>
    obtain ⟨rfl, rfl⟩ := hok rfl
    exact ⟨⟨hw1, by simp only [Grow, hm]; omega, by simp only [Grow, hf]; omega, Nat.le_add_right _ _,
      Nat.le_refl _, fun _ => rfl⟩, nofun⟩

def zeroFd {σ : Type} : σ → Int := fun _ => 0

def _root_.MgModel.C18.MPool.wf (p : MPool) : Prop := p.bufs = .own ∧ p.ptrs = .own

-- with these `simp` turns a contract on an evaluated result `.ok (s', ok, h')` into arithmetic on the fields
attribute [local simp] MPool.wf MPool.owned zeroFd Arr.owned opContractS_ok opResult_iff

theorem mpoolBuilt_wf (cap bs : Nat) : (mpoolBuilt cap bs).wf := by simp [mpoolBuilt]

theorem mpoolBuilt_owned (cap bs : Nat) : (mpoolBuilt cap bs).owned = 3 := by simp [mpoolBuilt]

/-- `muggle_memory_pool_ensure_space` of a growable pool beyond its capacity: three acquisitions (new
buffer table, data buffer, pointer buffer), the two old arrays released at the end: one block more -/
theorem mpoolEnsure_grows (f : Sched) (p : MPool) (c : Nat) (h : Heap) (hp : p.wf) (h1 : ¬ c ≤ p.cap)
    (h2 : p.flag % 2 = 0) :
    InitContract { p with bufs := .own, ptrs := .own, nbuf := p.nbuf + 1, cap := c } p 1 0 3 f h
      (mpoolEnsure f p c h) := by
  obtain ⟨hb, hq⟩ := hp
  have h2' : ¬ p.flag % 2 = 1 := by omega
  refine .of_tail (.step (fun f0 => ?_) fun f0 => .step (fun f1 => ?_) fun f1 =>
    .step (fun f2 => ?_) fun f2 => .done ?_)
  all_goals simp [mpoolEnsure, *] <;> omega

theorem muggle_memory_pool_ensure_space_c18 (f : Sched) (p : MPool) (c : Nat) (h : Heap) (hp : p.wf) :
    OpContractS MPool.wf MPool.owned zeroFd p h (mpoolEnsure f p c h) := by
  by_cases h1 : c ≤ p.cap
  · simpa [mpoolEnsure, h1] using hp
  by_cases h2 : p.flag % 2 = 1
  · simpa [mpoolEnsure, h1, h2] using hp
  · exact (mpoolEnsure_grows f p c h hp h1 (by omega)).toOpS hp ⟨rfl, rfl⟩ (by simp [hp.1, hp.2]; omega) rfl

theorem muggle_memory_pool_alloc_c18 (f : Sched) (p : MPool) (h : Heap) (hp : p.wf) :
    OpContractS MPool.wf MPool.owned zeroFd p h (mpoolAlloc f p h) := by
  unfold mpoolAlloc
  split
  · obtain ⟨p', ok, h', hr, hres, hs⟩ := muggle_memory_pool_ensure_space_c18 f p
      (p.cap + if p.maxDelta > 0 ∧ p.cap > p.maxDelta then p.maxDelta else p.cap) h hp
    dsimp only
    rw [hr]
    cases ok with
    | false => exact opContractS_ok.mpr ⟨hres, hs⟩
    | true => simpa [hres.wf'.2] using hres
  · simpa [hp.2] using hp

theorem mpoolFree_ok (p : MPool) (h : Heap) (hp : p.wf) :
    mpoolFree p h = .ok ({ p with used := p.used - 1 }, h) := by
  simp [mpoolFree, hp.2]

/-- `muggle_memory_pool_destroy` walks the buffer table only when there are buffers -/
theorem mpoolDestroy_safe (p : MPool) (hs : p.safe = true) (hb : p.nbuf > 0 → p.bufs = .own) (h : Heap) :
    mpoolDestroy p h = .ok ({}, h.release p.owned 0) := by
  simp only [MPool.safe, Bool.and_eq_true, Cell.safe_iff] at hs
  by_cases hn : p.nbuf > 0
  · simp [mpoolDestroy, hn, hb hn, free_safe, -free, hs.2]
    omega
  · simp [mpoolDestroy, hn, free_safe, -free, hs.1, hs.2]
    omega

theorem mpoolDestroy_wf (p : MPool) (h : Heap) (hp : p.wf) :
    mpoolDestroy p h = .ok ({}, h.release p.owned 0) :=
  mpoolDestroy_safe p (by simp [MPool.safe, Cell.safe, hp.1, hp.2]) (fun _ => hp.1) h

theorem mpoolDestroy_empty (h : Heap) : mpoolDestroy {} h = .ok ({}, h) := by
  simpa [Heap.release_zero] using mpoolDestroy_safe {} rfl nofun h

def _root_.MgModel.C18.Arr.wf (a : Arr) : Prop := a.p = .own

attribute [local simp] Arr.wf

/-- `muggle_array_list_init`, `muggle_heap_init`, `muggle_stack_init` -/
theorem array_container_init_c18 (f : Sched) (cap : Nat)
    (hc : dsCapValid (if cap = 0 then 8 else cap) = true) (h : Heap) :
    InitContract ({ p := .own, cap := if cap = 0 then 8 else cap, size := 0 } : Arr) {} 1 0 1 f h
      (arrInit f cap h) := by
  refine .of_tail (.step (fun h0 => ?_) fun h0 => .done ?_)
  all_goals simp [arrInit, *]

theorem arrInit_invalid (f : Sched) (cap : Nat) (hc : dsCapValid (if cap = 0 then 8 else cap) = false)
    (h : Heap) : arrInit f cap h = .ok ({}, false, h) := by
  simp [arrInit, hc]

/-- `*_ensure_capacity` beyond the capacity: the new array, the old one released -/
theorem arrEnsure_grows (f : Sched) (a : Arr) (c : Nat) (h : Heap) (ha : a.wf) (h1 : ¬ a.cap ≥ c)
    (hv : dsCapValid c = true) :
    InitContract { a with p := .own, cap := c } a 0 0 1 f h (arrEnsure f a c h) := by
  have hw : a.p = .own := ha
  refine .of_tail (.step (fun f0 => ?_) fun f0 => .done ?_)
  all_goals by_cases h3 : a.size > 0 <;> simp [arrEnsure, *]

/-- `muggle_array_list_ensure_capacity`, `muggle_heap_ensure_capacity`, `muggle_stack_ensure_capacity` -/
theorem array_container_ensure_c18 (f : Sched) (a : Arr) (c : Nat) (h : Heap) (ha : a.wf) :
    OpContractS Arr.wf Arr.owned zeroFd a h (arrEnsure f a c h) := by
  by_cases h1 : a.cap ≥ c
  · simpa [arrEnsure, h1] using ha
  by_cases hv : dsCapValid c = true
  · exact (arrEnsure_grows f a c h ha h1 hv).toOpS ha rfl (by simp [show a.p = .own from ha]) rfl
  · simpa [arrEnsure, h1, hv] using ha

/-- `muggle_array_list_insert / append`, `muggle_heap_insert`, `muggle_stack_push` -/
theorem array_container_insert_c18 (f : Sched) (a : Arr) (h : Heap) (ha : a.wf) :
    OpContractS Arr.wf Arr.owned zeroFd a h (arrPush f a h) := by
  have hw : a.p = .own := ha
  unfold arrPush
  split
  · obtain ⟨a', ok, h', hr, hres, hs⟩ := array_container_ensure_c18 f a (a.cap * 2) h ha
    rw [hr]
    have hw' : a'.p = .own := hres.wf'
    cases ok with
    | false => exact opContractS_ok.mpr ⟨hres, hs⟩
    | true => simpa [hw'] using hres
  · simp [hw]

theorem arrPop_contract (a : Arr) (h : Heap) (ha : a.wf) :
    OpContractS Arr.wf Arr.owned zeroFd a h (arrPop a h) := by
  have hw : a.p = .own := ha
  unfold arrPop
  split <;> simp [*]

theorem arrDestroy_safe (nulls : Bool) (a : Arr) (hs : a.safe = true) (h : Heap) :
    arrDestroy nulls a h =
      .ok ({ a with p := if nulls then .null else a.p.released, size := 0 }, h.release a.owned 0) := by
  simp only [arrDestroy, free_safe (Cell.safe_iff.mp hs)]
  rfl

theorem arrDestroy_wf (nulls : Bool) (a : Arr) (h : Heap) (ha : a.wf) :
    arrDestroy nulls a h =
      .ok ({ a with p := if nulls then .null else a.p.released, size := 0 }, h.release a.owned 0) :=
  arrDestroy_safe nulls a (by simp [Arr.safe, Cell.safe, show a.p = .own from ha]) h

theorem arrDestroy_empty (nulls : Bool) (h : Heap) : arrDestroy nulls {} h = .ok ({}, h) := by
  cases nulls <;> simpa [Heap.release_zero, Cell.released] using arrDestroy_safe _ {} rfl h

end MgProof.C18
