import MgProof.C18.LemmasSeq
import MgProof.C18.LemmasEv
/-!
# C18 — the object families of the library and their life cycles

Each `lifecycle_*` is `LifeCycleOK` (`LemmasSeq.lean`) for one family, from the contracts of the
family's functions.
-/
namespace MgProof.C18
open MgModel.C18

-- a contract on an evaluated result `.ok (s', ok, h')` becomes arithmetic on the fields
attribute [local simp] zeroFd opContract_ok opResult_iff

/-- `ι` = (valid capacity, mutex writer, mutex reader) -/
def chanFam : Family Chan (Bool × Bool × Bool) Empty where
  init f i h := chanInit f i.1 i.2.1 i.2.2 h
  op _ _ k _ := nomatch k
  destroy := chanDestroy
  ownM := Chan.owned
  ownF := zeroFd
  wf c := ∃ w r, c = chanBuilt w r
  dead c := c = {}

theorem lifecycle_channel : LifeCycleOK chanFam := lifeCycleOK_of_laws (empty := {}) {
  init := fun f ⟨v, w, r⟩ h => by
    cases v
    · exact .inl (chanInit_invalid f w r h)
    · exact .inr ⟨_, _, _, _, ⟨w, r, rfl⟩, chanBuilt_owned w r, rfl, muggle_channel_init_c18 f w r h⟩
  op := fun _ _ k => nomatch k
  destroy := fun s h ⟨w, r, hs⟩ => by
    subst hs
    exact ⟨_, chanDestroy_safe _ (chanBuilt_safe w r) h⟩
  destroy_empty := fun h => ⟨_, chanDestroy_empty h⟩ }

/-- `ι` = parameters valid; `nulls` = whether `destroy` resets the pointer -/
def oneFam (nulls : Bool) : Family One Bool Empty where
  init f v h := oneInit f v h
  op _ _ k _ := nomatch k
  destroy := oneDestroy nulls
  ownM := One.owned
  ownF := zeroFd
  wf o := o = { p := .own }
  dead o := o = {}

/-- ring buffer, array blocking queue, ring memory pool (destroy leaves the pointer) and sowr
memory pool, bytes buffer, flow controller (destroy resets it) -/
theorem lifecycle_single_array (nulls : Bool) : LifeCycleOK (oneFam nulls) :=
  lifeCycleOK_of_built (F := oneFam nulls) { p := .own } {}
    (fun f v h => by
      cases v
      · exact .inl (oneInit_invalid f h)
      · exact .inr ⟨_, single_array_init_c18 f h⟩)
    (fun h => ⟨_, oneDestroy_safe nulls _ rfl h⟩) fun h => ⟨_, oneDestroy_empty nulls h⟩

def dbufFam : Family DBuf Bool Empty where
  init f v h := dbufInit f v h
  op _ _ k _ := nomatch k
  destroy := dbufDestroy
  ownM := DBuf.owned
  ownF := zeroFd
  wf o := o = { b0 := .own, b1 := .own }
  dead o := o = {}

theorem lifecycle_double_buffer : LifeCycleOK dbufFam :=
  lifeCycleOK_of_built (F := dbufFam) { b0 := .own, b1 := .own } {}
    (fun f v h => by
      cases v
      · exact .inl (dbufInit_invalid f h)
      · exact .inr ⟨_, muggle_double_buffer_init_c18 f h⟩)
    (fun h => ⟨_, dbufDestroy_safe _ rfl h⟩) fun h => ⟨_, dbufDestroy_empty h⟩

def twoFam : Family Two Bool Empty where
  init f v h := twoInit f v h
  op _ _ k _ := nomatch k
  destroy := twoDestroy
  ownM := Two.owned
  ownF := zeroFd
  wf o := o = { a := .own, b := .own }
  dead o := o = {}

/-- thread-safe memory pool, pointer slot -/
theorem lifecycle_two_arrays : LifeCycleOK twoFam :=
  lifeCycleOK_of_built (F := twoFam) { a := .own, b := .own } {}
    (fun f v h => by
      cases v
      · exact .inl (twoInit_invalid f h)
      · exact .inr ⟨_, two_arrays_init_c18 f h⟩)
    (fun h => ⟨_, twoDestroy_safe _ rfl h⟩) fun h => ⟨_, twoDestroy_empty h⟩

def sockhFam : Family SockH Unit Unit where
  init f _ h := sockhInit f h
  op f s _ h := sockhAddCtx f s h
  destroy := sockhDestroy
  ownM := SockH.owned
  ownF := SockH.ownedFd
  wf := SockH.wf
  dead o := o = {}

theorem lifecycle_socket_evloop_handle : LifeCycleOK sockhFam := lifeCycleOK_of_laws (empty := {}) {
  init := fun f _ h => .inr ⟨_, _, _, _, ⟨rfl, rfl, nc_empty_wf, rfl⟩,
    by simp [sockhFam, SockH.owned, nc_empty_owned], rfl, muggle_socket_evloop_handle_init_c18 f h⟩
  op := fun f s _ h hw => (muggle_socket_evloop_add_ctx_c18 f s h hw).weak
  destroy := fun s h hw => ⟨_, sockhDestroy_stage s h (SockH.wf.stage hw)⟩
  destroy_empty := fun h => ⟨_, sockhDestroy_empty h⟩ }

def evsigFam : Family One Unit Empty where
  init f _ h := evsigInit f h
  op _ _ k _ := nomatch k
  destroy := evsigDestroy
  ownM := fun _ => 0
  ownF := One.owned
  wf o := o = { p := .own }
  dead o := o = {}

theorem lifecycle_event_signal : LifeCycleOK evsigFam :=
  lifeCycleOK_of_built (F := evsigFam) { p := .own } {} (fun f _ h => .inr ⟨_, muggle_ev_signal_init_c18 f h⟩)
    (fun h => ⟨_, evsigDestroy_safe _ rfl h⟩) fun h => ⟨_, evsigDestroy_empty h⟩

def evpipeFam : Family Two Unit Empty where
  init f _ h := evpipeInit f h
  op _ _ k _ := nomatch k
  destroy := evpipeDestroy
  ownM := fun _ => 0
  ownF := Two.owned
  wf o := o = { a := .own, b := .own }
  dead o := o = {}

theorem lifecycle_socket_evloop_pipe : LifeCycleOK evpipeFam :=
  lifeCycleOK_of_built (F := evpipeFam) { a := .own, b := .own } {}
    (fun f _ h => .inr ⟨_, muggle_socket_evloop_pipe_init_c18 f h⟩)
    (fun h => ⟨_, evpipeDestroy_safe _ rfl h⟩) fun h => ⟨_, evpipeDestroy_empty h⟩

def sockFam : Family One Unit Empty where
  init f _ h := sockCreate f h
  op _ _ k _ := nomatch k
  destroy := sockClose
  ownM := fun _ => 0
  ownF := One.owned
  wf o := o = { p := .own }
  dead o := o = {}

/-- `muggle_socket_create` / `muggle_socket_close` -/
theorem lifecycle_socket : LifeCycleOK sockFam :=
  lifeCycleOK_of_built (F := sockFam) { p := .own } {} (fun f _ h => .inr ⟨_, muggle_socket_create_c18 f h⟩)
    (fun h => ⟨_, sockClose_safe _ rfl h⟩) fun h => ⟨_, sockClose_empty h⟩

def maRingFam : Family MaRing Unit Empty where
  init f _ h := maRingInit f {} h
  op _ _ k _ := nomatch k
  destroy := maRingCleanup
  ownM := MaRing.owned
  ownF := zeroFd
  wf o := o = { ring := .own, buffer := .own, node := .own }
  dead o := o = {}

/-- ma_ring thread context: init / cleanup pairs of the calling thread, no hang -/
theorem lifecycle_ma_ring : LifeCycleOK maRingFam :=
  lifeCycleOK_of_built (F := maRingFam) { ring := .own, buffer := .own, node := .own } {}
    (fun f _ h => .inr ⟨_, muggle_ma_ring_thread_ctx_init_c18 f h⟩)
    (fun h => ⟨_, maRingCleanup_built h⟩) fun h => ⟨_, maRingCleanup_empty h⟩

inductive MPoolOp where
  | alloc | free | ensure (c : Nat) | setFlag (n : Nat) | setMax (n : Nat)

/-- `ι` = (init_capacity, block_size) -/
def mpoolFam : Family MPool (Nat × Nat) MPoolOp where
  init f i h := mpoolInit f i.1 i.2 h
  op f p k h :=
    match k with
    | .alloc => mpoolAlloc f p h
    | .free => match mpoolFree p h with
      | .error e => .error e
      | .ok (p, h) => .ok (p, true, h)
    | .ensure c => mpoolEnsure f p c h
    | .setFlag n => .ok ({ p with flag := n }, true, h)
    | .setMax n => .ok ({ p with maxDelta := n }, true, h)
  destroy := mpoolDestroy
  ownM := MPool.owned
  ownF := zeroFd
  wf := MPool.wf
  dead p := p = {}

theorem lifecycle_memory_pool : LifeCycleOK mpoolFam := lifeCycleOK_of_laws (empty := {}) {
  init := fun f ⟨cap, bs⟩ h => by
    by_cases hbs : bs = 0
    · exact .inl (hbs ▸ mpoolInit_invalid f cap h)
    · exact .inr ⟨_, _, _, _, mpoolBuilt_wf cap bs, mpoolBuilt_owned cap bs, rfl,
        muggle_memory_pool_init_c18 f cap bs hbs h⟩
  op := fun f p k h hw => by
    cases k with
    | alloc => exact (muggle_memory_pool_alloc_c18 f p h hw).weak
    | ensure c => exact (muggle_memory_pool_ensure_space_c18 f p c h hw).weak
    | free => simpa [mpoolFam, mpoolFree_ok p h hw, MPool.owned, MPool.wf] using hw
    | setFlag n => simpa [mpoolFam, MPool.owned, MPool.wf] using hw
    | setMax n => simpa [mpoolFam, MPool.owned, MPool.wf] using hw
  destroy := fun s h hw => ⟨_, mpoolDestroy_wf s h hw⟩
  destroy_empty := fun h => ⟨_, mpoolDestroy_empty h⟩ }

inductive ArrOp where
  | push | pop | ensure (c : Nat)

/-- `ι` = requested capacity; `nulls` = destroy resets the pointer -/
def arrFam (nulls : Bool) : Family Arr Nat ArrOp where
  init f c h := arrInit f c h
  op f a k h :=
    match k with
    | .push => arrPush f a h
    | .pop => arrPop a h
    | .ensure c => arrEnsure f a c h
  destroy := arrDestroy nulls
  ownM := Arr.owned
  ownF := zeroFd
  wf := Arr.wf
  dead a := a = {}

/-- array list, stack (`nulls = false`), heap (`nulls = true`): insert / remove / ensure_capacity -/
theorem lifecycle_array_container (nulls : Bool) : LifeCycleOK (arrFam nulls) :=
  lifeCycleOK_of_laws (empty := {}) {
    init := fun f c h => by
      by_cases hc : dsCapValid (if c = 0 then 8 else c) = true
      · exact .inr ⟨{ p := .own, cap := if c = 0 then 8 else c, size := 0 }, _, _, _, rfl, rfl, rfl,
          array_container_init_c18 f c hc h⟩
      · exact .inl (arrInit_invalid f c (Bool.not_eq_true _ ▸ hc) h)
    op := fun f a k h hw => by
      cases k with
      | push => exact (array_container_insert_c18 f a h hw).weak
      | pop => exact (arrPop_contract a h hw).weak
      | ensure c => exact (array_container_ensure_c18 f a c h hw).weak
    destroy := fun s h hw => ⟨_, arrDestroy_wf nulls s h hw⟩
    destroy_empty := fun h => ⟨_, arrDestroy_empty nulls h⟩ }

/-- `init` of linked list, queue, AVL tree, trie -/
theorem ncInit_law (f : Sched) (cap ns : Nat) (hns : ns ≠ 0) (h : Heap) {wf : NC → Prop}
    (hw0 : wf {}) (hw1 : wf { np := npBuilt cap ns }) :
    ncInit f cap ns h = .ok ({}, false, h) ∨ ∃ built m fd n, wf built ∧ built.owned = m ∧
      zeroFd built = fd ∧ InitContract built {} m fd n f h (ncInit f cap ns h) := by
  by_cases h0 : cap = 0
  · subst h0
    exact .inr ⟨{}, 0, 0, 0, hw0, nc_empty_owned, rfl, ncInit_nopool_contract f ns h⟩
  · by_cases hc : dsCapValid cap = true
    · exact .inr ⟨_, _, _, _, hw1, by simp [NC.owned, npBuilt_owned], rfl,
        node_container_init_c18 f cap ns h0 hc hns h⟩
    · exact .inl (by simp [ncInit, npInit_invalid f cap ns h0 (Bool.not_eq_true _ ▸ hc) h])

inductive ListOp where
  | insert | removeFirst

/-- `ι` = (node-pool capacity, node size), here and in the next three families -/
def listFam : Family NC (Nat × { n : Nat // n ≠ 0 }) ListOp where
  init f i h := ncInit f i.1 i.2.1 h
  op f c k h :=
    match k with
    | .insert => ncInsert f c h
    | .removeFirst => match ncRemoveFirst c h with
      | .error e => .error e
      | .ok (c, h) => .ok (c, true, h)
  destroy := ncDestroy
  ownM := NC.owned
  ownF := zeroFd
  wf c := c.wf ∧ c.table = .null
  dead c := c = {}

/-- linked list, queue: insert / remove, with or without node pool -/
theorem lifecycle_list : LifeCycleOK listFam := lifeCycleOK_of_laws (empty := {}) {
  init := fun f ⟨cap, ns, hns⟩ h =>
    ncInit_law f cap ns hns h ⟨nc_empty_wf, rfl⟩ ⟨nc_built_wf cap ns .null (.inl rfl), rfl⟩
  op := fun f c k h ⟨hw, ht⟩ => by
    cases k with
    | insert =>
      exact (ncInsert_spec f c h hw ht).weak
    | removeFirst =>
      obtain ⟨c', h', hr, hres⟩ := ncRemoveFirst_spec c h hw ht
      exact ⟨c', true, h', by simp only [listFam, hr], hres⟩
  destroy := fun s h hw => (ncDestroy_spec s hw.1 hw.2).imp fun _ hr => hr h
  destroy_empty := ncDestroy_empty }

inductive KeyOp where
  | insert (k : Nat) | remove (k : Nat)

def avlFam : Family NC (Nat × { n : Nat // n ≠ 0 }) KeyOp where
  init f i h := ncInit f i.1 i.2.1 h
  op f c k h :=
    match k with
    | .insert k => ncInsertKey f c k h
    | .remove k => match ncRemoveKey c k h with
      | .error e => .error e
      | .ok (c, h) => .ok (c, true, h)
  destroy := ncDestroy
  ownM := NC.owned
  ownF := zeroFd
  wf c := c.wfK ∧ c.table = .null
  dead c := c = {}

/-- `op` of AVL tree and hash table (`t` = the bucket array).  The `match` is the `op` field of `avlFam` and
`htabFam` word for word: the two families use this by unification. -/
theorem keyOp_law (f : Sched) (c : NC) (k : KeyOp) (h : Heap) (t : Cell) (hw : c.wfK) (ht : c.table = t) :
    OpContract (fun c => c.wfK ∧ c.table = t) NC.owned zeroFd c h
      (match k with
        | .insert k => ncInsertKey f c k h
        | .remove k => match ncRemoveKey c k h with
          | .error e => .error e
          | .ok (c, h) => .ok (c, true, h)) := by
  cases k with
  | insert k => exact (ncInsertKey_spec f c k h hw ht).weak
  | remove k =>
    obtain ⟨c', h', hr, hres⟩ := ncRemoveKey_spec c k h hw ht
    exact ⟨c', true, h', by simp only [hr], hres⟩

theorem lifecycle_avl_tree : LifeCycleOK avlFam := lifeCycleOK_of_laws (empty := {}) {
  init := fun f ⟨cap, ns, hns⟩ h =>
    ncInit_law f cap ns hns h ⟨nc_nopool_wfK .null (.inl rfl), rfl⟩ ⟨nc_built_wfK cap ns .null (.inl rfl), rfl⟩
  op := fun f c k h hw => keyOp_law f c k h .null hw.1 hw.2
  destroy := fun s h hw => (ncDestroy_spec s hw.1.1 hw.2).imp fun _ hr => hr h
  destroy_empty := ncDestroy_empty }

def htabFam : Family NC (Nat × { n : Nat // n ≠ 0 }) KeyOp where
  init f i h := htabInit f i.1 i.2.1 h
  op f c k h :=
    match k with
    | .insert k => ncInsertKey f c k h
    | .remove k => match ncRemoveKey c k h with
      | .error e => .error e
      | .ok (c, h) => .ok (c, true, h)
  destroy := htabDestroy
  ownM := NC.owned
  ownF := zeroFd
  wf c := c.wfK ∧ c.table = .own
  dead c := c = {}

theorem lifecycle_hash_table : LifeCycleOK htabFam := lifeCycleOK_of_laws (empty := {}) {
  init := fun f ⟨cap, ns, hns⟩ h => by
    by_cases hc : dsCapValid cap = true
    · obtain ⟨c0, c1⟩ := muggle_hash_table_init_c18 f cap ns hc hns h
      by_cases h0 : cap = 0
      · exact .inr ⟨_, _, _, _, ⟨nc_nopool_wfK .own (.inr rfl), rfl⟩,
          by simp [htabFam, NC.owned, NPool.owned, MPool.owned], rfl, c0 h0⟩
      · exact .inr ⟨_, _, _, _, ⟨nc_built_wfK cap ns .own (.inr rfl), rfl⟩,
          by simp [htabFam, NC.owned, npBuilt_owned], rfl, c1 h0⟩
    · have h0 : cap ≠ 0 := fun h0 => hc (by simp [h0, dsCapValid])
      exact .inl (by simp [htabFam, htabInit, npInit_invalid f cap ns h0 (Bool.not_eq_true _ ▸ hc) h])
  op := fun f c k h hw => keyOp_law f c k h .own hw.1 hw.2
  destroy := fun s h hw => (htabDestroy_spec s hw.1.1).imp fun _ hr => hr h
  destroy_empty := htabDestroy_empty }

def trieFam : Family NC (Nat × { n : Nat // n ≠ 0 }) String where
  init f i h := ncInit f i.1 i.2.1 h
  op f c key h := trieInsert f c key h
  destroy := ncDestroy
  ownM := NC.owned
  ownF := zeroFd
  wf c := c.wf ∧ c.table = .null
  dead c := c = {}

/-- trie: insert keys of any length (failed inserts may keep prefix nodes; destroy releases them) -/
theorem lifecycle_trie : LifeCycleOK trieFam := lifeCycleOK_of_laws (empty := {}) {
  init := fun f ⟨cap, ns, hns⟩ h =>
    ncInit_law f cap ns hns h ⟨nc_empty_wf, rfl⟩ ⟨nc_built_wf cap ns .null (.inl rfl), rfl⟩
  op := fun f c key h ⟨hw, ht⟩ => trieInsertPaths_spec f _ c h hw ht
  destroy := fun s h hw => (ncDestroy_spec s hw.1 hw.2).imp fun _ hr => hr h
  destroy_empty := ncDestroy_empty }

/-- `ι` = (requested type, use_mem_pool, hints_max_fd < 2^31, node size) -/
def evloopFam : Family EvLoop (Int × Bool × { x : Int // x < 2 ^ 31 } × { n : Nat // n ≠ 0 }) Unit where
  init f i h := evloopNew f i.1 i.2.1 i.2.2.1.1 i.2.2.2.1 h
  op f e _ h := evloopAdd f e h
  destroy := evloopDelete
  ownM := EvLoop.ownedMem
  ownF := EvLoop.ownedFds
  wf := EvLoop.wf
  dead e := e = {}

theorem lifecycle_event_loop : LifeCycleOK evloopFam := lifeCycleOK_of_laws (empty := {}) {
  init := fun f ⟨t, mp, ⟨hints, hh⟩, ⟨ns, hns⟩⟩ h =>
    have hk := evloopType_cases t
    .inr ⟨_, _, _, _, evBuilt_wf _ mp _ ns hk, (evBuilt_owned _ mp _ ns hk).1,
      (evBuilt_owned _ mp _ ns hk).2, muggle_evloop_new_c18 f t mp hints hh ns hns h⟩
  op := fun f e _ h hw => muggle_evloop_add_ctx_c18 f e h hw
  destroy := fun s h hw => ⟨_, evloopDelete_stage s h (EvLoop.wf.stage hw)⟩
  destroy_empty := fun h => ⟨_, evloopDelete_empty h⟩ }

inductive ALogOp where
  | log

/-- `ι` = channel capacity valid; the operation logs one message and lets the consumer thread write
it; `muggle_async_logger_log` is `void`: the flag reported is "no fault was consumed" -/
def alogFam : Family Chan Bool ALogOp where
  init f v h := alogInit f v h
  op f c _ h := match alogLog f c h with
    | .error e => .error e
    | .ok h' => .ok (c, decide (h'.inj = h.inj), h')
  destroy := alogDestroy
  ownM := Chan.owned
  ownF := zeroFd
  wf c := c = chanBuilt true false
  dead c := c = {}

theorem lifecycle_async_logger : LifeCycleOK alogFam := lifeCycleOK_of_laws (empty := {}) {
  init := fun f v h => by
    cases v
    · exact .inl (chanInit_invalid f true false h)
    · exact .inr ⟨_, _, _, _, rfl, chanBuilt_owned true false, rfl, muggle_async_logger_init_c18 f h⟩
  op := fun f c _ h hw => by
    cases hw
    obtain ⟨h', hr, m, fd, n1, n2, i⟩ := muggle_async_logger_log_c18 f h
    simp only [alogFam, hr]
    simp
    omega
  destroy := fun s h hs => by
    cases hs
    exact ⟨_, alogDestroy_built h⟩
  destroy_empty := fun h => ⟨_, alogDestroy_empty h⟩ }

end MgProof.C18
