import MgProof.C18.LemmasOps
/-!
# C18 — life cycle of an object under arbitrary call sequences and fault schedules

`runLife` executes any list of calls — constructor (also as a retry after a failed construction),
operations, destructor (also after a failed construction) — threading the heap and the schedule
position.
`lifecycle`: for a family satisfying `Laws`, every call list and every schedule: no call reaches
`Err`; at every point the live blocks / descriptors are the baseline plus what the live object owns
(the baseline when there is none: nothing leaks); every call that reports success consumed no
injected fault (`Report`).
-/
namespace MgProof.C18
open MgModel.C18

structure Family (σ ι κ : Type) where
  init : Sched → ι → Heap → Except Err (σ × Bool × Heap)
  op : Sched → σ → κ → Heap → Except Err (σ × Bool × Heap)
  destroy : σ → Heap → Except Err (σ × Heap)
  ownM : σ → Int
  ownF : σ → Int
  wf : σ → Prop
  dead : σ → Prop

/-- `empty` is what a failed constructor leaves behind (every family declares `dead s := s = {}`: the
default of `dead_iff`).  `init`: refused before any acquisition (invalid parameters: the `*_invalid`
lemmas), or a transaction.  `destroy`, `destroy_empty`: the two kinds of object a life can hold; for most
families both are instances of one equation `*_safe` / `*_stage`, whose further cases (half-built
objects) only the constructors need. -/
structure Laws {σ ι κ : Type} (F : Family σ ι κ) (empty : σ) : Prop where
  dead_iff : ∀ s, F.dead s ↔ s = empty := by exact fun _ => Iff.rfl
  init : ∀ f i h, F.init f i h = .ok (empty, false, h) ∨ ∃ built m fd n, F.wf built ∧
    F.ownM built = m ∧ F.ownF built = fd ∧ InitContract built empty m fd n f h (F.init f i h)
  op : ∀ f s k h, F.wf s → OpContract F.wf F.ownM F.ownF s h (F.op f s k h)
  destroy : ∀ s h, F.wf s → ∃ s', F.destroy s h = .ok (s', h.release (F.ownM s) (F.ownF s))
  destroy_empty : ∀ h, ∃ s', F.destroy empty h = .ok (s', h)

inductive Life (σ : Type) where
  | none                 -- no object (never constructed, or destroyed)
  | live (s : σ)
  | failed (s : σ)       -- what a failed constructor left behind

inductive Call (ι κ : Type) where
  | init (i : ι)
  | op (k : κ)
  | destroy

/-- one entry per constructor / operation call (the destructor reports nothing) -/
structure Entry where
  ok : Bool
  injBefore : Nat
  injAfter : Nat

/-- one call; calls that make no sense in the current state (constructor on a live object,
operation or destructor without object) are refused without effect, as the harness does -/
def stepLife {σ ι κ : Type} (F : Family σ ι κ) (f : Sched) :
    Life σ → Call ι κ → Heap → Except Err (Life σ × Heap × List Entry)
  | .live s, .init _, h => .ok (.live s, h, [])
  | .none, .init i, h | .failed _, .init i, h =>
    match F.init f i h with
    | .error e => .error e
    | .ok (s, true, h') => .ok (.live s, h', [⟨true, h.inj, h'.inj⟩])
    | .ok (s, false, h') => .ok (.failed s, h', [⟨false, h.inj, h'.inj⟩])
  | .live s, .op k, h =>
    match F.op f s k h with
    | .error e => .error e
    | .ok (s', ok, h') => .ok (.live s', h', [⟨ok, h.inj, h'.inj⟩])
  | .none, .op _, h => .ok (.none, h, [])
  | .failed s, .op _, h => .ok (.failed s, h, [])
  | .live s, .destroy, h | .failed s, .destroy, h =>
    match F.destroy s h with
    | .error e => .error e
    | .ok (_, h') => .ok (.none, h', [])
  | .none, .destroy, h => .ok (.none, h, [])

def runLife {σ ι κ : Type} (F : Family σ ι κ) (f : Sched) :
    Life σ → List (Call ι κ) → Heap → Except Err (Life σ × Heap × List Entry)
  | st, [], h => .ok (st, h, [])
  | st, c :: cs, h =>
    match stepLife F f st c h with
    | .error e => .error e
    | .ok (st', h', log) =>
      match runLife F f st' cs h' with
      | .error e => .error e
      | .ok (st'', h'', log') => .ok (st'', h'', log ++ log')

def Inv {σ ι κ : Type} (F : Family σ ι κ) (bm bf : Int) : Life σ → Heap → Prop
  | .none, h => h.mem = bm ∧ h.fds = bf
  | .failed s, h => F.dead s ∧ h.mem = bm ∧ h.fds = bf
  | .live s, h => F.wf s ∧ h.mem = bm + F.ownM s ∧ h.fds = bf + F.ownF s

def Report (log : List Entry) : Prop := ∀ e, e ∈ log → e.ok = true → e.injAfter = e.injBefore

def LifeCycleOK {σ ι κ : Type} (F : Family σ ι κ) : Prop :=
  (∀ (f : Sched) (bm bf : Int) (cs : List (Call ι κ)) (st : Life σ) (h : Heap), Inv F bm bf st h →
    ∃ st' h' log, runLife F f st cs h = .ok (st', h', log) ∧ Inv F bm bf st' h' ∧ Report log) ∧
  (∀ (f : Sched) (cs : List (Call ι κ)) (h : Heap),
    ∃ h' log, runLife F f .none (cs ++ [.destroy]) h = .ok (.none, h', log) ∧
      h'.mem = h.mem ∧ h'.fds = h.fds ∧ Report log)

theorem report_nil : Report [] := nofun

theorem report_single {ok : Bool} {a b : Nat} (h : ok = true → b = a) : Report [⟨ok, a, b⟩] := by
  intro e he hok
  cases List.mem_singleton.mp he
  exact h hok

theorem report_append {l1 l2 : List Entry} (h1 : Report l1) (h2 : Report l2) : Report (l1 ++ l2) :=
  fun e he hok => (List.mem_append.mp he).elim (h1 e · hok) (h2 e · hok)

section
variable {σ ι κ : Type} {F : Family σ ι κ} {empty : σ}

theorem Laws.init_inv (L : Laws F empty) (f : Sched) (i : ι) (h : Heap) :
    ∃ s ok h', F.init f i h = .ok (s, ok, h') ∧
      (ok = true → F.wf s ∧ h'.mem = h.mem + F.ownM s ∧ h'.fds = h.fds + F.ownF s ∧ h'.inj = h.inj) ∧
      (ok = false → F.dead s ∧ h'.mem = h.mem ∧ h'.fds = h.fds) := by
  rcases L.init f i h with hr | ⟨built, m, fd, n, hw, rfl, rfl, c⟩
  · exact ⟨_, false, h, hr, nofun, fun _ => ⟨(L.dead_iff _).mpr rfl, rfl, rfl⟩⟩
  · obtain ⟨o, ok, h', hr, _, hok, hfail⟩ := c.total
    refine ⟨o, ok, h', hr, fun hk => ?_, fun hk => ?_⟩
    · obtain ⟨rfl, rfl⟩ := hok hk
      exact ⟨hw, rfl, rfl, rfl⟩
    · obtain ⟨rfl, hm, hf, _⟩ := hfail hk
      exact ⟨(L.dead_iff _).mpr rfl, hm, hf⟩

/-- a constructor call when there is no live object -/
theorem step_init (L : Laws F empty) (f : Sched) (bm bf : Int) (i : ι) (h : Heap) (hm : h.mem = bm)
    (hf : h.fds = bf) :
    ∃ st' h' log, stepLife F f .none (.init i) h = .ok (st', h', log) ∧ Inv F bm bf st' h' ∧ Report log := by
  obtain ⟨s, ok, h', hr, hok, hfail⟩ := L.init_inv f i h
  simp only [stepLife, hr]
  cases ok with
  | true =>
    obtain ⟨hw, hm', hf', hi'⟩ := hok rfl
    exact ⟨_, _, _, rfl, ⟨hw, by omega, by omega⟩, report_single fun _ => hi'⟩
  | false =>
    obtain ⟨hd, hm', hf'⟩ := hfail rfl
    exact ⟨_, _, _, rfl, ⟨hd, by omega, by omega⟩, report_single nofun⟩

theorem step_inv (L : Laws F empty) (f : Sched) (bm bf : Int)
    (st : Life σ) (c : Call ι κ) (h : Heap) (hinv : Inv F bm bf st h) :
    ∃ st' h' log, stepLife F f st c h = .ok (st', h', log) ∧ Inv F bm bf st' h' ∧ Report log := by
  match st, c, hinv with
  | .none, .init i, ⟨hm, hf⟩ => exact step_init L f bm bf i h hm hf
  -- a retry is a first construction: `stepLife` has one arm for both
  | .failed _, .init i, ⟨_, hm, hf⟩ => exact step_init L f bm bf i h hm hf
  | .live _, .init _, hinv => exact ⟨_, _, _, rfl, hinv, report_nil⟩
  | .none, .op _, hinv => exact ⟨_, _, _, rfl, hinv, report_nil⟩
  | .failed _, .op _, hinv => exact ⟨_, _, _, rfl, hinv, report_nil⟩
  | .live s, .op k, ⟨hw, hm, hf⟩ =>
    obtain ⟨s', ok, h', hr, hres⟩ := L.op f s k h hw
    have := hres.mem
    have := hres.fds
    simp only [stepLife, hr]
    exact ⟨_, _, _, rfl, ⟨hres.wf', by omega, by omega⟩, report_single hres.okClean⟩
  | .none, .destroy, hinv => exact ⟨_, _, _, rfl, hinv, report_nil⟩
  | .failed s, .destroy, ⟨hd, hm, hf⟩ =>
    cases (L.dead_iff s).mp hd
    obtain ⟨s', hr⟩ := L.destroy_empty h
    simp only [stepLife, hr]
    exact ⟨_, _, _, rfl, ⟨hm, hf⟩, report_nil⟩
  | .live s, .destroy, ⟨hw, hm, hf⟩ =>
    obtain ⟨s', hr⟩ := L.destroy s h hw
    simp only [stepLife, hr]
    exact ⟨_, _, _, rfl, ⟨by simp; omega, by simp; omega⟩, report_nil⟩

theorem lifecycle (L : Laws F empty) (f : Sched) (bm bf : Int) (cs : List (Call ι κ)) :
    ∀ (st : Life σ) (h : Heap), Inv F bm bf st h →
    ∃ st' h' log, runLife F f st cs h = .ok (st', h', log) ∧ Inv F bm bf st' h' ∧ Report log := by
  induction cs with
  | nil => exact fun st h hinv => ⟨st, h, [], rfl, hinv, report_nil⟩
  | cons c cs ih =>
    intro st h hinv
    obtain ⟨st1, h1, log1, hr1, hinv1, hrep1⟩ := step_inv L f bm bf st c h hinv
    obtain ⟨st2, h2, log2, hr2, hinv2, hrep2⟩ := ih st1 h1 hinv1
    exact ⟨st2, h2, log1 ++ log2, by simp only [runLife, hr1, hr2], hinv2, report_append hrep1 hrep2⟩

theorem stepLife_destroy {f : Sched} {st st' : Life σ} {h h' : Heap} {log : List Entry}
    (hr : stepLife F f st .destroy h = .ok (st', h', log)) : st' = .none := by
  cases st with
  | none => cases hr; rfl
  | live s | failed s =>
    simp only [stepLife] at hr
    split at hr <;> cases hr
    rfl

theorem runLife_snoc {f : Sched} {c : Call ι κ} {st2 : Life σ} {h2 : Heap} {l2 : List Entry} :
    ∀ (cs : List (Call ι κ)) {st : Life σ} {h : Heap} {st1 : Life σ} {h1 : Heap} {l1 : List Entry},
      runLife F f st cs h = .ok (st1, h1, l1) → stepLife F f st1 c h1 = .ok (st2, h2, l2) →
      runLife F f st (cs ++ [c]) h = .ok (st2, h2, l1 ++ l2)
  | [], _, _, _, _, _, hr, hs => by
    cases hr
    simp [runLife, hs]
  | c0 :: cs, st, h, _, _, _, hr, hs => by
    simp only [runLife, List.cons_append] at hr ⊢
    split at hr
    · cases hr
    · split at hr
      · cases hr
      · cases hr
        rename_i hrun
        simp only [runLife_snoc cs hrun hs, List.append_assoc]

theorem lifecycle_no_leak (L : Laws F empty) (f : Sched) (cs : List (Call ι κ)) (h : Heap) :
    ∃ h' log, runLife F f .none (cs ++ [.destroy]) h = .ok (.none, h', log) ∧
      h'.mem = h.mem ∧ h'.fds = h.fds ∧ Report log := by
  obtain ⟨st1, h1, log1, hr1, hinv1, hrep1⟩ := lifecycle L f h.mem h.fds cs .none h ⟨rfl, rfl⟩
  obtain ⟨st2, h2, log2, hr2, hinv2, hrep2⟩ := step_inv L f h.mem h.fds st1 .destroy h1 hinv1
  cases stepLife_destroy hr2
  exact ⟨h2, log1 ++ log2, runLife_snoc cs hr1 hr2, hinv2.1, hinv2.2, report_append hrep1 hrep2⟩

theorem lifeCycleOK_of_laws (L : Laws F empty) : LifeCycleOK F :=
  ⟨fun f bm bf cs st h hinv => lifecycle L f bm bf cs st h hinv,
   fun f cs h => lifecycle_no_leak L f cs h⟩

/-- for a family without operations whose only well-formed object is `built` -/
theorem lifeCycleOK_of_built {F : Family σ ι Empty} (built empty : σ)
    (init : ∀ f i h, F.init f i h = .ok (empty, false, h) ∨
      ∃ n, InitContract built empty (F.ownM built) (F.ownF built) n f h (F.init f i h))
    (destroy : ∀ h, ∃ s', F.destroy built h = .ok (s', h.release (F.ownM built) (F.ownF built)))
    (destroy_empty : ∀ h, ∃ s', F.destroy empty h = .ok (s', h))
    (hwf : ∀ s, F.wf s ↔ s = built := by exact fun _ => Iff.rfl)
    (hdead : ∀ s, F.dead s ↔ s = empty := by exact fun _ => Iff.rfl) : LifeCycleOK F :=
  lifeCycleOK_of_laws {
    dead_iff := hdead
    init := fun f i h => (init f i h).imp_right fun ⟨n, c⟩ => ⟨built, _, _, n, (hwf _).mpr rfl, rfl, rfl, c⟩
    op := fun _ _ k => nomatch k
    destroy := fun s h hw => (hwf s).mp hw ▸ destroy h
    destroy_empty := destroy_empty }

end

end MgProof.C18
