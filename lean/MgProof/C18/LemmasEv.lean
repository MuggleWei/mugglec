import MgProof.C18.LemmasNC
/-!
# C18 — event signal, event loop (select / poll / epoll, with and without node pool),
socket event-loop handle, async logger

Handle and loop are given up half-built on the failure paths of their constructors: `SockH.stage`,
`EvLoop.stage` describe them at any point of construction (the well-formed object included), and
`sockhDestroy_stage`, `evloopBackendExcept_stage` say that what they own at that point is released.  The
other two ways a loop is given up run the code of the backend failure path (`evloopInitExcept_eq`,
`evloopDelete_eq`).
-/
namespace MgProof.C18
open MgModel.C18

attribute [local simp] MPool.owned NPool.owned

/-- `muggle_ev_signal_init` (eventfd) -/
theorem muggle_ev_signal_init_c18 (f : Sched) (h : Heap) :
    InitContract ({ p := .own } : One) {} 0 1 1 f h (evsigInit f h) := by
  refine .of_tail (.step (fun f0 => ?_) fun f0 => .done ?_)
  all_goals simp [evsigInit, *]

theorem evsigDestroy_safe (o : One) (hs : o.safe = true) (h : Heap) :
    evsigDestroy o h = .ok ({}, h.release 0 o.owned) := by
  simp only [evsigDestroy, closeFd_safe (Cell.safe_iff.mp hs)]
  rfl

theorem evsigDestroy_empty (h : Heap) : evsigDestroy {} h = .ok ({}, h) := by
  simpa [Heap.release_zero, One.owned] using evsigDestroy_safe {} rfl h

def _root_.MgModel.C18.SockH.wf (s : SockH) : Prop :=
  s.q = .own ∧ s.mtx = .own ∧ s.queue.wf ∧ s.queue.table = .null

/-- a handle at any point of `muggle_socket_evloop_handle_init`, the built one included -/
def _root_.MgModel.C18.SockH.stage (s : SockH) : Prop :=
  s.mtx ≠ .dang ∧ ((s.q = .null ∧ s.queue = {}) ∨ (s.q = .own ∧ s.queue.wf ∧ s.queue.table = .null))

theorem SockH.wf.stage {s : SockH} (hs : s.wf) : s.stage :=
  ⟨by simp [hs.2.1], .inr ⟨hs.1, hs.2.2⟩⟩

theorem sockhDestroy_stage (s : SockH) (h : Heap) (hs : s.stage) :
    sockhDestroy s h = .ok ({}, h.release s.owned s.ownedFd) := by
  obtain ⟨hm, ⟨hq, hqu⟩ | ⟨hq, h3, h4⟩⟩ := hs
  · simp [sockhDestroy, hq, hqu, free_safe hm, -free, SockH.owned, SockH.ownedFd, nc_empty_owned]
  · obtain ⟨c1, hr1, hw1, ht1, hn1⟩ := ncClear_spec s.queue h3
    obtain ⟨c2, hr2⟩ := ncDestroy_spec c1 hw1 (ht1.trans h4)
    simp [sockhDestroy, SockH.owned, SockH.ownedFd, hq, free_safe, -free, hm, hr1, hr2]
    omega

theorem sockhDestroy_empty (h : Heap) : sockhDestroy {} h = .ok ({}, h) := by
  simpa [Heap.release_zero, SockH.owned, SockH.ownedFd, nc_empty_owned] using
    sockhDestroy_stage {} h ⟨by simp, .inl ⟨rfl, rfl⟩⟩

theorem muggle_socket_evloop_handle_init_c18 (f : Sched) (h : Heap) :
    InitContract ({ q := .own, mtx := .own } : SockH) {} 2 0 2 f h (sockhInit f h) := by
  have hst : SockH.stage { q := .own } := ⟨by simp, .inr ⟨rfl, nc_empty_wf, rfl⟩⟩
  refine .of_tail (.step (fun f0 => ?_) fun f0 => .step (fun f1 => ?_) fun f1 => .done ?_)
  all_goals
    simp [sockhInit, sockhDestroy_stage _ _ hst, SockH.owned, SockH.ownedFd, nc_empty_owned, *] <;> omega

/-- `muggle_socket_evloop_add_ctx` of a context made by the caller (one block, one descriptor):
queued → the handle owns node, block and descriptor (and `muggle_socket_evloop_handle_destroy`
releases them); not queued → reported, handle unchanged, the caller releases its context -/
theorem muggle_socket_evloop_add_ctx_c18 (f : Sched) (s : SockH) (h : Heap) (hs : s.wf) :
    OpContractS SockH.wf SockH.owned SockH.ownedFd s h (sockhAddCtx f s h) := by
  obtain ⟨h1, h2, h3, h4⟩ := hs
  obtain ⟨c1, ok, hh1, hr, ⟨⟨hw1, ht1⟩, hm1, hf1, hn1, hi1, hc1⟩, hsame, _, hsz⟩ :=
    ncAllocNode_spec f s.queue { h with mem := h.mem + 1, fds := h.fds + 1 } h3 h4
  simp only [zeroFd, Int.sub_zero] at hm1 hf1 hn1 hi1
  have hd1 : deref s.q = .ok () := by simp [h1]
  have hd2 : deref s.mtx = .ok () := by simp [h2]
  simp only [sockhAddCtx, hd1, hd2, ncInsert, hr]
  cases ok with
  | true =>
    simp only [if_true] at hsz
    refine opContractS_ok.mpr ⟨⟨⟨h1, h2, hw1, ht1⟩, ?_, ?_, hn1, hi1, hc1⟩, nofun⟩ <;>
      simp [SockH.owned, SockH.ownedFd, hsz] <;> omega
  | false =>
    cases hsame rfl
    refine opContractS_ok.mpr ⟨⟨⟨h1, h2, h3, h4⟩, ?_, ?_, hn1, hi1, nofun⟩, fun _ => rfl⟩ <;>
      simp [SockH.owned, SockH.ownedFd] <;> omega

/-- `muggle_socket_evloop_pipe_init` (one `pipe()`, two descriptors) -/
theorem muggle_socket_evloop_pipe_init_c18 (f : Sched) (h : Heap) :
    InitContract ({ a := .own, b := .own } : Two) {} 0 2 1 f h (evpipeInit f h) := by
  refine .of_tail (.step (fun f0 => ?_) fun f0 => .done ?_)
  all_goals simp [evpipeInit, *]

theorem evpipeDestroy_safe (t : Two) (hs : t.safe = true) (h : Heap) :
    evpipeDestroy t h = .ok ({}, h.release 0 t.owned) := by
  simp only [Two.safe, Bool.and_eq_true, Cell.safe_iff] at hs
  simp [evpipeDestroy, closeFd_safe, -closeFd, hs.1, hs.2, Two.owned]
  omega

theorem evpipeDestroy_empty (h : Heap) : evpipeDestroy {} h = .ok ({}, h) := by
  simpa [Heap.release_zero, Two.owned] using evpipeDestroy_safe {} rfl h

/-- `muggle_socket_create`: as far as resources go, `muggle_ev_signal_init` under another name -/
theorem muggle_socket_create_c18 (f : Sched) (h : Heap) :
    InitContract ({ p := .own } : One) {} 0 1 1 f h (sockCreate f h) :=
  muggle_ev_signal_init_c18 f h

theorem sockClose_safe (o : One) (hs : o.safe = true) (h : Heap) :
    sockClose o h = .ok ({}, h.release 0 o.owned) :=
  evsigDestroy_safe o hs h

theorem sockClose_empty (h : Heap) : sockClose {} h = .ok ({}, h) := evsigDestroy_empty h

theorem muggle_async_logger_init_c18 (f : Sched) (h : Heap) :
    InitContract (chanBuilt true false) ({} : Chan) 2 0 2 f h (alogInit f true h) :=
  muggle_channel_init_c18 f true false h

/-- `muggle_async_logger_log` (void): never `Err`, live counts unchanged under every schedule
(message and payload either both released by the consumer, or the message block released by the
producer when the payload cannot be allocated) -/
theorem muggle_async_logger_log_c18 (f : Sched) (h : Heap) :
    ∃ h', alogLog f (chanBuilt true false) h = .ok h' ∧ h'.mem = h.mem ∧ h'.fds = h.fds ∧
      h.nacq < h'.nacq ∧ h'.nacq ≤ h.nacq + 2 ∧ h.inj ≤ h'.inj := by
  by_cases f0 : f h.nacq = true
  · simp [alogLog, f0]
  · by_cases f1 : f (h.nacq + 1) = true <;> simp [alogLog, chanBuilt, f0, f1] <;> omega

theorem alogDestroy_built (h : Heap) :
    alogDestroy (chanBuilt true false) h = .ok ({}, h.release 2 0) := by
  simpa [alogDestroy, chanBuilt, Chan.owned] using chanDestroy_safe (chanBuilt true false) rfl h

theorem alogDestroy_empty (h : Heap) : alogDestroy {} h = .ok ({}, h) := by simp [alogDestroy]

/-- effective `hints_max_fd` -/
def evHints (hints : Int) : Nat := if hints < 1 then 8 else hints.toNat

def evBuilt (kind : Nat) (mempool : Bool) (hn ns : Nat) : EvLoop :=
  { self := .own, list := .own,
    ll := { np := if mempool then npBuilt hn ns else {} },
    sig := .own, evfd := .own, kind := kind,
    b1 := if kind = 1 then .null else .own, b2 := if kind = 1 then .null else .own,
    nfd := if kind = 2 then 1 else 0, pcap := if kind = 2 then hn + 1 else 0 }

/-- acquisitions on the success path of `muggle_evloop_new` -/
def evN (kind : Nat) (mempool : Bool) : Nat :=
  2 + (if mempool then 4 else 0) + 2 + (if kind = 1 then 0 else 2)

theorem evloopType_cases (t : Int) : evloopType t = 1 ∨ evloopType t = 2 ∨ evloopType t = 3 := by
  unfold evloopType
  by_cases h1 : t = 1 <;> by_cases h2 : t = 2 <;> simp [h1, h2]

theorem evHints_pos (hints : Int) : evHints hints ≠ 0 := by
  unfold evHints
  split <;> omega

theorem evHints_valid (hints : Int) (hh : hints < 2 ^ 31) : dsCapValid (evHints hints) = true := by
  unfold evHints dsCapValid
  split <;> simp <;> omega

def evMem (kind : Nat) (mempool : Bool) : Int :=
  3 + (if mempool then 4 else 0) + (if kind = 2 then 2 else if kind = 3 then 1 else 0)
def evFds (kind : Nat) : Int := 1 + (if kind = 3 then 1 else 0)

def _root_.MgModel.C18.EvLoop.wf (e : EvLoop) : Prop :=
  e.self = .own ∧ e.list = .own ∧ e.ll.wf ∧ e.ll.table = .null ∧ e.sig = .own ∧ e.evfd = .own ∧
  (e.kind = 1 ∨ (e.kind = 2 ∧ e.b1 = .own ∧ e.b2 = .own) ∨ (e.kind = 3 ∧ e.b1 = .own ∧ e.b2 = .own))

/-- Static `muggle_evloop_destroy` at any stage of `muggle_evloop_new`: the event signal not yet
or completely built, the context list not yet allocated (`ll` still empty) or initialised.  The loop
returned is `e` with `sig`, `evfd`, `list` reset and `ll` destroyed if the list was there. -/
theorem evloopDestroyBase_spec (e : EvLoop) (hl : e.list ≠ .dang) (hll : e.ll.wf)
    (ht : e.ll.table = .null) (h0 : e.list = .null → e.ll.owned = 0)
    (hsig : e.sig = .null ∧ e.evfd = .null ∨ e.sig = .own ∧ e.evfd = .own) :
    ∃ e', (∀ h, evloopDestroyBase e h =
        .ok (e', h.release (e.sig.owned + e.list.owned + e.ll.owned) e.evfd.owned)) ∧
      e'.self = e.self := by
  obtain ⟨c', hc'⟩ := ncDestroy_spec e.ll hll ht
  refine ⟨{ e with sig := .null, evfd := .null, list := .null, ll := if e.list = .own then c' else e.ll },
    fun h => ?_, rfl⟩
  -- two signal stages × three values of `list`.  List NULL: `ll` was never initialised and `h0` makes it
  -- own nothing; list dangling: excluded by `hl`
  obtain ⟨self, list, ll, sig, evfd, kind, b1, b2, nfd, pcap⟩ := e
  rcases hsig with ⟨hs, hf⟩ | ⟨hs, hf⟩ <;> cases list <;>
    simp_all [evloopDestroyBase] <;> omega

/-- a loop at any point of `muggle_evloop_new` once its block exists, the built one included.
Reducible: `simp` proves a side condition `e.stage` by unfolding it and can hand the proof over only
if the unfolding is reducible. -/
@[reducible] def _root_.MgModel.C18.EvLoop.stage (e : EvLoop) : Prop :=
  e.self = .own ∧ e.list ≠ .dang ∧ e.ll.wf ∧ e.ll.table = .null ∧ (e.list = .null → e.ll.owned = 0) ∧
  (e.sig = .null ∧ e.evfd = .null ∨ e.sig = .own ∧ e.evfd = .own) ∧
  (e.kind = 2 ∨ e.kind = 3 → e.b1 ≠ .dang ∧ e.b2 ≠ .dang)

theorem EvLoop.wf.stage {e : EvLoop} (he : e.wf) : e.stage := by
  obtain ⟨h1, h2, h3, h4, h5, h6, hk⟩ := he
  refine ⟨h1, by simp [h2], h3, h4, by simp [h2], .inr ⟨h5, h6⟩, fun hk' => ?_⟩
  rcases hk with hk | ⟨_, hb1, hb2⟩ | ⟨_, hb1, hb2⟩
  · omega
  all_goals simp [hb1, hb2]

/-- Before the backend is touched, giving up in `muggle_evloop_init` is giving up after `fn_init`: the
backend destroy finds nothing. -/
theorem evloopInitExcept_eq (e : EvLoop) (h : Heap) (h1 : e.b1 = .null) (h2 : e.b2 = .null) :
    evloopInitExcept e h = evloopBackendExcept e h := by
  obtain ⟨self, list, ll, sig, evfd, kind, b1, b2, nfd, pcap⟩ := e
  cases h1
  cases h2
  simp only [evloopInitExcept, evloopBackendExcept, evloopDestroyBackend]
  split
  · rfl
  · split <;> rfl

/-- `muggle_evloop_delete` of a loop that is there runs the code of the backend failure path. -/
theorem evloopDelete_eq (e : EvLoop) (h : Heap) (hs : e.self = .own) :
    evloopDelete e h = (do let (e', _, h') ← evloopBackendExcept e h; pure (e', h')) := by
  simp only [evloopDelete, evloopBackendExcept, hs, deref, bind_assoc, pure_bind]
  rfl

attribute [local simp] evloopBackendExcept evloopDestroyBackend EvLoop.ownedMem EvLoop.ownedFds in
/-- Failure of the backend `fn_init` releases, at any stage, exactly what the loop owns. -/
theorem evloopBackendExcept_stage (e : EvLoop) (h : Heap) (hs : e.stage) :
    evloopBackendExcept e h = .ok ({}, false, h.release e.ownedMem e.ownedFds) := by
  obtain ⟨hself, hl, hll, ht, h0, hsig, hb⟩ := hs
  -- the base part runs after the backend destroy has reset `b1`, `b2`
  obtain ⟨e1, hr1, he1⟩ := evloopDestroyBase_spec { e with b1 := .null, b2 := .null } hl hll ht h0 hsig
  by_cases k2 : e.kind = 2
  · obtain ⟨hb1, hb2⟩ := hb (.inl k2)
    -- `hr1` in the form `simp` gives the loop below
    simp only [hself, k2] at hr1 he1
    simp [free_safe, -free, *]
    omega
  by_cases k3 : e.kind = 3
  · obtain ⟨hb1, hb2⟩ := hb (.inr k3)
    simp only [hself, k3] at hr1 he1
    simp [free_safe, closeFd_safe, -free, -closeFd, *]
    omega
  · -- select: the backend destroy leaves the loop as it is
    obtain ⟨e0, hr0, he0⟩ := evloopDestroyBase_spec e hl hll ht h0 hsig
    simp [*]
    omega

theorem evloopInitExcept_stage (e : EvLoop) (h : Heap) (hs : e.stage) (h1 : e.b1 = .null)
    (h2 : e.b2 = .null) :
    evloopInitExcept e h = .ok ({}, false, h.release e.ownedMem e.ownedFds) :=
  (evloopInitExcept_eq e h h1 h2).trans (evloopBackendExcept_stage e h hs)

theorem evloopDelete_stage (e : EvLoop) (h : Heap) (hs : e.stage) :
    evloopDelete e h = .ok ({}, h.release e.ownedMem e.ownedFds) := by
  rw [evloopDelete_eq e h hs.1, evloopBackendExcept_stage e h hs]
  rfl

theorem evloopDelete_empty (h : Heap) : evloopDelete {} h = .ok ({}, h) := by simp [evloopDelete]

theorem evList_contract (f : Sched) (mempool : Bool) (H ns : Nat) (hH0 : H ≠ 0)
    (hHv : dsCapValid H = true) (hns : ns ≠ 0) (h : Heap) :
    InitContract ({ np := if mempool then npBuilt H ns else {} } : NC) {} (if mempool then 4 else 0) 0
      (if mempool then 4 else 0) f h (ncInit f (if mempool then H else 0) ns h) := by
  cases mempool
  · exact ncInit_nopool_contract f ns h
  · exact node_container_init_c18 f H ns hH0 hHv hns h

theorem evList_wf (mempool : Bool) (H ns : Nat) :
    ({ np := if mempool then npBuilt H ns else {} } : NC).wf := by
  cases mempool
  · exact nc_empty_wf
  · exact nc_built_wf H ns .null (.inl rfl)

theorem evList_owned (mempool : Bool) (H ns : Nat) :
    ({ np := if mempool then npBuilt H ns else {} } : NC).owned = if mempool then 4 else 0 := by
  cases mempool <;> simp [NC.owned, npBuilt, mpoolBuilt]

attribute [local simp] evloopNew evloopInitSignal evloopInitBackend evloopInitExcept_stage
  evloopBackendExcept_stage EvLoop.stage nc_empty_wf nc_empty_owned evBuilt evMem evFds EvLoop.ownedMem
  EvLoop.ownedFds in
/-- `muggle_evloop_new` for a resolved backend `k` and effective hint `H`: block, context list, the
list's node pool if any, event signal and eventfd, then the two acquisitions of poll / epoll. -/
theorem evloopNew_core (f : Sched) (t : Int) (mempool : Bool) (hints : Int) (ns : Nat) (h : Heap)
    (k H : Nat) (hk : evloopType t = k) (hH : evHints hints = H)
    (hk3 : k = 1 ∨ k = 2 ∨ k = 3) (hH0 : H ≠ 0) (hHv : dsCapValid H = true) (hns : ns ≠ 0) :
    InitContract (evBuilt k mempool H ns) {} (evMem k mempool) (evFds k) (evN k mempool) f h
      (evloopNew f t mempool hints ns h) := by
  have hH : (if hints < 1 then 8 else hints.toNat) = H := hH
  have hll := evList_wf mempool H ns
  have hown := evList_owned mempool H ns
  -- `step` takes the count as `n + 1` and `call` as `n + n1`: the acquisitions, last one first
  rw [show evN k mempool = (if k = 1 then 0 else 2) + 1 + 1 + (if mempool then 4 else 0) + 1 + 1 by
    simp only [evN]; omega]
  -- the list is initialised at the heap two `alloc`s leave
  refine .of_tail (.step (fun f0 => ?_) fun f0 => .step (fun f1 => ?_) fun f1 =>
    .call (evList_contract f mempool H ns hH0 hHv hns
        { h with nacq := h.nacq + 1 + 1, mem := h.mem + 1 + 1 })
      (fun k' i' hg => ?_) fun hg => .step (fun f2 => ?_) fun f2 => .step (fun f3 => ?_) fun f3 => ?_)
  rotate_right
  · rcases hk3 with rfl | rfl | rfl
    · exact .done (by simp [*] <;> omega)
    all_goals
      refine .step (fun f4 => ?_) fun f4 => .step (fun f5 => ?_) fun f5 => .done ?_
      all_goals simp [*] <;> omega
  all_goals simp [*] <;> omega

/-- `muggle_evloop_new`: select / poll / epoll (any requested type), with or without node pool,
any `hints_max_fd`: between 4 and 10 acquisitions, two of them descriptors for epoll -/
theorem muggle_evloop_new_c18 (f : Sched) (t : Int) (mempool : Bool) (hints : Int) (hh : hints < 2 ^ 31)
    (ns : Nat) (hns : ns ≠ 0) (h : Heap) :
    InitContract (evBuilt (evloopType t) mempool (evHints hints) ns) {} (evMem (evloopType t) mempool)
      (evFds (evloopType t)) (evN (evloopType t) mempool) f h (evloopNew f t mempool hints ns h) :=
  evloopNew_core f t mempool hints ns h _ _ rfl rfl (evloopType_cases t) (evHints_pos hints)
    (evHints_valid hints hh) hns

theorem evBuilt_wf (k : Nat) (mempool : Bool) (H ns : Nat) (hk : k = 1 ∨ k = 2 ∨ k = 3) :
    (evBuilt k mempool H ns).wf := by
  rcases hk with rfl | rfl | rfl <;>
    exact ⟨rfl, rfl, evList_wf mempool H ns, rfl, rfl, rfl, by simp [evBuilt]⟩

theorem evBuilt_owned (k : Nat) (mempool : Bool) (H ns : Nat) (hk : k = 1 ∨ k = 2 ∨ k = 3) :
    (evBuilt k mempool H ns).ownedMem = evMem k mempool ∧ (evBuilt k mempool H ns).ownedFds = evFds k := by
  rcases hk with rfl | rfl | rfl <;>
    simp [evBuilt, EvLoop.ownedMem, EvLoop.ownedFds, evMem, evFds, evList_owned] <;> omega

/-- `muggle_evloop_add_ctx` on a well-formed loop, any backend: no error, loop stays well-formed,
exact accounting, success only without injected fault (weak contract: the poll backend may refuse
a context after the node pool has grown) -/
theorem muggle_evloop_add_ctx_c18 (f : Sched) (e : EvLoop) (h : Heap) (he : e.wf) :
    OpContract EvLoop.wf EvLoop.ownedMem EvLoop.ownedFds e h (evloopAdd f e h) := by
  obtain ⟨h1, h2, h3, h4, h5, h6, hk⟩ := he
  obtain ⟨c1, ok, hh1, hr, r1, _⟩ := ncAllocNode_spec f e.ll h h3 h4
  have hd1 : deref e.self = .ok () := by simp [h1]
  have hd2 : deref e.list = .ok () := by simp [h2]
  -- the loop with its list replaced: the accounting of the list carries over
  have lift : ∀ (c : NC) (n : Nat) (ok : Bool) (h' : Heap),
      OpResult (fun c' => c'.wf ∧ c'.table = .null) NC.owned zeroFd e.ll h c ok h' →
      OpResult EvLoop.wf EvLoop.ownedMem EvLoop.ownedFds e h { e with ll := c, nfd := n } ok h' := by
    rintro c n ok h' ⟨⟨hw, ht⟩, hm, hf, hn, hi, hc⟩
    refine ⟨⟨h1, h2, hw, ht, h5, h6, hk⟩, ?_, ?_, hn, hi, hc⟩
    · simp only [EvLoop.ownedMem]; omega
    · simp only [EvLoop.ownedFds, zeroFd] at hf ⊢; omega
  simp only [evloopAdd, hd1, hd2, ncInsert, hr]
  cases ok with
  | false => exact opContract_ok.mpr (lift c1 e.nfd false hh1 r1)
  | true =>
    dsimp only
    split
    · split
      · obtain ⟨c2, hh2, hr2, r2⟩ := ncRemoveFirst_spec c1 hh1 r1.wf'.1 r1.wf'.2
        simp only [hr2]
        exact opContract_ok.mpr (lift c2 e.nfd false hh2 (r1.trans r2.of_true))
      · exact opContract_ok.mpr (lift c1 (e.nfd + 1) true hh1 r1)
    · exact opContract_ok.mpr (lift c1 e.nfd true hh1 r1)

end MgProof.C18
