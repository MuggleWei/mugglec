import MgProof.C18.LemmasOps
/-!
# C18 — node containers (linked list, queue, AVL tree, hash table, trie)

Every fact about an operation carries, in the well-formedness predicate of its contract, that the
bucket array is not touched (`c'.table = t` for the `t` the caller knows `c.table` to be): the
families need it, the theorems per function drop it by `.mono`.
-/
namespace MgProof.C18
open MgModel.C18

-- a contract on an evaluated result `.ok (c', ok, h')` becomes arithmetic on the fields
attribute [local simp] MPool.wf MPool.owned zeroFd opResult_iff

def _root_.MgModel.C18.NPool.wf (n : NPool) : Prop :=
  (n.cell = .null ∧ n.pool = {}) ∨ (n.cell = .own ∧ n.pool.wf)

/-- a node container: pool as above; the bucket array absent (not a hash table) or owned; the
`malloc`ed nodes are exactly the elements when there is no pool, none when there is one -/
def _root_.MgModel.C18.NC.wf (c : NC) : Prop :=
  c.np.wf ∧ (c.table = .null ∨ c.table = .own) ∧
  (c.np.cell = .null → c.nodes = c.size) ∧ (c.np.cell = .own → c.nodes = 0)

attribute [local simp] NPool.owned NC.owned

def npBuilt (cap ns : Nat) : NPool := { cell := .own, pool := mpoolBuilt cap ns }

theorem npInit_nopool (f : Sched) (ns : Nat) (h : Heap) : npInit f 0 ns h = .ok ({}, true, h) := by
  simp [npInit]

theorem npInit_invalid (f : Sched) (cap ns : Nat) (h0 : cap ≠ 0) (hc : dsCapValid cap = false) (h : Heap) :
    npInit f cap ns h = .ok ({}, false, h) := by
  simp [npInit, h0, hc]

/-- the `if (capacity > 0)` block of the five node containers: pool block + `muggle_memory_pool_init` -/
theorem npInit_contract (f : Sched) (cap ns : Nat) (h0 : cap ≠ 0) (hc : dsCapValid cap = true)
    (hns : ns ≠ 0) (h : Heap) :
    InitContract (npBuilt cap ns) {} 4 0 4 f h (npInit f cap ns h) := by
  refine .of_tail (.step (fun f0 => ?_) fun f0 =>
    .call (muggle_memory_pool_init_c18 f cap ns hns { h with nacq := h.nacq + 1, mem := h.mem + 1 })
      (fun k' i' hg => ?_) fun hg => .done ?_)
  all_goals simp [npInit, npBuilt, *] <;> omega

theorem ncInit_nopool (f : Sched) (ns : Nat) (h : Heap) : ncInit f 0 ns h = .ok ({}, true, h) := by
  simp [ncInit, npInit_nopool]

/-- without a node pool the four `*_init` are the transaction of no acquisition -/
theorem ncInit_nopool_contract (f : Sched) (ns : Nat) (h : Heap) :
    InitContract ({} : NC) {} 0 0 0 f h (ncInit f 0 ns h) :=
  .of_tail (.done (by simp [ncInit_nopool]))

/-- `muggle_linked_list_init`, `muggle_queue_init`, `muggle_avl_tree_init`, `muggle_trie_init`
with a node pool (without one they acquire nothing: `ncInit_nopool`) -/
theorem node_container_init_c18 (f : Sched) (cap ns : Nat) (h0 : cap ≠ 0) (hc : dsCapValid cap = true)
    (hns : ns ≠ 0) (h : Heap) :
    InitContract ({ np := npBuilt cap ns } : NC) {} 4 0 4 f h (ncInit f cap ns h) := by
  -- `call` takes the count as `n + n1`: nothing follows the pool
  refine .of_tail (.call (n := 0) (npInit_contract f cap ns h0 hc hns h)
    (fun k' i' hg => ?_) fun hg => .done ?_)
  all_goals simp [ncInit, *]

theorem npDestroy_spec (n : NPool) (hn : n.wf) :
    ∃ n', ∀ h, npDestroy n h = .ok (n', h.release n.owned 0) := by
  rcases hn with ⟨hcell, hpool⟩ | ⟨hcell, hpool⟩
  · exact ⟨n, fun h => by simp [npDestroy, hcell, hpool]⟩
  · exact ⟨{ cell := .dang, pool := {} }, fun h => by
      simp [npDestroy, hcell, mpoolDestroy_wf _ _ hpool]; omega⟩

theorem npBuilt_wf (cap ns : Nat) : (npBuilt cap ns).wf := by
  simp [NPool.wf, npBuilt, mpoolBuilt]

theorem npBuilt_owned (cap ns : Nat) : (npBuilt cap ns).owned = 4 := by
  simp [npBuilt, mpoolBuilt]

/-- `muggle_hash_table_init` without a node pool (any node size) -/
theorem htabInit_contract0 (f : Sched) (ns : Nat) (h : Heap) :
    InitContract ({ table := .own } : NC) {} 1 0 1 f h (htabInit f 0 ns h) := by
  refine .of_tail (.step (fun f0 => ?_) fun f0 => .done ?_)
  all_goals simp [htabInit, npInit, npDestroy, *]

theorem muggle_hash_table_init_c18 (f : Sched) (cap ns : Nat) (hc : dsCapValid cap = true)
    (hns : ns ≠ 0) (h : Heap) :
    (cap = 0 → InitContract ({ table := .own } : NC) {} 1 0 1 f h (htabInit f cap ns h)) ∧
    (cap ≠ 0 → InitContract ({ np := npBuilt cap ns, table := .own } : NC) {} 5 0 5 f h
      (htabInit f cap ns h)) := by
  refine ⟨fun h0 => h0 ▸ htabInit_contract0 f ns h, fun h0 => ?_⟩
  · obtain ⟨n', hn'⟩ := npDestroy_spec (npBuilt cap ns) (npBuilt_wf cap ns)
    rw [npBuilt_owned] at hn'
    refine .of_tail (.call (npInit_contract f cap ns h0 hc hns h)
      (fun k' i' hg => ?_) fun hg => .step (fun f4 => ?_) fun f4 => .done ?_)
    all_goals simp [htabInit, *] <;> omega

theorem nc_nopool_wf (t : Cell) (ht : t = .null ∨ t = .own) : ({ table := t } : NC).wf := by
  simp [NC.wf, NPool.wf, ht]

theorem nc_empty_wf : ({} : NC).wf := nc_nopool_wf .null (.inl rfl)

theorem nc_empty_owned : ({} : NC).owned = 0 := by simp

theorem nc_built_wf (cap ns : Nat) (t : Cell) (ht : t = .null ∨ t = .own) :
    ({ np := npBuilt cap ns, table := t } : NC).wf := by
  refine ⟨npBuilt_wf cap ns, ht, ?_, ?_⟩ <;> simp [npBuilt]

theorem ncAllocNode_spec (f : Sched) (c : NC) (h : Heap) (hc : c.wf) {t : Cell} (htab : c.table = t) :
    ∃ c' ok h', ncAllocNode f c h = .ok (c', ok, h') ∧
      OpResult (fun c' => c'.wf ∧ c'.table = t) NC.owned zeroFd c h c' ok h' ∧
      (ok = false → c' = c) ∧ c'.keys = c.keys ∧ c'.size = (if ok then c.size + 1 else c.size) := by
  subst htab
  obtain ⟨hnp, ht, hn0, hn1⟩ := hc
  rcases hnp with ⟨hcell, hpool⟩ | ⟨hcell, hpool⟩
  · by_cases f0 : f h.nacq = true
    · exact ⟨c, false, { h with nacq := h.nacq + 1, inj := h.inj + 1 },
        by simp [ncAllocNode, hcell, f0], by simp [NC.wf, NPool.wf, *], by simp⟩
    · refine ⟨{ c with nodes := c.nodes + 1, size := c.size + 1 }, true,
        { h with nacq := h.nacq + 1, mem := h.mem + 1 }, by simp [ncAllocNode, hcell, f0], ?_, by simp⟩
      simp [NC.wf, NPool.wf, *]
      omega
  · obtain ⟨p', ok, h', hr, hres, hs⟩ := muggle_memory_pool_alloc_c18 f c.np.pool h hpool
    refine ⟨{ c with np := { c.np with pool := p' }, size := if ok then c.size + 1 else c.size }, ok, h',
      by simp only [ncAllocNode, hcell, hr], ?_, fun hok => ?_, rfl, rfl⟩
    · obtain ⟨hw, hm, hf, hn, hi, hcl⟩ := hres
      simp [NC.wf, NPool.wf, hcell, ht, hn1, hw.1, hw.2] at hm hf ⊢
      exact ⟨by omega, hf, hn, hi, hcl⟩
    · cases hs hok
      simp [hok]

theorem ncFreeNode_spec (c : NC) (h : Heap) (hc : c.wf) (hs : c.size > 0) {t : Cell} (htab : c.table = t) :
    ∃ c' h', ncFreeNode c h = .ok (c', h') ∧
      OpResult (fun c' => c'.wf ∧ c'.table = t) NC.owned zeroFd c h c' true h' ∧
      c'.keys = c.keys ∧ c'.size = c.size - 1 := by
  subst htab
  obtain ⟨hnp, ht, hn0, hn1⟩ := hc
  rcases hnp with ⟨hcell, hpool⟩ | ⟨hcell, hpool⟩
  · refine ⟨{ c with nodes := c.nodes - 1, size := c.size - 1 }, h.release 1 0,
      by simp [ncFreeNode, hcell], ?_, rfl, rfl⟩
    simp [NC.wf, NPool.wf, *]
    omega
  · exact ⟨{ c with np.pool.used := c.np.pool.used - 1, size := c.size - 1 }, h,
      by simp only [ncFreeNode, hcell, mpoolFree_ok _ _ hpool],
      by simpa [NC.wf, NPool.wf, hcell, ht, hn1] using hpool, rfl, rfl⟩

theorem ncClear_spec (c : NC) (hc : c.wf) :
    ∃ c', (∀ h, ncClear c h = .ok (c', h.release (c.owned - c'.owned) 0)) ∧
      c'.wf ∧ c'.table = c.table ∧ c'.nodes = 0 ∧ c'.size = 0 := by
  obtain ⟨hnp, ht, hn0, hn1⟩ := hc
  by_cases hz : c.size = 0
  · refine ⟨c, fun h => by simp [ncClear, hz], ⟨hnp, ht, hn0, hn1⟩, rfl, ?_, hz⟩
    rcases hnp with ⟨hcell, _⟩ | ⟨hcell, _⟩
    · rw [hn0 hcell, hz]
    · exact hn1 hcell
  · rcases hnp with ⟨hcell, hpool⟩ | ⟨hcell, hpool⟩
    · exact ⟨{ c with nodes := 0, size := 0, keys := [], paths := [] },
        fun h => by simp [ncClear, hz, hcell]; omega, by simp [NC.wf, NPool.wf, *], rfl, rfl, rfl⟩
    · exact ⟨{ c with np.pool.used := c.np.pool.used - c.size, size := 0, keys := [], paths := [] },
        -- `h` taken apart so that releasing `0` gives `h` back
        fun h => by cases h; simp [ncClear, hz, hcell, hpool.2],
        by simpa [NC.wf, NPool.wf, hcell, ht, hn1] using hpool, rfl, hn1 hcell, rfl⟩

theorem ncInsert_spec (f : Sched) (c : NC) (h : Heap) (hc : c.wf) {t : Cell} (htab : c.table = t) :
    OpContractS (fun c' => c'.wf ∧ c'.table = t) NC.owned zeroFd c h (ncInsert f c h) := by
  obtain ⟨c', ok, h', hr, hres, hs, _⟩ := ncAllocNode_spec f c h hc htab
  exact ⟨c', ok, h', hr, hres, hs⟩

/-- `muggle_linked_list_insert / append`, `muggle_queue_enqueue` (nodes from `malloc` or from the
growing node pool) -/
theorem node_container_insert_c18 (f : Sched) (c : NC) (h : Heap) (hc : c.wf) :
    OpContractS NC.wf NC.owned zeroFd c h (ncInsert f c h) :=
  (ncInsert_spec f c h hc rfl).mono fun _ => And.left

theorem ncRemoveFirst_spec (c : NC) (h : Heap) (hc : c.wf) {t : Cell} (htab : c.table = t) :
    ∃ c' h', ncRemoveFirst c h = .ok (c', h') ∧
      OpResult (fun c' => c'.wf ∧ c'.table = t) NC.owned zeroFd c h c' true h' := by
  by_cases hz : c.size = 0
  · exact ⟨c, h, by simp [ncRemoveFirst, hz], .refl true ⟨hc, htab⟩⟩
  · obtain ⟨c', h', hr, hres, _⟩ := ncFreeNode_spec c h hc (by omega) htab
    exact ⟨c', h', by simp [ncRemoveFirst, hz, hr], hres⟩

/-- keyed containers: every key has its node -/
def _root_.MgModel.C18.NC.wfK (c : NC) : Prop := c.wf ∧ c.keys.length ≤ c.size

theorem nc_nopool_wfK (t : Cell) (ht : t = .null ∨ t = .own) : ({ table := t } : NC).wfK :=
  ⟨nc_nopool_wf t ht, by simp⟩

theorem nc_built_wfK (cap ns : Nat) (t : Cell) (ht : t = .null ∨ t = .own) :
    ({ np := npBuilt cap ns, table := t } : NC).wfK := ⟨nc_built_wf cap ns t ht, by simp⟩

theorem ncInsertKey_spec (f : Sched) (c : NC) (k : Nat) (h : Heap) (hc : c.wfK) {t : Cell}
    (htab : c.table = t) :
    OpContractS (fun c' => c'.wfK ∧ c'.table = t) NC.owned zeroFd c h (ncInsertKey f c k h) := by
  unfold ncInsertKey
  split
  · exact opContractS_ok.mpr ⟨.refl false ⟨hc, htab⟩, fun _ => rfl⟩
  · obtain ⟨c', ok, h', hr, ⟨hw', hm, hf, hn, hi, hcl⟩, hs, hkeys, hsize⟩ := ncAllocNode_spec f c h hc.1 htab
    rw [hr]
    cases ok with
    | false =>
      cases hs rfl
      exact opContractS_ok.mpr ⟨⟨⟨hc, htab⟩, hm, hf, hn, hi, hcl⟩, fun _ => rfl⟩
    | true =>
      have hk := hc.2
      refine opContractS_ok.mpr ⟨⟨⟨⟨hw'.1, ?_⟩, hw'.2⟩, hm, hf, hn, hi, hcl⟩, nofun⟩
      simp [hkeys, hsize]
      omega

/-- `muggle_avl_tree_insert`, `muggle_hash_table_put` -/
theorem keyed_container_insert_c18 (f : Sched) (c : NC) (k : Nat) (h : Heap) (hc : c.wfK) :
    OpContractS NC.wfK NC.owned zeroFd c h (ncInsertKey f c k h) :=
  (ncInsertKey_spec f c k h hc rfl).mono fun _ => And.left

theorem ncRemoveKey_spec (c : NC) (k : Nat) (h : Heap) (hc : c.wfK) {t : Cell} (htab : c.table = t) :
    ∃ c' h', ncRemoveKey c k h = .ok (c', h') ∧
      OpResult (fun c' => c'.wfK ∧ c'.table = t) NC.owned zeroFd c h c' true h' := by
  by_cases hmem : k ∈ c.keys
  · have hpos : c.keys.length > 0 := List.length_pos_of_mem hmem
    have hk := hc.2
    obtain ⟨c', h', hr, ⟨hw', hm, hf, hn, hi, hcl⟩, hkeys, hsize⟩ := ncFreeNode_spec c h hc.1 (by omega) htab
    refine ⟨{ c' with keys := c'.keys.erase k }, h', by simp [ncRemoveKey, hmem, hr],
      ⟨⟨hw'.1, ?_⟩, hw'.2⟩, hm, hf, hn, hi, hcl⟩
    simp [hkeys, hsize, List.length_erase_of_mem hmem]
    omega
  · exact ⟨c, h, by simp [ncRemoveKey, hmem], .refl true ⟨hc, htab⟩⟩

theorem trieInsertPaths_spec (f : Sched) (ps : List String) (c : NC) (h : Heap) (hc : c.wf) {t : Cell}
    (htab : c.table = t) :
    OpContract (fun c' => c'.wf ∧ c'.table = t) NC.owned zeroFd c h (trieInsertPaths f ps c h) := by
  induction ps generalizing c h with
  | nil => exact opContract_ok.mpr (.refl true ⟨hc, htab⟩)
  | cons p ps ih =>
    unfold trieInsertPaths
    split
    · exact ih c h hc htab
    · obtain ⟨c1, ok, h1, hr, hres, _⟩ := ncAllocNode_spec f c h hc htab
      rw [hr]
      cases ok with
      | false => exact opContract_ok.mpr hres
      | true =>
        obtain ⟨c2, ok2, h2, hr2, hres2⟩ := ih { c1 with paths := p :: c1.paths } h1 hres.wf'.1 hres.wf'.2
        -- `hres2` starts from `c1` with the new prefix, which owns what `c1` owns
        exact ⟨c2, ok2, h2, hr2, hres.trans (hres2.of_own_eq rfl rfl)⟩

/-- `muggle_trie_insert`, keys of every length — **partial**: the full clause ("releases
everything it had acquired") is *false* for the trie (see `trie_insert_keeps_prefix_nodes`);
what holds is: no `Err`, the trie stays well-formed, every node acquired is owned by the trie
(exact accounting, so `muggle_trie_destroy` releases it), success only without injected fault.
Missing for the full clause: the nodes created before the failing allocation would have to be
unlinked and freed again by `muggle_trie_insert`. -/
theorem muggle_trie_insert_c18_partial (f : Sched) (c : NC) (key : String) (h : Heap) (hc : c.wf) :
    OpContract NC.wf NC.owned zeroFd c h (trieInsert f c key h) :=
  (trieInsertPaths_spec f _ c h hc rfl).mono fun _ => And.left

/-- `muggle_linked_list_destroy / queue_destroy / avl_tree_destroy / trie_destroy` -/
theorem ncDestroy_spec (c : NC) (hc : c.wf) (ht : c.table = .null) :
    ∃ c', ∀ h, ncDestroy c h = .ok (c', h.release c.owned 0) := by
  obtain ⟨c1, hr1, hw1, ht1, hn1⟩ := ncClear_spec c hc
  obtain ⟨n2, hr2⟩ := npDestroy_spec c1.np hw1.1
  refine ⟨{ c1 with np := n2 }, fun h => ?_⟩
  simp [ncDestroy, hr1, hr2, hn1, ht1, ht]
  omega

theorem htabDestroy_spec (c : NC) (hc : c.wf) :
    ∃ c', ∀ h, htabDestroy c h = .ok (c', h.release c.owned 0) := by
  obtain ⟨c1, hr1, hw1, ht1, hn1⟩ := ncClear_spec c hc
  obtain ⟨n2, hr2⟩ := npDestroy_spec c1.np hw1.1
  refine ⟨{ c1 with np := n2, table := c1.table.released }, fun h => ?_⟩
  rcases hc.2.1 with ht | ht <;> simp [htabDestroy, hr1, hr2, hn1, ht1, ht] <;> omega

theorem ncDestroy_empty (h : Heap) : ∃ c', ncDestroy {} h = .ok (c', h) := by
  obtain ⟨c', hr⟩ := ncDestroy_spec {} nc_empty_wf rfl
  exact ⟨c', by simpa [Heap.release_zero] using hr h⟩

theorem htabDestroy_empty (h : Heap) : ∃ c', htabDestroy {} h = .ok (c', h) := by
  obtain ⟨c', hr⟩ := htabDestroy_spec {} nc_empty_wf
  exact ⟨c', by simpa [Heap.release_zero] using hr h⟩

end MgProof.C18
