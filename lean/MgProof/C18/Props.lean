import MgProof.C18.LemmasFam
/-!
# C18 — property theorems: allocation failure is reported, leak-free and crash-free;
destroy releases all

Statement (properties.jsonl): *if any single memory allocation (or descriptor-creating system
call) fails during any init, growth, insert or logging operation of the library, the call
reports failure, never success with a half-built object and never a crash or hang, releases
everything it had acquired, and leaves the object safe to destroy or retry.  On the success path
every init/destroy (or thread-context init/cleanup) pair releases everything allocated in
between.*

Quantifiers of the theorems of this directory: **every** fault schedule `f : Nat → Bool` (any
number of failing acquisitions, not just one), every heap / schedule position at which the call
starts, every parameter combination that selects a different path (lock kinds, backends, node pool
or not, capacities), every well-formed object state for growers / inserters, and — for the
life-cycle theorems — every list of calls, including retries and destroy after a failed constructor.

The models (`MgModel/C18/*.lean`) describe the code with `/verif/fixes/C18-*.patch` applied; tie B
(`checks/C18/check.py`) compares them with the compiled code at every fault position.

Where the clauses are proved: every constructor reports failure exactly when an acquisition failed,
then with the empty object and nothing left (`InitContract`: `*_init_c18`, `muggle_socket_create_c18`,
`muggle_evloop_new_c18` in `Lemmas`, `LemmasOps`, `LemmasNC`, `LemmasEv`); growers, inserters and
logging from any well-formed state (`OpContract(S)`: `*_ensure*_c18`, `*_insert_c18`, `*_alloc_c18`,
`*_add_ctx_c18`, `muggle_trie_insert_c18_partial`; logging stated directly:
`muggle_async_logger_log_c18`; same files); all clauses over whole call sequences, and init /
destroy pairs (`lifecycle_*` in `LemmasFam`).  Here: the readings of the contract in the words of
the property, what has no object, destroy after a failed init, and examples.
-/
namespace MgProof.C18
open MgModel.C18

/-- Reading of the contract used in the property text: the constructor **reports failure iff one
of the acquisitions of its success path fails**, success comes with exactly the built object,
failure with the empty one and unchanged live counts; never `Err`. -/
theorem constructor_reports_exactly {α : Type} {built empty : α} {m fd : Int} {n : Nat} {f : Sched}
    {h : Heap} {r : Except Err (α × Bool × Heap)} (c : InitContract built empty m fd n f h r) :
    ∃ o ok h', r = .ok (o, ok, h') ∧ (ok = false ↔ ∃ i, i < n ∧ f (h.nacq + i) = true) ∧
      (ok = true → o = built ∧ h'.mem = h.mem + m ∧ h'.fds = h.fds + fd) ∧
      (ok = false → o = empty ∧ h'.mem = h.mem ∧ h'.fds = h.fds) := by
  obtain ⟨o, ok, h', hr, hiff, hok, hfail⟩ := c.total
  refine ⟨o, ok, h', hr, ?_, fun hk => ?_, fun hk => ?_⟩
  · rw [← not_clean_iff, ← hiff]
    cases ok <;> simp
  · obtain ⟨rfl, rfl⟩ := hok hk
    exact ⟨rfl, rfl, rfl⟩
  · obtain ⟨e1, e2, e3, _⟩ := hfail hk
    exact ⟨e1, e2, e3⟩

/-- `muggle_merge_sort`: scratch array; failure reported, nothing left -/
theorem muggle_merge_sort_c18 (f : Sched) (n : Nat) (h : Heap) :
    ∃ ok h', mergeSort f n h = .ok (ok, h') ∧ (ok = true ↔ (n < 2 ∨ f h.nacq = false)) ∧
      h'.mem = h.mem ∧ h'.fds = h.fds := by
  by_cases hn : n < 2
  · simp [mergeSort, hn]
  · cases hf : f h.nacq <;> simp [mergeSort, hf, hn]

/-- negation witness for the strong clause on the trie: inserting "ab" into an empty trie with
the second allocation failing reports failure but keeps one node -/
theorem trie_insert_keeps_prefix_nodes :
    ∃ c' h', trieInsert (fun k => k == 1) {} "ab" {} = .ok (c', false, h') ∧ h'.mem = 1 ∧ c'.owned = 1 := by
  refine ⟨_, _, rfl, rfl, rfl⟩

/-- `muggle_memory_pool_ensure_space` fails only for a reason: a fault, or a fixed-size pool -/
theorem muggle_memory_pool_ensure_space_succeeds_without_fault (f : Sched) (p : MPool) (c : Nat) (h : Heap) (hp : p.wf)
    (hflag : p.flag % 2 = 0) (hc : Clean f h.nacq 3) :
    ∃ p' h', mpoolEnsure f p c h = .ok (p', true, h') := by
  by_cases h1 : c ≤ p.cap
  · exact ⟨p, h, by simp [mpoolEnsure, h1]⟩
  · exact ⟨_, _, (mpoolEnsure_grows f p c h hp h1 hflag).1 hc⟩

/-- `*_ensure_capacity` likewise: a fault, or an invalid capacity -/
theorem array_container_ensure_succeeds_without_fault (f : Sched) (a : Arr) (c : Nat) (h : Heap) (ha : a.wf)
    (hv : dsCapValid c = true) (hc : Clean f h.nacq 1) :
    ∃ a' h', arrEnsure f a c h = .ok (a', true, h') := by
  by_cases h1 : a.cap ≥ c
  · exact ⟨a, h, by simp [arrEnsure, h1]⟩
  · exact ⟨_, _, (arrEnsure_grows f a c h ha h1 hv).1 hc⟩

/-- exactly the `k`-th acquisition (0-based) fails -/
def singleFault (k : Nat) : Sched := fun i => i == k

/-- the quantifier of the property, literally: exactly the `k`-th acquisition of the call fails -/
theorem single_fault_constructor {α : Type} {built empty : α} {m fd : Int} {n : Nat} {k : Nat} {h : Heap}
    {r : Except Err (α × Bool × Heap)}
    (c : InitContract built empty m fd n (singleFault (h.nacq + k)) h r) :
    (k < n → ∃ h', r = .ok (empty, false, h') ∧ h'.mem = h.mem ∧ h'.fds = h.fds) ∧
    (n ≤ k → r = .ok (built, true, Grow h m fd n)) := by
  refine ⟨fun hk => ?_, fun hk => c.1 fun i hi => by simp [singleFault]; omega⟩
  obtain ⟨h', hr, hf⟩ := c.2 ((not_clean_iff _ _ _).mpr ⟨k, hk, by simp [singleFault]⟩)
  exact ⟨h', hr, hf.1, hf.2.1⟩

/-- After a failure the object is safe to destroy: a failed constructor returns the empty object,
on which the destructor is a no-op without `Err`.  (Retry: no constructor model takes the old object
as input — the C functions `memset` or overwrite every field they test — except
`muggle_ma_ring_thread_ctx_init`, which after a failure starts from the same empty context.) -/
theorem destroy_after_failed_init_is_safe (h : Heap) :
    chanDestroy {} h = .ok ({}, h) ∧
    (∀ nulls, oneDestroy nulls {} h = .ok ({}, h)) ∧
    dbufDestroy {} h = .ok ({}, h) ∧
    maRingCleanup {} h = .ok ({}, h) ∧
    mpoolDestroy {} h = .ok ({}, h) ∧
    twoDestroy {} h = .ok ({}, h) ∧
    (∀ nulls, arrDestroy nulls {} h = .ok ({}, h)) ∧
    (∃ c', ncDestroy {} h = .ok (c', h)) ∧
    (∃ c', htabDestroy {} h = .ok (c', h)) ∧
    evsigDestroy {} h = .ok ({}, h) ∧
    evloopDelete {} h = .ok ({}, h) ∧
    sockhDestroy {} h = .ok ({}, h) ∧
    evpipeDestroy {} h = .ok ({}, h) ∧
    alogDestroy {} h = .ok ({}, h) :=
  ⟨chanDestroy_empty h, fun n => oneDestroy_empty n h, dbufDestroy_empty h, maRingCleanup_empty h,
   mpoolDestroy_empty h, twoDestroy_empty h, fun n => arrDestroy_empty n h, ncDestroy_empty h,
   htabDestroy_empty h, evsigDestroy_empty h, evloopDelete_empty h, sockhDestroy_empty h,
   evpipeDestroy_empty h, alogDestroy_empty h⟩

/-! ## Non-vacuity -/

/-- the third of four acquisitions of a mutex/mutex channel fails: failure, nothing left -/
example : chanInit (fun k => k == 2) true true true {} = .ok ({}, false, { nacq := 3, inj := 1 }) := rfl

example : chanInit (fun _ => false) true true true {} =
    .ok ({ wm := .own, rm := .own, rc := .own, blocks := .own }, true, { mem := 4, nacq := 4 }) := rfl

/-- every single-fault position of a channel constructor; position 4 is not reached -/
example : ∀ k, k < 5 → ∃ ok h', chanInit (singleFault k) true true true {} = .ok (if ok then chanBuilt true true else {}, ok, h') ∧
    ok = decide (4 ≤ k) ∧ h'.mem = (if ok then 4 else 0) := by
  intro k hk
  have : k = 0 ∨ k = 1 ∨ k = 2 ∨ k = 3 ∨ k = 4 := by omega
  rcases this with rfl | rfl | rfl | rfl | rfl <;> exact ⟨_, _, rfl, rfl, rfl⟩

/-- an epoll loop with node pool needs ten acquisitions; failing the tenth undoes the other nine -/
example : ∃ h', evloopNew (fun k => k == 9) 3 true 4 64 {} = .ok ({}, false, h') ∧
    h'.mem = 0 ∧ h'.fds = 0 ∧ h'.nacq = 10 := ⟨_, rfl, rfl, rfl, rfl⟩

/-- a life cycle with a failed constructor, a retry, growth under a fault, and the destructor -/
example : ∃ h' log, runLife mpoolFam (fun k => k == 1 || k == 7) .none
      [.init (1, 8), .init (1, 8), .op .alloc, .op .alloc, .op .alloc, .op .free, .destroy] {} =
      .ok (.none, h', log) ∧ h'.mem = 0 ∧ h'.nacq = 11 ∧
      log.map (·.ok) = [false, true, true, false, true, true] :=
  ⟨_, _, rfl, rfl, rfl, rfl⟩

end MgProof.C18
