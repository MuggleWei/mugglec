import MgModel.C18.Event
/-!
# C18 — the contract of a constructor; constructors and destructors of sync and memory

`InitContract`: under *every* fault schedule `f : Nat → Bool`, if none of the `n` acquisitions of
the success path fails the constructor returns success with exactly the built object and the heap
grown by what it owns; otherwise failure with the *empty* object (every resource field NULL) and
nothing it acquired left.  Never `Err` (NULL dereference, double free, use after free, hang).

All constructors but `twoInit` acquire in a fixed order and return at the first acquisition that
fails.  `InitTail` is the contract seen between two acquisitions; its rules `step`, `call`, `done`
follow the code, so a proof is one evaluation of the clean-up per fault position and one of the
success path.  The scoped simp set below is what runs a model.

A destructor has one equation `*_safe`: on every object without dangling field — built, empty, or
half-built as a failing constructor hands it to its clean-up — it releases what the object owns
(`maRingCleanup` excepted: it is not a field-by-field release and has the two point lemmas `_built`, `_empty`).
-/
namespace MgProof.C18
open MgModel.C18

def Clean (f : Sched) (k n : Nat) : Prop := ∀ i, i < n → f (k + i) = false

theorem clean_zero (f : Sched) (k : Nat) : Clean f k 0 ↔ True := by simp [Clean]

theorem clean_succ (f : Sched) (k n : Nat) :
    Clean f k (n + 1) ↔ (f k = false ∧ Clean f (k + 1) n) := by
  simp [Clean, Nat.forall_lt_succ_left, Nat.add_assoc, Nat.add_comm 1]

theorem clean_add (f : Sched) (k a b : Nat) :
    Clean f k (a + b) ↔ (Clean f k a ∧ Clean f (k + a) b) := by
  induction a generalizing k with
  | zero => simp [clean_zero]
  | succ a ih =>
    rw [Nat.add_right_comm a 1 b, clean_succ, clean_succ, ih, and_assoc, Nat.add_right_comm k 1 a,
      Nat.add_assoc k a 1]

theorem not_clean_iff (f : Sched) (k n : Nat) : ¬ Clean f k n ↔ ∃ i, i < n ∧ f (k + i) = true := by
  simp [Clean]

def Grow (h : Heap) (m fd : Int) (n : Nat) : Heap :=
  { mem := h.mem + m, fds := h.fds + fd, nacq := h.nacq + n, inj := h.inj }

/-- the heap after a call that failed because of an injected fault: nothing is left of what the
call acquired, at least one fault was consumed, at most `n` acquisitions were attempted -/
def Failed (h h' : Heap) (n : Nat) : Prop :=
  h'.mem = h.mem ∧ h'.fds = h.fds ∧ h.inj < h'.inj ∧ h.nacq < h'.nacq ∧ h'.nacq ≤ h.nacq + n

/-- `n` acquisitions on the success path; `built` owns `m` blocks and `fd` descriptors; `empty` has
every resource field NULL -/
def InitContract {α : Type} (built empty : α) (m fd : Int) (n : Nat) (f : Sched) (h : Heap)
    (r : Except Err (α × Bool × Heap)) : Prop :=
  (Clean f h.nacq n → r = .ok (built, true, Grow h m fd n)) ∧
  (¬ Clean f h.nacq n → ∃ h', r = .ok (empty, false, h') ∧ Failed h h' n)

theorem InitContract.total {α : Type} {built empty : α} {m fd : Int} {n : Nat} {f : Sched} {h : Heap}
    {r : Except Err (α × Bool × Heap)} (c : InitContract built empty m fd n f h r) :
    ∃ o ok h', r = .ok (o, ok, h') ∧ (ok = true ↔ Clean f h.nacq n) ∧
      (ok = true → o = built ∧ h' = Grow h m fd n) ∧
      (ok = false → o = empty ∧ Failed h h' n) := by
  by_cases hc : Clean f h.nacq n
  · exact ⟨built, true, _, c.1 hc, by simp [hc], by simp, by simp⟩
  · obtain ⟨h', hr, hf⟩ := c.2 hc
    exact ⟨empty, false, h', hr, by simp [hc], by simp, by simp [hf]⟩

/-- The contract seen from inside the constructor: acquisition number `k` is the next, `n` are
still ahead.  `hfin` is the heap of the success return; a failure return has the live counts
`bm`, `bf` (those at entry) and more than `i` (those at entry) injected faults. -/
def InitTail {α : Type} (built empty : α) (hfin : Heap) (bm bf : Int) (i k n : Nat) (f : Sched)
    (r : Except Err (α × Bool × Heap)) : Prop :=
  (Clean f k n → r = .ok (built, true, hfin)) ∧
  (¬ Clean f k n → ∃ h', r = .ok (empty, false, h') ∧
    h'.mem = bm ∧ h'.fds = bf ∧ i < h'.inj ∧ k < h'.nacq ∧ h'.nacq ≤ k + n)

section rules
variable {α : Type} {built empty : α} {hfin : Heap} {bm bf : Int} {i k n : Nat} {f : Sched}
  {r : Except Err (α × Bool × Heap)}

theorem InitContract.of_tail {m fd : Int} {h : Heap}
    (t : InitTail built empty (Grow h m fd n) h.mem h.fds h.inj h.nacq n f r) :
    InitContract built empty m fd n f h r := t

theorem InitTail.done (hr : r = .ok (built, true, hfin)) : InitTail built empty hfin bm bf i k 0 f r :=
  ⟨fun _ => hr, fun hc => absurd (fun _ hi => absurd hi (Nat.not_lt_zero _)) hc⟩

/-- One acquisition.  `hfault`: when it fails, the call returns `empty` and has released what it
held; `hrest`: when it succeeds, the contract of the rest. -/
theorem InitTail.step
    (hfault : f k = true → r = .ok (empty, false, ⟨bm, bf, k + 1, i + 1⟩))
    (hrest : f k = false → InitTail built empty hfin bm bf i (k + 1) n f r) :
    InitTail built empty hfin bm bf i k (n + 1) f r := by
  unfold InitTail
  rw [clean_succ]
  cases hf : f k with
  | true =>
    exact ⟨(fun hc => nomatch hc.1), fun _ => ⟨_, hfault hf, rfl, rfl, by simp, by simp, by simp⟩⟩
  | false =>
    obtain ⟨t1, t2⟩ := hrest hf
    refine ⟨fun hc => t1 hc.2, fun hc => ?_⟩
    obtain ⟨h', hr, hm, hfd, hi, hk, hn⟩ := t2 fun hc' => hc ⟨rfl, hc'⟩
    exact ⟨h', hr, hm, hfd, hi, by omega, by omega⟩

/-- A nested constructor `g`, called at heap `h1`, with contract `c`.  `hfault`: when `g` fails
(leaving the live counts of `h1`), the call returns `empty` and has released what it held.
`hi` holds by `rfl` wherever no fault can have been consumed before the call.  `h1` is to be written
the way `simp` writes the heap reached at the call: the leaves rewrite with the equation `hfault` / `hrest`
bring, whose left side mentions `h1`. -/
theorem InitTail.call {β : Type} {b1 e1 : β} {m1 fd1 : Int} {n1 : Nat} {h1 : Heap}
    {g : Except Err (β × Bool × Heap)} (c : InitContract b1 e1 m1 fd1 n1 f h1 g)
    (hfault : ∀ k' i', g = .ok (e1, false, ⟨h1.mem, h1.fds, k', i'⟩) →
      r = .ok (empty, false, ⟨bm, bf, k', i'⟩))
    (hrest : g = .ok (b1, true, Grow h1 m1 fd1 n1) →
      InitTail built empty hfin bm bf i (h1.nacq + n1) n f r)
    (hi : i ≤ h1.inj := by exact Nat.le_refl _) :
    InitTail built empty hfin bm bf i h1.nacq (n + n1) f r := by
  unfold InitTail
  rw [Nat.add_comm n n1, clean_add]
  by_cases hc1 : Clean f h1.nacq n1
  · obtain ⟨t1, t2⟩ := hrest (c.1 hc1)
    refine ⟨fun hc => t1 hc.2, fun hc => ?_⟩
    obtain ⟨h', hr, hm, hfd, hi', hk, hn⟩ := t2 fun hc' => hc ⟨hc1, hc'⟩
    exact ⟨h', hr, hm, hfd, hi', by omega, by omega⟩
  · obtain ⟨⟨m', fd', k', i'⟩, hg, hm, hfd, hi', hk, hn⟩ := c.2 hc1
    cases hm
    cases hfd
    exact ⟨fun hc => absurd hc.1 hc1,
      fun _ => ⟨_, hfault k' i' hg, rfl, rfl, Nat.lt_of_le_of_lt hi hi', hk, by simp at hn ⊢; omega⟩⟩

end rules

def _root_.MgModel.C18.Heap.release (h : Heap) (dm dfd : Int) : Heap :=
  { h with mem := h.mem - dm, fds := h.fds - dfd }

@[scoped simp] theorem owned_own : Cell.owned .own = 1 := rfl
@[scoped simp] theorem owned_null : Cell.owned .null = 0 := rfl

attribute [scoped simp] alloc openFd openPipe free closeFd deref freeMany bind Except.bind pure
  Except.pure Grow Heap.release

/-- For a cell known only to be `≠ .dang`.  Destructor proofs call `simp [free_safe, -free]`: `free` is in
the scoped set and would unfold to a stuck `match` before this can rewrite. -/
theorem free_safe {c : Cell} (hc : c ≠ .dang) (h : Heap) : free c h = .ok (h.release c.owned 0) := by
  cases c <;> simp at hc ⊢

theorem closeFd_safe {c : Cell} (hc : c ≠ .dang) (h : Heap) :
    closeFd c h = .ok (h.release 0 c.owned) := by
  cases c <;> simp at hc ⊢

theorem Cell.safe_iff {c : Cell} : c.safe = true ↔ c ≠ .dang := by cases c <;> simp [Cell.safe]

theorem Heap.release_zero (h : Heap) : h.release 0 0 = h := by cases h; simp

def chanBuilt (w r : Bool) : Chan :=
  { wm := if w then .own else .null, rm := if r then .own else .null,
    rc := if r then .own else .null, blocks := .own }

theorem chanBuilt_owned (w r : Bool) : (chanBuilt w r).owned = chanN w r := by
  cases w <;> cases r <;> simp [chanBuilt, Chan.owned, chanN]

/-- `muggle_channel_destroy` tests and frees every field, so it serves the built channel, the empty
one and every stage of `muggle_channel_init` in between -/
theorem chanDestroy_safe (c : Chan) (hs : c.safe = true) (h : Heap) :
    chanDestroy c h = .ok ({}, h.release c.owned 0) := by
  simp only [Chan.safe, Bool.and_eq_true, Cell.safe_iff] at hs
  obtain ⟨⟨⟨h1, h2⟩, h3⟩, h4⟩ := hs
  simp [chanDestroy, free_safe, -free, h1, h2, h3, h4, Chan.owned]
  omega

theorem chanDestroy_empty (h : Heap) : chanDestroy {} h = .ok ({}, h) := by
  simpa [Heap.release_zero, Chan.owned] using chanDestroy_safe {} rfl h

theorem chanExcept_safe (c : Chan) (hs : c.safe = true) (h : Heap) :
    chanExcept c h = .ok ({}, false, h.release c.owned 0) := by
  simp [chanExcept, chanDestroy_safe c hs]

attribute [local simp] chanInit chanInitRead chanInitBlocks chanExcept_safe Chan.safe Cell.safe Chan.owned
  chanBuilt chanN in
/-- `muggle_channel_init`, all lock / reader kinds -/
theorem muggle_channel_init_c18 (f : Sched) (w r : Bool) (h : Heap) :
    InitContract (chanBuilt w r) ({} : Chan) (chanN w r) 0 (chanN w r) f h (chanInit f true w r h) := by
  cases w <;> cases r
  · refine .of_tail (.step (fun f0 => ?_) fun f0 => .done ?_)
    all_goals simp [*]
  · refine .of_tail (.step (fun f0 => ?_) fun f0 => .step (fun f1 => ?_) fun f1 =>
      .step (fun f2 => ?_) fun f2 => .done ?_)
    all_goals simp [*] <;> omega
  · refine .of_tail (.step (fun f0 => ?_) fun f0 => .step (fun f1 => ?_) fun f1 => .done ?_)
    all_goals simp [*] <;> omega
  · refine .of_tail (.step (fun f0 => ?_) fun f0 => .step (fun f1 => ?_) fun f1 =>
      .step (fun f2 => ?_) fun f2 => .step (fun f3 => ?_) fun f3 => .done ?_)
    all_goals simp [*] <;> omega

theorem chanInit_invalid (f : Sched) (w r : Bool) (h : Heap) :
    chanInit f false w r h = .ok ({}, false, h) := by simp [chanInit]

theorem chanBuilt_safe (w r : Bool) : (chanBuilt w r).safe = true := by cases w <;> cases r <;> rfl

/-- `muggle_ring_buffer_init`, `muggle_array_blocking_queue_init`, `muggle_sowr_memory_pool_init`,
`muggle_ring_memory_pool_init`, `muggle_bytes_buffer_init`, `muggle_flow_ctl_init`,
`muggle_fast_flow_ctl_init` -/
theorem single_array_init_c18 (f : Sched) (h : Heap) :
    InitContract ({ p := .own } : One) {} 1 0 1 f h (oneInit f true h) := by
  refine .of_tail (.step (fun f0 => ?_) fun f0 => .done ?_)
  all_goals simp [oneInit, *]

theorem oneInit_invalid (f : Sched) (h : Heap) : oneInit f false h = .ok ({}, false, h) := by
  simp [oneInit]

theorem oneDestroy_safe (nulls : Bool) (o : One) (hs : o.safe = true) (h : Heap) :
    oneDestroy nulls o h = .ok ({ p := if nulls then .null else o.p.released }, h.release o.owned 0) := by
  simp only [oneDestroy, free_safe (Cell.safe_iff.mp hs)]
  rfl

theorem oneDestroy_empty (nulls : Bool) (h : Heap) : oneDestroy nulls {} h = .ok ({}, h) := by
  cases nulls <;> simpa [Heap.release_zero, One.owned, Cell.released] using oneDestroy_safe _ {} rfl h

theorem muggle_double_buffer_init_c18 (f : Sched) (h : Heap) :
    InitContract ({ b0 := .own, b1 := .own } : DBuf) {} 2 0 2 f h (dbufInit f true h) := by
  refine .of_tail (.step (fun f0 => ?_) fun f0 => .step (fun f1 => ?_) fun f1 => .done ?_)
  all_goals simp [dbufInit, *] <;> omega

theorem dbufInit_invalid (f : Sched) (h : Heap) : dbufInit f false h = .ok ({}, false, h) := by
  simp [dbufInit]

theorem dbufDestroy_safe (d : DBuf) (hs : d.safe = true) (h : Heap) :
    dbufDestroy d h = .ok ({ b0 := d.b0.released, b1 := d.b1.released }, h.release d.owned 0) := by
  simp only [DBuf.safe, Bool.and_eq_true, Cell.safe_iff] at hs
  simp [dbufDestroy, free_safe, -free, hs.1, hs.2, DBuf.owned]
  omega

theorem dbufDestroy_empty (h : Heap) : dbufDestroy {} h = .ok ({}, h) := by
  simpa [Heap.release_zero, DBuf.owned, Cell.released] using dbufDestroy_safe {} rfl h

/-- `muggle_ma_ring_thread_ctx_init` (never hangs: `Err.hang` is excluded) -/
theorem muggle_ma_ring_thread_ctx_init_c18 (f : Sched) (h : Heap) :
    InitContract ({ ring := .own, buffer := .own, node := .own } : MaRing) {} 3 0 3 f h
      (maRingInit f {} h) := by
  refine .of_tail (.step (fun f0 => ?_) fun f0 => .step (fun f1 => ?_) fun f1 =>
    .step (fun f2 => ?_) fun f2 => .done ?_)
  all_goals simp [maRingInit, *] <;> omega

/-- a second `init` on a thread that has a context returns it without acquiring anything -/
theorem maRingInit_again (f : Sched) (m : MaRing) (h : Heap) (hm : m.ring ≠ .null) :
    maRingInit f m h = .ok (m, true, h) := by simp [maRingInit, hm]

theorem maRingCleanup_built (h : Heap) :
    maRingCleanup { ring := .own, buffer := .own, node := .own } h
      = .ok ({}, h.release 3 0) := by
  simp [maRingCleanup]; omega

theorem maRingCleanup_empty (h : Heap) : maRingCleanup {} h = .ok ({}, h) := by
  simp [maRingCleanup]

def mpoolBuilt (cap bs : Nat) : MPool :=
  { bufs := .own, ptrs := .own, nbuf := 1, cap := if cap = 0 then 8 else cap, used := 0, flag := 0,
    maxDelta := if bs > 8 * 1024 then (if cap = 0 then 8 else cap) else 512 * 1024 }

theorem muggle_memory_pool_init_c18 (f : Sched) (cap bs : Nat) (hbs : bs ≠ 0) (h : Heap) :
    InitContract (mpoolBuilt cap bs) {} 3 0 3 f h (mpoolInit f cap bs h) := by
  refine .of_tail (.step (fun f0 => ?_) fun f0 => .step (fun f1 => ?_) fun f1 =>
    .step (fun f2 => ?_) fun f2 => .done ?_)
  all_goals simp [mpoolInit, mpoolBuilt, *] <;> omega

theorem mpoolInit_invalid (f : Sched) (cap : Nat) (h : Heap) :
    mpoolInit f cap 0 h = .ok ({}, false, h) := by simp [mpoolInit]

/-- `muggle_ts_memory_pool_init`, `muggle_pointer_slot_init`.  Not fail-fast: the second
allocation is attempted after a failed first one, so the four outcomes are evaluated directly. -/
theorem two_arrays_init_c18 (f : Sched) (h : Heap) :
    InitContract ({ a := .own, b := .own } : Two) {} 2 0 2 f h (twoInit f true h) := by
  cases h0 : f h.nacq <;> cases h1 : f (h.nacq + 1) <;>
  simp [*, InitContract, clean_succ, clean_zero, twoInit, Failed] <;> omega

theorem twoInit_invalid (f : Sched) (h : Heap) : twoInit f false h = .ok ({}, false, h) := by
  simp [twoInit]

theorem twoDestroy_safe (t : Two) (hs : t.safe = true) (h : Heap) :
    twoDestroy t h = .ok ({}, h.release t.owned 0) := by
  simp only [Two.safe, Bool.and_eq_true, Cell.safe_iff] at hs
  simp [twoDestroy, free_safe, -free, hs.1, hs.2, Two.owned]
  omega

theorem twoDestroy_empty (h : Heap) : twoDestroy {} h = .ok ({}, h) := by
  simpa [Heap.release_zero, Two.owned] using twoDestroy_safe {} rfl h

end MgProof.C18
