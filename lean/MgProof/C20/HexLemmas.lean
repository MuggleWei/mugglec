import MgModel.C20.Hex
/-!
# C20 — hex encode / decode: table facts (`decide` over all 256 entries) and list inductions
-/
namespace MgProof.C20
open MgModel.C20

theorem sHex_table : sHex = (List.range 256).map (fun b => (refDigit (b / 16), refDigit (b % 16))) := by
  decide +kernel

theorem sHex_entry (b : Nat) (hb : b < 256) : sHex[b]? = some (refDigit (b / 16), refDigit (b % 16)) := by
  rw [sHex_table, List.getElem?_map, List.getElem?_range hb]
  rfl

theorem hexToByte_ref (c : Nat) :
    (refDigitVal c = none ∧ hexToByte c = 255) ∨ (∃ v, refDigitVal c = some v ∧ hexToByte c = v ∧ v < 16) := by
  unfold refDigitVal hexToByte
  by_cases h1 : 48 ≤ c ∧ c ≤ 57
  · right; exact ⟨c - 48, by simp [h1], by simp [h1], by omega⟩
  · by_cases h2 : 65 ≤ c ∧ c ≤ 70
    · right; exact ⟨c - 55, by simp [h1, h2], by simp [h1, h2]; omega, by omega⟩
    · by_cases h3 : 97 ≤ c ∧ c ≤ 102
      · right; exact ⟨c - 87, by simp [h1, h2, h3], by simp [h1, h2, h3]; omega, by omega⟩
      · left; simp [h1, h2, h3]

theorem nibbles (a b : Nat) (ha : a < 16) (hb : b < 16) : (a <<< 4 ||| b) % 256 = 16 * a + b := by
  have : a <<< 4 ||| b = a <<< 4 + b := (Nat.shiftLeft_add_eq_or_of_lt (show b < 2 ^ 4 by omega) a).symm
  rw [this, Nat.shiftLeft_eq]
  omega

theorem hexToBytesAux_ref : ∀ (hex acc : List Nat),
    (match refDecode hex with
     | some r => hexToBytesAux hex acc = .ok (acc.reverse ++ r)
     | none => ∃ part, hexToBytesAux hex acc = .error part)
  | [], acc => by simp [refDecode, hexToBytesAux]
  | [_], acc => by simp [refDecode, hexToBytesAux]
  | h :: l :: rest, acc => by
    have ih := fun acc' => hexToBytesAux_ref rest acc'
    unfold refDecode hexToBytesAux
    rcases hexToByte_ref h with ⟨hn, hv⟩ | ⟨a, ha, hv, hlt⟩
    · simp [hn, hv]
    · rcases hexToByte_ref l with ⟨ln, lv⟩ | ⟨b, hb, lv, llt⟩
      · simp [ha, ln, lv]
      · have hne1 : a ≠ 255 := by omega
        have hne2 : b ≠ 255 := by omega
        simp only [ha, hb, hv, lv, hne1, hne2, or_self, if_false]
        have := ih ((a <<< 4 ||| b) % 256 :: acc)
        cases hr : refDecode rest with
        | none =>
          rw [hr] at this
          simpa using this
        | some r =>
          rw [hr] at this
          simp only at this ⊢
          rw [this, nibbles a b hlt llt]
          simp

theorem hexToBytes_ref_some {hex r : List Nat} (h : refDecode hex = some r) :
    hexToBytes hex = .ok r := by
  have := hexToBytesAux_ref hex []
  rw [h] at this
  simpa [hexToBytes] using this

theorem hexToBytes_ref_none {hex : List Nat} (h : refDecode hex = none) :
    ∃ part, hexToBytes hex = .error part := by
  have := hexToBytesAux_ref hex []
  rw [h] at this
  simpa [hexToBytes] using this

theorem hexFromBytes_ref : ∀ (bs : List Nat), (∀ b ∈ bs, b < 256) → hexFromBytes bs = some (refEncode bs)
  | [], _ => rfl
  | b :: bs, hb => by
    have h1 := sHex_entry b (hb b (by simp))
    have h2 := hexFromBytes_ref bs (fun x hx => hb x (by simp [hx]))
    simp [hexFromBytes, refEncode, h1, h2]

theorem refDigit_val (d : Nat) (hd : d < 16) : refDigitVal (refDigit d) = some d := by
  unfold refDigit refDigitVal
  by_cases h : d < 10
  · have : 48 ≤ 48 + d ∧ 48 + d ≤ 57 := by omega
    simp [h, this]
  · have h1 : ¬ (48 ≤ 55 + d ∧ 55 + d ≤ 57) := by omega
    have h2 : 65 ≤ 55 + d ∧ 55 + d ≤ 70 := by omega
    simp [h, h1, h2]

theorem refDecode_refEncode : ∀ (bs : List Nat), (∀ b ∈ bs, b < 256) → refDecode (refEncode bs) = some bs
  | [], _ => rfl
  | b :: bs, hb => by
    have hb256 : b < 256 := hb b (by simp)
    have ih := refDecode_refEncode bs (fun x hx => hb x (by simp [hx]))
    have h1 := refDigit_val (b / 16) (by omega)
    have h2 := refDigit_val (b % 16) (by omega)
    simp only [refEncode, refDecode, h1, h2, ih]
    congr 2
    omega

theorem refDigit_of_val {c v : Nat} (h : refDigitVal c = some v) : refDigit v = upperHex c ∧ v < 16 := by
  unfold refDigitVal at h
  unfold refDigit upperHex
  by_cases h1 : 48 ≤ c ∧ c ≤ 57
  · simp [h1] at h; subst h
    have : ¬ (97 ≤ c ∧ c ≤ 102) := by omega
    have h10 : c - 48 < 10 := by omega
    simp [this, h10]; omega
  · by_cases h2 : 65 ≤ c ∧ c ≤ 70
    · simp [h1, h2] at h; subst h
      have : ¬ (97 ≤ c ∧ c ≤ 102) := by omega
      have h10 : ¬ c - 55 < 10 := by omega
      simp [this, h10]; omega
    · by_cases h3 : 97 ≤ c ∧ c ≤ 102
      · simp [h1, h2, h3] at h; subst h
        have h10 : ¬ c - 87 < 10 := by omega
        simp [h3, h10]; omega
      · simp [h1, h2, h3] at h

theorem refEncode_refDecode : ∀ (hex r : List Nat), hex.length % 2 = 0 → refDecode hex = some r →
    refEncode r = hex.map upperHex ∧ ∀ b ∈ r, b < 256
  | [], r, _, h => by
    simp [refDecode] at h; subst h; simp [refEncode]
  | [_], _, hl, _ => by simp at hl
  | h :: l :: rest, r, hl, hd => by
    unfold refDecode at hd
    cases ha : refDigitVal h with
    | none => simp [ha] at hd
    | some a =>
      cases hb : refDigitVal l with
      | none => simp [ha, hb] at hd
      | some b =>
        cases hr : refDecode rest with
        | none => simp [ha, hb, hr] at hd
        | some r' =>
          simp [ha, hb, hr] at hd
          subst hd
          obtain ⟨e1, l1⟩ := refDigit_of_val ha
          obtain ⟨e2, l2⟩ := refDigit_of_val hb
          have hl' : rest.length % 2 = 0 := by simp at hl; omega
          obtain ⟨ih1, ih2⟩ := refEncode_refDecode rest r' hl' hr
          have q : (16 * a + b) / 16 = a := by omega
          have m : (16 * a + b) % 16 = b := by omega
          constructor
          · simp [refEncode, q, m, e1, e2, ih1]
          · intro x hx
            simp at hx
            rcases hx with rfl | hx
            · omega
            · exact ih2 x hx

end MgProof.C20
