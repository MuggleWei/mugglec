import MgModel.C20.Path
import MgProof.C20.StrLemmas
/-!
# C20 — path functions: the buffer and what has been written to it so far (`Produced`), `Meets` and its rules,
basename / dirname / join against their reference results
-/
namespace MgProof.C20
open MgModel.C20

def NoNul (l : CStr) : Prop := ∀ c ∈ l, c ≠ 0

theorem NoNul.drop {l : CStr} (h : NoNul l) (n : Nat) : NoNul (l.drop n) :=
  fun c hc => h c (List.mem_of_mem_drop hc)

theorem NoNul.take {l : CStr} (h : NoNul l) (n : Nat) : NoNul (l.take n) :=
  fun c hc => h c (List.mem_of_mem_take hc)

theorem NoNul.append {a b : CStr} (ha : NoNul a) (hb : NoNul b) : NoNul (a ++ b) := by
  intro c hc
  rw [List.mem_append] at hc
  rcases hc with h | h
  · exact ha c h
  · exact hb c h

theorem NoNul.tail {a : CStr} (ha : NoNul a) : NoNul a.tail :=
  fun c hc => ha c (List.mem_of_mem_tail hc)

theorem write_ok {b : Buf} {i v : Nat} (h : i < b.size) :
    b.write i v = .ok ⟨b.cells.take i ++ some v :: b.cells.drop (i + 1)⟩ := by
  unfold Buf.write
  have h' : i < b.cells.length := h
  simp only [h', if_true]
  rw [List.set_eq_take_append_cons_drop]
  simp [h']

theorem write_oob {b : Buf} {i v : Nat} (h : ¬ i < b.size) : b.write i v = .error .oob := by
  unfold Buf.write
  have h' : ¬ i < b.cells.length := h
  simp [h']

theorem take_succ_put {α : Type} (c : List α) (x : α) {off : Nat} (h : off < c.length) :
    (c.take off ++ x :: c.drop (off + 1)).take (off + 1) = c.take off ++ [x] := by
  have hl := List.length_take_of_le (Nat.le_of_lt h)
  rw [List.take_append, hl, List.take_of_length_le (by omega)]
  simp

theorem drop_succ_put {α : Type} (c : List α) (x : α) {off : Nat} (h : off < c.length) (n : Nat) :
    (c.take off ++ x :: c.drop (off + 1)).drop (off + 1 + n) = c.drop (off + 1 + n) := by
  have hl := List.length_take_of_le (Nat.le_of_lt h)
  rw [List.drop_append, hl, List.drop_of_length_le (by omega), show off + 1 + n - off = n + 1 by omega]
  simp [List.drop_drop]

theorem writeList_ok : ∀ (vs : List Nat) (b : Buf) (off : Nat), off + vs.length ≤ b.size →
    writeList b off vs = .ok ⟨b.cells.take off ++ vs.map some ++ b.cells.drop (off + vs.length)⟩
  | [], b, off, _ => by simp [writeList]
  | v :: vs, b, off, h => by
    have hlt : off < b.cells.length := by rw [List.length_cons] at h; exact Nat.lt_of_lt_of_le (by omega) h
    rw [writeList, write_ok hlt]
    simp only [bind, Except.bind]
    rw [writeList_ok vs _ (off + 1) (by
      rw [List.length_cons] at h
      simp only [Buf.size, List.length_append, List.length_take, List.length_cons, List.length_drop] at h ⊢
      omega)]
    rw [take_succ_put _ _ hlt, drop_succ_put _ _ hlt]
    simp [Nat.add_assoc, Nat.add_comm 1]

theorem write_size {b b' : Buf} {i v : Nat} (h : b.write i v = .ok b') : b'.size = b.size := by
  unfold Buf.write at h
  by_cases hlt : i < b.cells.length
  · simp [hlt] at h; subst h; simp [Buf.size]
  · simp [hlt] at h

theorem writeList_size : ∀ (vs : List Nat) (b b' : Buf) (off : Nat), writeList b off vs = .ok b' →
    b'.size = b.size
  | [], b, b', off, h => by simp [writeList] at h; rw [h]
  | v :: vs, b, b', off, h => by
    unfold writeList at h
    cases hw : b.write off v with
    | error e => rw [hw] at h; simp [bind, Except.bind] at h
    | ok b1 =>
      rw [hw] at h
      simp only [bind, Except.bind] at h
      rw [writeList_size vs b1 b' (off + 1) h, write_size hw]

theorem cstrCells_prefix : ∀ (vs : CStr) (rest : List (Option Nat)), NoNul vs →
    cstrCells (vs.map some ++ some 0 :: rest) = some vs
  | [], rest, _ => by simp [cstrCells]
  | v :: vs, rest, h => by
    have hv : v ≠ 0 := h v (by simp)
    have ih := cstrCells_prefix vs rest (fun c hc => h c (by simp [hc]))
    simp [cstrCells, hv, ih]

theorem strlenCells_prefix : ∀ (vs : CStr) (rest : List (Option Nat)), NoNul vs →
    strlenCells (vs.map some ++ some 0 :: rest) = .ok vs.length
  | [], rest, _ => by simp [strlenCells]
  | v :: vs, rest, h => by
    have hv : v ≠ 0 := h v (by simp)
    have ih := strlenCells_prefix vs rest (fun c hc => h c (by simp [hc]))
    simp [strlenCells, hv, ih, Except.map]

theorem cstrCells_noNul : ∀ (l : List (Option Nat)) (s : CStr), cstrCells l = some s → NoNul s
  | [], s, h => by simp [cstrCells] at h
  | none :: _, s, h => by simp [cstrCells] at h
  | some c :: rest, s, h => by
    unfold cstrCells at h
    by_cases hc : c = 0
    · simp [hc] at h; subst h; intro x hx; simp at hx
    · simp only [hc, if_false] at h
      cases hr : cstrCells rest with
      | none => rw [hr] at h; simp at h
      | some r =>
        rw [hr] at h
        simp at h
        subst h
        intro x hx
        simp at hx
        rcases hx with rfl | hx
        · exact hc
        · exact cstrCells_noNul rest r hr x hx

theorem read_prefix {vs : CStr} {rest : List (Option Nat)} {i : Nat} (h : i < vs.length) :
    (⟨vs.map some ++ rest⟩ : Buf).read i = .ok (vs[i]'h) := by
  unfold Buf.read
  simp only
  rw [List.getElem?_append_left (by simpa using h)]
  simp [h]

theorem cstr_full {A B : List Nat} (hA : NoNul A) : (⟨(A ++ 0 :: B).map some⟩ : Buf).cstr = some A := by
  unfold Buf.cstr
  simp only [List.map_append, List.map_cons]
  exact cstrCells_prefix A _ hA

theorem strlen_full {A B : List Nat} (hA : NoNul A) :
    strlenCells ((A ++ 0 :: B).map some) = .ok A.length := by
  simp only [List.map_append, List.map_cons]
  exact strlenCells_prefix A _ hA

def chr (out : CStr) (i : Nat) : Nat := out.getD i 0

theorem chr_append_left {A B : CStr} {i : Nat} (h : i < A.length) : chr (A ++ B) i = chr A i := by
  unfold chr
  rw [List.getD_eq_getElem?_getD, List.getD_eq_getElem?_getD, List.getElem?_append_left h]

theorem chr_append_right {A B : CStr} {i : Nat} (h : A.length ≤ i) : chr (A ++ B) i = chr B (i - A.length) := by
  unfold chr
  rw [List.getD_eq_getElem?_getD, List.getD_eq_getElem?_getD, List.getElem?_append_right h]

theorem chr_mem {A : CStr} {i : Nat} (h : i < A.length) : chr A i ∈ A := by
  unfold chr
  rw [List.getD_eq_getElem?_getD, List.getElem?_eq_getElem h]
  simp

/-- the cells below `pos` hold `out`: what has been written so far -/
def Produced (b : Buf) (pos : Nat) (out : CStr) : Prop :=
  out.length = pos ∧ NoNul out ∧ b.cells.take pos = out.map some

theorem Produced.nil (b : Buf) : Produced b 0 [] :=
  ⟨rfl, fun _ hc => absurd hc List.not_mem_nil, List.take_zero⟩

theorem Produced.of_cells {b : Buf} {out X : CStr} (hn : NoNul out) (h : b.cells = (out ++ X).map some) :
    Produced b out.length out :=
  ⟨rfl, hn, by rw [h, List.map_append, List.take_left' (List.length_map some)]⟩

theorem Produced.pos_le {b : Buf} {pos : Nat} {out : CStr} (h : Produced b pos out) : pos ≤ b.size := by
  obtain ⟨h1, _, h3⟩ := h
  have := congrArg List.length h3
  simp at this
  unfold Buf.size
  omega

theorem Produced.read {b : Buf} {pos i : Nat} {out : CStr} (h : Produced b pos out) (hi : i < pos) :
    b.read i = .ok (chr out i) := by
  obtain ⟨h1, _, h3⟩ := h
  unfold Buf.read
  rw [← List.getElem?_take_of_lt hi, h3]
  have hi' : i < out.length := by omega
  simp only [List.getElem?_map, List.getElem?_eq_getElem hi', Option.map_some]
  congr 1
  unfold chr
  simp [hi']

theorem Produced.write {b : Buf} {pos v : Nat} {out : CStr} (h : Produced b pos out) (hlt : pos < b.size)
    (hv : v ≠ 0) : ∃ b', b.write pos v = .ok b' ∧ b'.size = b.size ∧ Produced b' (pos + 1) (out ++ [v]) := by
  obtain ⟨h1, h2, h3⟩ := h
  refine ⟨_, write_ok hlt, ?_, ?_, ?_, ?_⟩
  · exact write_size (write_ok hlt)
  · simp [h1]
  · exact NoNul.append h2 (by intro c hc; simp at hc; rw [hc]; exact hv)
  · show (b.cells.take pos ++ some v :: b.cells.drop (pos + 1)).take (pos + 1) = _
    rw [take_succ_put _ _ hlt, h3]
    simp

theorem Produced.writeList {vs : CStr} (hv : NoNul vs) : ∀ {b : Buf} {pos : Nat} {out : CStr},
    Produced b pos out → pos + vs.length ≤ b.size →
    ∃ b', writeList b pos vs = .ok b' ∧ b'.size = b.size ∧ Produced b' (pos + vs.length) (out ++ vs) := by
  induction vs with
  | nil => exact fun h _ => ⟨_, rfl, rfl, by simpa using h⟩
  | cons v vs ih =>
    intro b pos out h hfit
    rw [List.length_cons] at hfit
    obtain ⟨b1, w1, s1, p1⟩ := h.write (v := v) (by omega) (hv v (List.mem_cons_self ..))
    obtain ⟨b2, w2, s2, p2⟩ := ih (fun c hc => hv c (List.mem_cons_of_mem _ hc)) p1 (by omega)
    refine ⟨b2, by rw [MgModel.C20.writeList, w1]; exact w2, s2.trans s1, ?_⟩
    rw [List.length_cons, ← Nat.add_assoc, Nat.add_right_comm, List.append_cons]
    exact p2

theorem Produced.shrink {b : Buf} {pos pos' : Nat} {out : CStr} (h : Produced b pos out) (hle : pos' ≤ pos) :
    Produced b pos' (out.take pos') := by
  obtain ⟨h1, h2, h3⟩ := h
  refine ⟨by simp; omega, h2.take _, ?_⟩
  have : b.cells.take pos' = (b.cells.take pos).take pos' := by
    rw [List.take_take]; congr 1; omega
  rw [this, h3, List.map_take]

theorem Produced.terminate {b : Buf} {pos : Nat} {out : CStr} (h : Produced b pos out) (hlt : pos < b.size) :
    ∃ b', b.write pos 0 = .ok b' ∧ b'.size = b.size ∧ b'.cstr = some out := by
  obtain ⟨_, h2, h3⟩ := h
  refine ⟨_, write_ok hlt, ?_, ?_⟩
  · exact write_size (write_ok hlt)
  · unfold Buf.cstr
    simp only
    rw [h3]
    exact cstrCells_prefix out _ h2

/-- `strncpy` of exactly `strlen(src)` bytes is `memcpy`: no padding, no terminator -/
theorem strncpy_exact {b : Buf} {off : Nat} {src : CStr} (h : off + src.length ≤ b.size) :
    strncpy b off src src.length = writeList b off src := by
  rw [strncpy, if_neg (by omega), List.take_length, Nat.sub_self, List.replicate_zero, List.append_nil]

/-- `memcpy(ret, vs, n); ret[n] = 0` into a buffer with room for the terminator -/
theorem writeList_terminate (b : Buf) (vs : CStr) (hfit : vs.length < b.size) :
    ∃ b1 b2, writeList b 0 vs = .ok b1 ∧ b1.write vs.length 0 = .ok b2 ∧ b2.size = b.size ∧
      b2.cells = (vs ++ [0]).map some ++ b.cells.drop (vs.length + 1) := by
  have hfit' : vs.length < b.cells.length := hfit
  have h1 := writeList_ok vs b 0 (by omega)
  simp only [List.take_zero, List.nil_append, Nat.zero_add] at h1
  have h2 := write_ok (b := ⟨vs.map some ++ b.cells.drop vs.length⟩) (i := vs.length) (v := 0)
    (by simp [Buf.size]; omega)
  refine ⟨_, _, h1, h2, by simp [Buf.size]; omega, ?_⟩
  simp only [List.take_left' (List.length_map some)]
  have : (vs.map some ++ b.cells.drop vs.length).drop (vs.length + 1) = b.cells.drop (vs.length + 1) := by
    rw [show vs.length = (vs.map some).length by simp, List.drop_length_add_append, List.drop_drop]
  rw [this]; simp

theorem copy_terminate (b : Buf) (vs : CStr) (hfit : vs.length < b.size) (hn : NoNul vs) :
    ∃ b1 b2, writeList b 0 vs = .ok b1 ∧ b1.write vs.length 0 = .ok b2 ∧ b2.size = b.size ∧
      b2.cstr = some vs := by
  obtain ⟨b1, w1, s1, p1⟩ := (Produced.nil b).writeList hn (by omega)
  rw [Nat.zero_add, List.nil_append] at p1
  obtain ⟨b2, w2, s2, c2⟩ := p1.terminate (by omega)
  exact ⟨b1, b2, w1, w2, s2.trans s1, c2⟩

/-- `strncpy(ret, p, n); ret[n] = 0` with `strlen(p) ≤ n = size - 1` -/
theorem strncpy_terminate (b : Buf) (p : CStr) (n : Nat) (hn : n + 1 = b.size) (hlen : p.length ≤ n)
    (hp : NoNul p) :
    ∃ b1 b2, strncpy b 0 p n = .ok b1 ∧ b1.write n 0 = .ok b2 ∧ b2.size = b.size ∧
      b2.cstr = some p ∧ b2.cells = (p ++ List.replicate (b.size - p.length) 0).map some := by
  have hl : (p ++ List.replicate (n - p.length) 0).length = n := by simp; omega
  obtain ⟨b1, b2, h1, h2, hs, hc⟩ := writeList_terminate b (p ++ List.replicate (n - p.length) 0) (by omega)
  rw [hl] at h2 hc
  -- `p`, then NULs to the end: the padding and the terminator
  have hcells : b2.cells = (p ++ 0 :: List.replicate (n - p.length) 0).map some := by
    rw [hc, List.drop_eq_nil_of_le (by unfold Buf.size at hn; omega), List.append_nil, List.append_assoc,
      ← List.replicate_succ', List.replicate_succ]
  refine ⟨b1, b2, ?_, h2, hs, by rw [Buf.cstr, hcells]; exact cstr_full hp, ?_⟩
  · unfold strncpy
    rw [if_neg (by omega), List.take_of_length_le hlen]
    exact h1
  · rw [hcells, ← List.replicate_succ, show n - p.length + 1 = b.size - p.length by omega]

theorem fits_none_of {size : Nat} {r : CStr} (h : ¬ r.length < size) : fits size (some r) = none := by
  simp [fits, h]

theorem fits_some_of {size : Nat} {r : CStr} (h : r.length < size) : fits size (some r) = some r := by
  simp [fits, h]

theorem fits_lt {size : Nat} {r : Option CStr} {x : CStr} (h : fits size r = some x) : x.length < size := by
  unfold fits at h
  split at h
  · split at h
    · cases h; assumption
    · cases h
  · cases h

/-- `r = .ok …`: the function returns, so it wrote nothing out of bounds and read no indeterminate byte;
it reports success exactly when `spec` defines a result, which the buffer then holds NUL-terminated -/
def Meets (r : Except Err (Bool × Buf)) (size : Nat) (spec : Option CStr) : Prop :=
  ∃ b', r = .ok (spec.isSome, b') ∧ b'.size = size ∧ ∀ x, spec = some x → b'.cstr = some x

theorem meets_fail {b : Buf} {spec : Option CStr} (h : spec = none) :
    Meets (.ok (false, b)) b.size spec :=
  ⟨b, by rw [h]; rfl, rfl, by intro x hx; rw [h] at hx; cases hx⟩

theorem meets_ok {b' : Buf} {size : Nat} {r : CStr} (hsz : b'.size = size) (hc : b'.cstr = some r) :
    Meets (.ok (true, b')) size (some r) :=
  ⟨b', rfl, hsz, by intro x hx; cases hx; exact hc⟩

def SafeTerminated (r : Except Err (Bool × Buf)) (size : Nat) : Prop :=
  ∃ ok b', r = .ok (ok, b') ∧ b'.size = size ∧
    (ok = true → ∃ out, b'.cstr = some out ∧ out.length < size)

theorem Meets.safe {r : Except Err (Bool × Buf)} {size : Nat} {spec : Option CStr}
    (h : Meets r size spec) (hfit : ∀ x, spec = some x → x.length < size) : SafeTerminated r size := by
  obtain ⟨b', h1, h2, h3⟩ := h
  refine ⟨spec.isSome, b', h1, h2, ?_⟩
  intro hs
  cases hspec : spec with
  | none => rw [hspec] at hs; cases hs
  | some x => exact ⟨x, h3 x hspec, hfit x hspec⟩

/-! A path function is a chain of tests that give up (`if c then return (false, ret)`) and of calls. With
`Except.bind` left folded a rule looks at the head of the chain only, never at the rest of the function.
A `_meets` proof: `unfold pathX; simp only [bind, pure, Except.pure]` (not `Except.bind`); for a test
`refine .guard (fun h => why the spec is `none`) fun h => ?_`; for a call whose result is known `.bind e ?_`; the end is
`meets_ok`, `meets_fail`, `meets_copy` or `meets_strncpy`. -/

theorem Meets.guard {c : Prop} [Decidable c] {b : Buf} {rest : Except Err (Bool × Buf)} {spec : Option CStr}
    (hc : c → spec = none) (hr : ¬ c → Meets rest b.size spec) :
    Meets (if c then .ok (false, b) else rest) b.size spec := by
  split
  · exact meets_fail (hc ‹_›)
  · exact hr ‹_›

/-- `Meets.guard` for a test behind a write: `b` is the written buffer, of the caller's size by `hs` -/
theorem Meets.guard' {c : Prop} [Decidable c] {b : Buf} {size : Nat} {rest : Except Err (Bool × Buf)}
    {spec : Option CStr} (hs : b.size = size) (hc : c → spec = none) (hr : ¬ c → Meets rest size spec) :
    Meets (if c then .ok (false, b) else rest) size spec :=
  hs ▸ Meets.guard hc (hs ▸ hr)

theorem Meets.bind {α : Type} {x : Except Err α} {v : α} {f : α → Except Err (Bool × Buf)} {size : Nat}
    {spec : Option CStr} (hx : x = .ok v) (h : Meets (f v) size spec) : Meets (x.bind f) size spec := by
  subst hx; exact h

/-- `memcpy(ret, vs, n); ret[n] = 0; return MUGGLE_OK` -/
theorem meets_copy (b : Buf) (vs : CStr) {n : Nat} (hn : n = vs.length) (hfit : n < b.size) (hnn : NoNul vs) :
    Meets ((writeList b 0 vs).bind fun b1 => (b1.write n 0).bind fun b2 => .ok (true, b2)) b.size (some vs) := by
  subst hn
  obtain ⟨b1, b2, w1, w2, hsz, hc⟩ := copy_terminate b vs hfit hnn
  exact .bind w1 (.bind w2 (meets_ok hsz hc))

/-- `if (strlen(p) > size - 1) return …; strncpy(ret, p, size - 1); ret[size - 1] = 0; return MUGGLE_OK` -/
theorem meets_strncpy (b : Buf) (p : CStr) (h1 : ¬ b.size ≤ 1) (hp : NoNul p) :
    Meets (if p.length > b.size - 1 then .ok (false, b)
      else (strncpy b 0 p (b.size - 1)).bind fun b1 => (b1.write (b.size - 1) 0).bind fun b2 => .ok (true, b2))
      b.size (fits b.size (some p)) := by
  refine .guard (fun h => fits_none_of (by omega)) fun h => ?_
  obtain ⟨b1, b2, e1, e2, hsz, hc, _⟩ := strncpy_terminate b p (b.size - 1) (by omega) (by omega) hp
  rw [fits_some_of (by omega)]
  exact .bind e1 (.bind e2 (meets_ok hsz hc))

def notSep (c : Nat) : Bool := !isSep c

theorem notSep_eq : (fun c => !isSep c) = notSep := rfl

def tailLen (l : CStr) : Nat := (l.reverse.takeWhile notSep).length

theorem tailLen_le (l : CStr) : tailLen l ≤ l.length := by
  simpa [tailLen] using takeWhile_length_le notSep l.reverse

theorem tailLen_cons (c : Nat) (l : CStr) :
    tailLen (c :: l) =
      if tailLen l = l.length then (if isSep c then l.length else l.length + 1) else tailLen l := by
  unfold tailLen
  rw [List.reverse_cons, List.takeWhile_append, List.length_reverse]
  split
  · by_cases hc : isSep c = true <;> simp [notSep, hc]
  · rfl

theorem lastSepAux_eq : ∀ (l : CStr) (i : Nat) (acc : Option Nat),
    lastSepAux l i acc =
      if tailLen l = l.length then acc else some (i + (l.length - 1 - tailLen l))
  | [], i, acc => by simp [lastSepAux, tailLen]
  | c :: l, i, acc => by
    rw [lastSepAux, lastSepAux_eq l (i + 1), tailLen_cons]
    have hle := tailLen_le l
    by_cases h : tailLen l = l.length
    · simp only [h, if_true]
      by_cases hc : isSep c = true
      · simp [hc]
      · simp [hc]
    · simp only [h, if_false]
      have : ¬ tailLen l = (c :: l).length := by simp; omega
      simp only [this, if_false]
      congr 1
      simp
      omega

theorem lastSep_eq (p : CStr) :
    lastSep p = if tailLen p = p.length then none else some (p.length - 1 - tailLen p) := by
  unfold lastSep
  rw [lastSepAux_eq]
  simp

theorem lastSep_cases (p : CStr) :
    (lastSep p = none ∧ tailLen p = p.length) ∨
    ∃ i, lastSep p = some i ∧ i + 1 + tailLen p = p.length := by
  have := tailLen_le p
  rw [lastSep_eq]
  by_cases h : tailLen p = p.length
  · exact Or.inl ⟨if_pos h, h⟩
  · exact Or.inr ⟨_, if_neg h, by omega⟩

theorem tail_eq_drop (p : CStr) :
    (p.reverse.takeWhile notSep).reverse = p.drop (p.length - tailLen p) := by
  have h := List.prefix_iff_eq_take.mp (List.takeWhile_prefix notSep (l := p.reverse))
  rw [h, List.take_reverse, List.reverse_reverse]
  rfl

theorem refBasename_eq (p : CStr) :
    refBasename p = if tailLen p = 0 then none else some (p.drop (p.length - tailLen p)) := by
  have hle := tailLen_le p
  have hl : (p.drop (p.length - tailLen p)).length = tailLen p := by rw [List.length_drop]; omega
  simp only [refBasename, notSep_eq, tail_eq_drop]
  by_cases h : tailLen p = 0
  · rw [if_pos h, if_pos (List.eq_nil_of_length_eq_zero (hl.trans h))]
  · rw [if_neg h, if_neg (fun e => h (by rw [← hl, e]; rfl))]

theorem specBasename_eq (p : CStr) (size : Nat) :
    specBasename p size = if tailLen p = 0 then none else fits size (some (p.drop (p.length - tailLen p))) := by
  unfold specBasename
  rw [refBasename_eq]
  split <;> rfl

theorem pathBasename_meets (p : CStr) (hp : NoNul p) (b : Buf) :
    Meets (pathBasename true p b) b.size (specBasename p b.size) := by
  have hle := tailLen_le p
  have hdl : (p.drop (p.length - tailLen p)).length = tailLen p := by rw [List.length_drop]; omega
  have hnofit : tailLen p ≥ b.size → specBasename p b.size = none := fun h => by
    rw [specBasename_eq]; split
    · rfl
    · exact fits_none_of (by omega)
  unfold pathBasename
  simp only [bind, pure, Except.pure, true_and, if_true]
  refine .guard (fun h1 => ?_) fun h1 => .guard (fun h2 => ?_) fun h2 => ?_
  · rw [specBasename_eq]; split
    · rfl
    · exact fits_none_of (by omega)
  · rw [specBasename_eq, if_pos (by omega)]
  rcases lastSep_cases p with ⟨hn, ht⟩ | ⟨i, hi, hsum⟩
  · rw [hn, specBasename_eq, if_neg (show ¬ tailLen p = 0 by omega), ht, Nat.sub_self, List.drop_zero]
    exact meets_strncpy b p h1 hp
  · rw [hi]
    dsimp only
    rw [show p.length - 1 - i = tailLen p by omega]
    refine .guard (fun h => by rw [specBasename_eq, if_pos h]) fun h3 => .guard hnofit fun h4 => ?_
    rw [if_neg h4, specBasename_eq, if_neg h3, fits_some_of (by omega),
      show p.length - tailLen p = i + 1 by omega, List.take_of_length_le (by rw [List.length_drop]; omega)]
    exact meets_copy b _ (by rw [List.length_drop]; omega) (by omega) (hp.drop _)

/-- number of characters `muggle_path_dirname` keeps, given the index of the last separator -/
def dirKeep (p : CStr) (i : Nat) : Nat :=
  if i = 0 then 1 else if i ≥ 2 ∧ p[i - 1]? = some 58 then i + 1 else i

theorem dirKeep_bounds (p : CStr) {i : Nat} (hi : i < p.length) : 1 ≤ dirKeep p i ∧ dirKeep p i ≤ p.length := by
  unfold dirKeep
  split
  · omega
  · split <;> omega

theorem specDirname_eq (p : CStr) (size : Nat) :
    specDirname p size =
      match lastSep p with
      | none => none
      | some i => if dirKeep p i < size then some (p.take (dirKeep p i)) else none := by
  have e : (p.reverse.takeWhile (fun c => !isSep c)).length = tailLen p := rfl
  simp only [specDirname, refDirname, e]
  rcases lastSep_cases p with ⟨hn, ht⟩ | ⟨i, hi, hsum⟩
  · rw [hn, if_pos ht]; rfl
  · have hk := (dirKeep_bounds p (i := i) (by omega)).2
    have hd : (if i = 0 then some (p.take 1)
        else if i ≥ 2 ∧ p[i - 1]? = some 58 then some (p.take (i + 1)) else some (p.take i)) =
        some (p.take (dirKeep p i)) := by
      unfold dirKeep
      split
      · rfl
      · split <;> rfl
    rw [hi, if_neg (show ¬ tailLen p = p.length by omega), show p.length - 1 - tailLen p = i by omega, hd,
      fits, List.length_take, Nat.min_eq_left hk]

theorem dirKeep_eq (p : CStr) (i : Nat) :
    (if (if i = 0 then 1 else i) ≥ 2 ∧ p[(if i = 0 then 1 else i) - 1]? = some 58
      then (if i = 0 then 1 else i) + 1 else (if i = 0 then 1 else i)) = dirKeep p i := by
  unfold dirKeep
  by_cases h0 : i = 0
  · simp [h0]
  · simp only [h0, if_false]

theorem pathDirname_meets (p : CStr) (hp : NoNul p) (b : Buf) :
    Meets (pathDirname p b) b.size (specDirname p b.size) := by
  rw [specDirname_eq]
  unfold pathDirname
  simp only [bind, pure, Except.pure]
  rcases lastSep_cases p with ⟨hn, ht⟩ | ⟨i, hi, hsum⟩
  · rw [hn]
    exact .guard (fun _ => rfl) fun _ => .guard (fun _ => rfl) fun _ => meets_fail rfl
  · obtain ⟨hk1, hk⟩ := dirKeep_bounds p (i := i) (by omega)
    rw [hi]
    dsimp only
    rw [dirKeep_eq]
    have hnofit : dirKeep p i ≥ b.size →
        (if dirKeep p i < b.size then some (p.take (dirKeep p i)) else none) = none :=
      fun h => if_neg (by omega)
    refine .guard (fun h => hnofit (by omega)) fun h1 => .guard (fun h => by omega) fun _ =>
      .guard hnofit fun h5 => ?_
    rw [if_pos (by omega)]
    exact meets_copy b _ (by rw [List.length_take]; omega) (by omega) (hp.take _)

theorem endsWithSep_eq (p : CStr) (h : p ≠ []) : endsWithSep p = isSep (chr p (p.length - 1)) := by
  unfold endsWithSep chr
  rw [List.getLast?_eq_getElem?, List.getD_eq_getElem?_getD]
  have : p.length - 1 < p.length := by
    have : 0 < p.length := List.length_pos_iff.mpr h
    omega
  simp [this]

def joinTail (p2 : CStr) : CStr := if p2.head? = some 47 then p2.tail else p2

theorem NoNul.joinTail {p2 : CStr} (h : NoNul p2) : NoNul (joinTail p2) := by
  unfold MgProof.C20.joinTail
  split
  · exact h.tail
  · exact h

theorem refJoin_eq (p1 p2 : CStr) :
    refJoin p1 p2 =
      if p1 = [] ∨ p2 = [] then none else if p2 = [47] then none
      else some ((p1 ++ if endsWithSep p1 then [] else [47]) ++ joinTail p2) := by
  unfold refJoin joinTail
  rfl

theorem refJoin_length {p1 p2 r : CStr} (h : refJoin p1 p2 = some r) : 1 ≤ r.length := by
  rw [refJoin_eq] at h
  by_cases hA : p1 = [] ∨ p2 = []
  · simp [hA] at h
  · by_cases hB : p2 = [47]
    · simp [hB] at h
    · simp only [hA, hB, if_false, Option.some.injEq] at h
      have h1 : 0 < p1.length := List.length_pos_iff.mpr (fun e => hA (Or.inl e))
      rw [← h]
      simp only [List.length_append]
      omega

/-- what `muggle_path_join` makes of its second operand -/
theorem joinSplit_eq {p2 : CStr} (hne : p2 ≠ []) :
    (if p2.head? = some 47 then (p2.tail, p2.length - 1, decide (p2.length = 1)) else (p2, p2.length, false)) =
      (joinTail p2, (joinTail p2).length, decide (p2 = [47])) := by
  unfold joinTail
  cases p2 with
  | nil => exact absurd rfl hne
  | cons a t =>
    by_cases h : a = 47
    · subst h; simp
    · simp [h]

/-- the second half of join: the buffer holds `pre` so far -/
theorem pathJoinTail_meets (p2 : CStr) (hp2 : NoNul p2) (hne2 : p2 ≠ []) {b : Buf} {size : Nat} {pre : CStr}
    (hprod : Produced b pre.length pre) (hsz : b.size = size) (hs : 1 < size) :
    Meets (pathJoinTail p2 b pre.length pre.length (size - 1)) size
      (fits size (if p2 = [47] then none else some (pre ++ joinTail p2))) := by
  unfold pathJoinTail
  simp only [bind, pure, Except.pure, joinSplit_eq hne2, decide_eq_true_eq]
  have hnn := hp2.joinTail
  generalize joinTail p2 = t at hnn ⊢
  refine .guard' hsz (fun hB => by rw [if_pos hB]; rfl) fun hB => ?_
  rw [if_neg hB]
  refine .guard' hsz (fun h4 => fits_none_of (by rw [List.length_append]; omega)) fun h4 => ?_
  obtain ⟨b1, w1, s1, p1⟩ := hprod.writeList hnn (by omega)
  obtain ⟨b2, w2, s2, c2⟩ := p1.terminate (by omega)
  rw [fits_some_of (by rw [List.length_append]; omega)]
  exact .bind ((strncpy_exact (by omega)).trans w1) (.bind w2 (meets_ok (by rw [s2, s1, hsz]) c2))

theorem pathJoin_meets (p1 p2 : CStr) (hp1 : NoNul p1) (hp2 : NoNul p2) (b : Buf) :
    Meets (pathJoin true p1 p2 b) b.size (specJoin p1 p2 b.size) := by
  unfold specJoin
  rw [refJoin_eq]
  unfold pathJoin
  simp only [bind, pure, Except.pure, if_true]
  have hlong : ¬ (0 < p1.length ∧ p1.length < b.size) →
      fits b.size (if p1 = [] ∨ p2 = [] then none else if p2 = [47] then none
        else some ((p1 ++ if endsWithSep p1 then [] else [47]) ++ joinTail p2)) = none := by
    intro h
    split
    · rfl
    · rename_i hA
      have : 0 < p1.length := List.length_pos_iff.mpr fun e => hA (Or.inl e)
      split
      · rfl
      · exact fits_none_of (by simp only [List.length_append]; omega)
  refine .guard (fun h1 => hlong (by omega)) fun h1 => ?_
  rw [if_neg (show ¬ b.size = 0 by omega)]
  refine .guard (fun hA => by rw [if_pos (hA.imp List.eq_nil_of_length_eq_zero List.eq_nil_of_length_eq_zero)]; rfl)
    fun hA => .guard (fun h3 => hlong (by omega)) fun h3 => ?_
  have hne1 : p1 ≠ [] := fun e => hA (Or.inl (by rw [e]; rfl))
  have hne2 : p2 ≠ [] := fun e => hA (Or.inr (by rw [e]; rfl))
  have hl1 : 0 < p1.length := List.length_pos_iff.mpr hne1
  rw [if_neg (show ¬ (p1 = [] ∨ p2 = []) from fun h => h.elim hne1 hne2)]
  obtain ⟨b1, b2, e1, e2, hsz, _, hcells⟩ := strncpy_terminate b p1 (b.size - 1) (by omega) (by omega) hp1
  have hprod : Produced b2 p1.length p1 := .of_cells hp1 hcells
  -- behind `path1` stands at least one NUL, the padding or the terminator
  have hlen : strlenCells b2.cells = .ok p1.length := by
    rw [hcells, show b.size - p1.length = (b.size - 1 - p1.length) + 1 by omega, List.replicate_succ]
    exact strlen_full hp1
  -- `muggle_str_endswith(ret, "/") || muggle_str_endswith(ret, "\\")` reads the last character of `path1`
  refine .bind e1 (.bind e2 (.bind hlen (.bind (v := endsWithSep p1) ?_ ?_)))
  · rw [if_neg (show ¬ p1.length = 0 by omega), hprod.read (by omega), endsWithSep_eq p1 hne1]; rfl
  cases hsep : endsWithSep p1
  · simp only [Bool.not_false, if_true]
    refine .guard' hsz (fun h => absurd h (by omega)) fun _ => ?_
    obtain ⟨b3, w3, s3, p3⟩ := hprod.write (v := 47) (by omega) (by omega)
    refine .bind w3 ?_
    simp only [Bool.false_eq_true, if_false]
    rw [show p1.length + 1 = (p1 ++ [47]).length by simp] at p3 ⊢
    exact pathJoinTail_meets p2 hp2 hne2 p3 (s3.trans hsz) (by omega)
  · simp only [Bool.not_true, Bool.false_eq_true, if_false, if_true, List.append_nil]
    exact pathJoinTail_meets p2 hp2 hne2 hprod hsz (by omega)

end MgProof.C20
