import MgModel.C20.Num
import MgProof.C20.StrLemmas
/-!
# C20 — integer parsers: the wrappers' decision chains compute exactly the specification
`refParse` ("the stripped string is one numeral whose exact value is in range").
-/
namespace MgProof.C20
open MgModel.C20

def rstripL (l : CStr) : CStr := (l.reverse.dropWhile isSpace).reverse

theorem stripBlanks_eq (s : CStr) : stripBlanks s = rstripL (s.dropWhile isSpace) := rfl

def Blank (t : CStr) : Prop := ∀ x ∈ t, isSpace x = true

def EndsNonBlank (l : CStr) : Prop := ∀ x, l.getLast? = some x → isSpace x = false

theorem rstripL_decomp (l : CStr) :
    ∃ t, l = rstripL l ++ t ∧ Blank t ∧ EndsNonBlank (rstripL l) := by
  refine ⟨(l.reverse.takeWhile isSpace).reverse, ?_, ?_, ?_⟩
  · have := List.takeWhile_append_dropWhile (p := isSpace) (l := l.reverse)
    have h2 := congrArg List.reverse this
    simp only [List.reverse_append, List.reverse_reverse] at h2
    exact h2.symm
  · intro x hx
    exact all_takeWhile isSpace _ x (by simpa using hx)
  · intro x hx
    unfold rstripL at hx
    rw [List.getLast?_reverse] at hx
    cases hd : l.reverse.dropWhile isSpace with
    | nil => rw [hd] at hx; simp at hx
    | cons a t =>
      rw [hd] at hx; simp at hx; subst hx
      exact dropWhile_head_not isSpace _ _ _ hd

theorem rstripL_of_ends {a t : CStr} (ha : EndsNonBlank a) (ht : Blank t) :
    rstripL (a ++ t) = a := by
  unfold rstripL
  rw [List.reverse_append, List.dropWhile_append_of_pos (fun x hx => ht x (List.mem_reverse.mp hx))]
  cases hr : a.reverse with
  | nil =>
    have : a = [] := by simpa using hr
    simp [this]
  | cons x r =>
    have hx : a.getLast? = some x := by
      rw [← List.head?_reverse, hr]; rfl
    rw [List.dropWhile_cons_of_neg (by simp [ha x hx]), ← hr, List.reverse_reverse]

theorem endsNonBlank_append {a b : CStr} (ha : EndsNonBlank a) (hb : EndsNonBlank b) :
    EndsNonBlank (a ++ b) := by
  intro x hx
  rw [List.getLast?_append] at hx
  cases hbl : b.getLast? with
  | none => rw [hbl] at hx; exact ha x (by simpa using hx)
  | some y => rw [hbl] at hx; simp at hx; subst hx; exact hb y hbl

theorem rstripL_append {a b : CStr} (ha : EndsNonBlank a) : rstripL (a ++ b) = a ++ rstripL b := by
  obtain ⟨t, hb, ht, hend⟩ := rstripL_decomp b
  have : a ++ b = (a ++ rstripL b) ++ t := by rw [List.append_assoc, ← hb]
  rw [this, rstripL_of_ends (endsNonBlank_append ha hend) ht]

theorem EndsNonBlank.drop_not_blank {l t : CStr} {n : Nat} (hend : EndsNonBlank l) (hn : n < l.length) :
    (l.drop n ++ t).all isSpace = false := by
  obtain ⟨z, hz⟩ : ∃ z, (l.drop n).getLast? = some z := by
    cases hd : l.drop n with
    | nil => have := congrArg List.length hd; rw [List.length_drop] at this; simp at this; omega
    | cons y r => exact ⟨_, List.getLast?_cons⟩
  have hlast : l.getLast? = some z := by
    rw [← List.take_append_drop n l, List.getLast?_append, hz]; rfl
  cases hall : (l.drop n ++ t).all isSpace with
  | false => rfl
  | true =>
    have := List.all_eq_true.mp hall z (List.mem_append_left _ (List.mem_of_getLast? hz))
    rw [hend z hlast] at this; cases this

/-- a core `tok ++ rest` that ends in a non-blank, blanks `t` behind it: only blanks follow the token iff
nothing of the core does. Here the wrappers' test (`trailingOk` of what `strto*` left) and the specification's
("the stripped string is one numeral") meet, for both scanners. -/
theorem blanks_follow_iff {pfx tok rest t : CStr} (hend : EndsNonBlank (tok ++ rest)) (ht : Blank t) :
    ((pfx ++ (tok ++ (rest ++ t))).drop (pfx.length + tok.length)).all isSpace = true ↔ rest = [] := by
  rw [List.drop_length_add_append, List.drop_left]
  constructor
  · intro h
    apply Classical.byContradiction
    intro hne
    have hlt : tok.length < (tok ++ rest).length := by
      have := List.length_pos_iff.mpr hne
      rw [List.length_append]; omega
    have := hend.drop_not_blank (t := t) hlt
    rw [List.drop_left, h] at this
    cases this
  · rintro rfl
    exact List.all_eq_true.mpr ht

theorem endsNonBlank_nil : EndsNonBlank [] := by intro x hx; simp at hx

theorem endsNonBlank_of_all {l : CStr} (h : ∀ x ∈ l, isSpace x = false) : EndsNonBlank l := by
  intro x hx
  exact h x (List.mem_of_getLast? hx)

theorem endsNonBlank_single {c : Nat} (h : isSpace c = false) : EndsNonBlank [c] := by
  apply endsNonBlank_of_all
  intro y hy
  simp at hy
  rw [hy]; exact h

theorem head?_rstripL {l : CStr} {x : Nat} (h : (rstripL l).head? = some x) : l.head? = some x := by
  obtain ⟨t, hdec, _, _⟩ := rstripL_decomp l
  rw [hdec, List.head?_append, h]; rfl

theorem rstripL_head_not {p : Nat → Bool} {s : CStr} (h : s.takeWhile p = []) {a : Nat} {tl : CStr}
    (hr : rstripL s = a :: tl) : p a = false := by
  obtain ⟨t, hdec, _, _⟩ := rstripL_decomp s
  rw [hr] at hdec
  rw [hdec, List.cons_append, List.takeWhile_cons] at h
  by_cases ha : p a = true
  · simp [ha] at h
  · simpa using ha

theorem trailingOk_eq (rest : CStr) : trailingOk rest = rest.all isSpace := by
  unfold trailingOk
  rw [lstripGo_eq]
  cases rest with
  | nil => simp
  | cons a t =>
    by_cases h : (a :: t).all isSpace = true
    · simp [h]
    · have h' : ¬ (isSpace a = true ∧ ∀ x ∈ t, isSpace x = true) := by simpa using h
      simp only [h, Bool.false_eq_true, and_false, if_false]
      simp

/-- the two tests every wrapper starts with -/
theorem converted_eq {β : Type} (n : Nat) (s : CStr) (z c : β) :
    (if n = 0 then z else if (!trailingOk (s.drop n)) = true then z else c) =
      if n ≠ 0 ∧ (s.drop n).all isSpace = true then c else z := by
  rw [trailingOk_eq]
  by_cases h0 : n = 0
  · simp [h0]
  · by_cases ht : (s.drop n).all isSpace = true <;> simp [h0, ht]

theorem scanSign_nosign {s : CStr} (h1 : s.head? ≠ some 45) (h2 : s.head? ≠ some 43) :
    scanSign s = (false, 0, s) := by
  unfold scanSign
  split
  · simp at h1
  · simp at h2
  · rfl

theorem scanSign_cases (s1 : CStr) :
    (∃ r, s1 = 45 :: r ∧ scanSign s1 = (true, 1, r)) ∨
    (∃ r, s1 = 43 :: r ∧ scanSign s1 = (false, 1, r)) ∨
    (scanSign s1 = (false, 0, s1) ∧ s1.head? ≠ some 45 ∧ s1.head? ≠ some 43) := by
  cases s1 with
  | nil => exact Or.inr (Or.inr ⟨rfl, by simp, by simp⟩)
  | cons c r =>
    by_cases h1 : c = 45
    · subst h1; exact Or.inl ⟨r, rfl, rfl⟩
    · by_cases h2 : c = 43
      · subst h2; exact Or.inr (Or.inl ⟨r, rfl, rfl⟩)
      · have h1' : (c :: r).head? ≠ some 45 := by simpa using h1
        have h2' : (c :: r).head? ≠ some 43 := by simpa using h2
        exact Or.inr (Or.inr ⟨scanSign_nosign h1' h2', h1', h2'⟩)

/-- `r`, the text behind a leading `0`, starts with `x` / `X` and the base admits a hex prefix -/
def HasHexMark (base : Nat) (r : CStr) : Prop :=
  (base = 0 ∨ base = 16) ∧ (r.head? = some 120 ∨ r.head? = some 88)

instance (base : Nat) (r : CStr) : Decidable (HasHexMark base r) := by
  unfold HasHexMark; exact inferInstance

def effBase (base dflt : Nat) : Nat := if base = 0 then dflt else base

theorem scanPrefix_zero_mark {base : Nat} {r : CStr} (h : HasHexMark base r) :
    scanPrefix base (48 :: r) = (16, 2, r.tail) := by
  unfold HasHexMark at h
  simp [scanPrefix, h]

theorem scanPrefix_zero_nomark {base : Nat} {r : CStr} (h : ¬ HasHexMark base r) :
    scanPrefix base (48 :: r) = (effBase base 8, 0, 48 :: r) := by
  unfold HasHexMark at h
  unfold effBase
  by_cases hb : base = 0
  · subst hb
    have h' : ¬ (r.head? = some 120 ∨ r.head? = some 88) := by simpa using h
    simp [scanPrefix, h']
  · by_cases h16 : base = 16
    · subst h16
      have h' : ¬ (r.head? = some 120 ∨ r.head? = some 88) := by simpa using h
      simp [scanPrefix, h']
    · simp [scanPrefix, hb, h16]

theorem scanPrefix_nonzero {base : Nat} {s : CStr} (h : s.head? ≠ some 48) :
    scanPrefix base s = (effBase base 10, 0, s) := by
  unfold scanPrefix effBase
  split
  · rename_i r; simp at h
  · by_cases hb : base = 0 <;> simp [hb]

theorem numeralBody_nonzero {base : Nat} {s : CStr} (h : s.head? ≠ some 48) :
    numeralBody base s = (effBase base 10, s) := by
  unfold numeralBody effBase
  split
  · simp at h
  · simp at h
  · by_cases hb : base = 0 <;> simp [hb]

theorem numeralBody_zero_nomark {base : Nat} {r : CStr} (h : ¬ HasHexMark base r) :
    numeralBody base (48 :: r) = (effBase base 8, 48 :: r) := by
  unfold HasHexMark at h
  unfold effBase
  cases r with
  | nil => by_cases hb : base = 0 <;> simp [numeralBody, hb]
  | cons x r2 =>
    cases r2 with
    | nil => by_cases hb : base = 0 <;> simp [numeralBody, hb]
    | cons d tl =>
      simp at h
      by_cases hb : base = 0
      · subst hb
        have : ¬ (x = 120 ∨ x = 88) := by simpa using h
        simp [numeralBody, this]
      · by_cases h16 : base = 16
        · subst h16
          have : ¬ (x = 120 ∨ x = 88) := by simpa using h
          simp [numeralBody, this]
        · simp [numeralBody, hb, h16]

theorem numeralBody_mark_digit {base : Nat} {x d : Nat} {tl : CStr} (h : HasHexMark base (x :: d :: tl))
    (hd : isDigitIn 16 d = true) : numeralBody base (48 :: x :: d :: tl) = (16, d :: tl) := by
  unfold HasHexMark at h
  simp at h
  simp [numeralBody, h, hd]

theorem isSpace_eq_false {c : Nat} (h : 33 ≤ c) : isSpace c = false := by
  have h1 : ¬ c = 32 := by omega
  have h2 : ¬ c ≤ 13 := by omega
  simp [isSpace, h1, h2]

theorem digit_not_space {b c : Nat} (h : isDigitIn b c = true) : isSpace c = false := by
  apply isSpace_eq_false
  unfold isDigitIn digitVal at h
  by_cases h1 : 48 ≤ c ∧ c ≤ 57
  · omega
  · by_cases h2 : 65 ≤ c ∧ c ≤ 90
    · omega
    · by_cases h3 : 97 ≤ c ∧ c ≤ 122
      · omega
      · simp [h1, h2, h3] at h

theorem zero_isDigit {b : Nat} (hb : 2 ≤ b) : isDigitIn b 48 = true := by
  have : 0 < b := by omega
  simp [isDigitIn, digitVal, this]

theorem mark_not_digit {b x : Nat} (hb : b ≤ 16) (hx : x = 120 ∨ x = 88) : isDigitIn b x = false := by
  rcases hx with rfl | rfl
  · simp [isDigitIn, digitVal]; omega
  · simp [isDigitIn, digitVal]; omega

theorem effBase_ge {base d : Nat} (hb : validBase base = true) (hd : 2 ≤ d) : 2 ≤ effBase base d := by
  unfold effBase validBase at *
  by_cases h : base = 0
  · simp [h]; exact hd
  · simp [h] at hb ⊢; omega

theorem digits_split (b : Nat) (s3 : CStr) :
    rstripL s3 = s3.takeWhile (isDigitIn b) ++ rstripL (s3.dropWhile (isDigitIn b)) ∧
    ((s3.takeWhile (isDigitIn b) ++ rstripL (s3.dropWhile (isDigitIn b))).all (isDigitIn b) = true ↔
      rstripL (s3.dropWhile (isDigitIn b)) = []) := by
  have hall := all_takeWhile (isDigitIn b) s3
  have hends : EndsNonBlank (s3.takeWhile (isDigitIn b)) :=
    endsNonBlank_of_all (fun x hx => digit_not_space (hall x hx))
  constructor
  · conv => lhs; rw [← List.takeWhile_append_dropWhile (p := isDigitIn b) (l := s3)]
    exact rstripL_append hends
  · constructor
    · -- what is left of the rest starts with the character the digit run stopped at
      intro h
      cases hr : rstripL (s3.dropWhile (isDigitIn b)) with
      | nil => rfl
      | cons a tl =>
        have := List.all_eq_true.mp h a (by rw [hr]; simp)
        rw [rstripL_head_not (takeWhile_dropWhile _ s3) hr] at this
        cases this
    · intro h
      rw [h, List.append_nil]
      exact List.all_eq_true.mpr hall

/-- the part of `strtoScan` after blanks and sign (`k` characters consumed so far) -/
def scanFrom (base k : Nat) (neg : Bool) (s2 : CStr) : Scan :=
  match scanPrefix base s2 with
  | (b, npre, s3) =>
    if s3.takeWhile (isDigitIn b) = [] then
      (if npre = 2 then { neg := neg, mag := 0, consumed := k + 1 }
       else { neg := false, mag := 0, consumed := 0 })
    else { neg := neg, mag := digitsValue b (s3.takeWhile (isDigitIn b)),
           consumed := k + npre + (s3.takeWhile (isDigitIn b)).length }

/-- the part of `numeralValue` after the sign -/
def bodyValue (base : Nat) (neg : Bool) (body : CStr) : Option Int :=
  match numeralBody base body with
  | (b, ds) =>
    if ds ≠ [] ∧ ds.all (isDigitIn b) then
      some (if neg then -(digitsValue b ds : Int) else (digitsValue b ds : Int))
    else none

/-- the value `scanOutcome` reports -/
def signed (sc : Scan) : Int := if sc.neg then -(sc.mag : Int) else (sc.mag : Int)

/-- what a wrapper can see of a scan: a conversion happened and only blanks follow -/
def scanOutcome (sc : Scan) (s : CStr) : Option Int :=
  if sc.consumed ≠ 0 ∧ (s.drop sc.consumed).all isSpace then
    some (if sc.neg then -(sc.mag : Int) else (sc.mag : Int))
  else none

theorem scanOutcome_eq (sc : Scan) (s : CStr) :
    scanOutcome sc s = if sc.consumed ≠ 0 ∧ (s.drop sc.consumed).all isSpace then some (signed sc) else none := rfl

/-- the end shared by the branches of `scanFrom_spec` in which digits are scanned: `pfx` is what stands
before the body (blanks, sign), `pre` the base prefix consumed (`0x` or nothing), `s3` the text from
the first digit on -/
theorem digits_case (base b : Nat) (neg : Bool) (pfx pre s3 : CStr)
    (hpre : EndsNonBlank pre) (hne : s3.takeWhile (isDigitIn b) ≠ [])
    (hnb : numeralBody base (pre ++ rstripL s3) = (b, rstripL s3)) :
    bodyValue base neg (rstripL (pre ++ s3)) =
      scanOutcome { neg := neg, mag := digitsValue b (s3.takeWhile (isDigitIn b)),
                    consumed := pfx.length + pre.length + (s3.takeWhile (isDigitIn b)).length }
        (pfx ++ (pre ++ s3)) := by
  obtain ⟨hsplit, hall⟩ := digits_split b s3
  -- `pre ++ s3` is the token `pre ++ digits`, what is left of the core, blanks
  obtain ⟨t, hdec, ht, hend⟩ := rstripL_decomp (pre ++ s3)
  rw [rstripL_append hpre, hsplit, ← List.append_assoc] at hdec hend
  have hcons : pfx.length + (pre ++ s3.takeWhile (isDigitIn b)).length ≠ 0 := by
    have := List.length_pos_iff.mpr hne
    rw [List.length_append]; omega
  unfold bodyValue
  rw [rstripL_append hpre, hnb, scanOutcome_eq, hdec, List.append_assoc, Nat.add_assoc, ← List.length_append]
  simp only [blanks_follow_iff hend ht, hsplit, hall, ne_eq, hcons, not_false_eq_true, true_and]
  by_cases hw : rstripL (s3.dropWhile (isDigitIn b)) = []
  · rw [hw, List.append_nil]
    simp [hne, signed]
  · simp [hw]

theorem endsNonBlank_mark {x : Nat} (hx : x = 120 ∨ x = 88) : EndsNonBlank [48, x] := by
  apply endsNonBlank_of_all
  intro y hy
  simp at hy
  rcases hy with rfl | rfl
  · decide
  · rcases hx with rfl | rfl <;> decide

theorem numeralBody_mark_short {base x : Nat} : numeralBody base [48, x] = (effBase base 8, [48, x]) := by
  unfold effBase
  by_cases hb : base = 0 <;> simp [numeralBody, hb]

theorem numeralBody_mark_nodigit {base x d : Nat} {tl : CStr} (hd : isDigitIn 16 d = false) :
    numeralBody base (48 :: x :: d :: tl) = (effBase base 8, 48 :: x :: d :: tl) := by
  unfold effBase
  by_cases hb : base = 0 <;> simp [numeralBody, hb, hd]

theorem scanFrom_spec (base : Nat) (hb : validBase base = true) (pfx s2 : CStr) (neg : Bool) :
    bodyValue base neg (rstripL s2) = scanOutcome (scanFrom base pfx.length neg s2) (pfx ++ s2) := by
  by_cases h48 : s2.head? = some 48
  · -- the string starts with '0'
    obtain ⟨r, rfl⟩ := List.head?_eq_some_iff.mp h48
    by_cases hm : HasHexMark base r
    · -- 0x / 0X consumed as a prefix
      obtain ⟨x, s3, rfl, hx⟩ : ∃ x s3, r = x :: s3 ∧ (x = 120 ∨ x = 88) := by
        cases r with
        | nil => simp [HasHexMark] at hm
        | cons x s3 => exact ⟨x, s3, rfl, by simpa [HasHexMark] using hm.2⟩
      have hb16 : effBase base 8 ≤ 16 := by
        unfold effBase; rcases hm.1 with h | h <;> simp [h]
      unfold scanFrom
      rw [scanPrefix_zero_mark hm]
      simp only [List.tail_cons]
      by_cases hds : s3.takeWhile (isDigitIn 16) = []
      · -- no hex digit follows: value 0, endptr at the 'x'
        simp only [hds, if_true]
        have hxs : isSpace x = false := by rcases hx with rfl | rfl <;> decide
        have hdrop : (pfx ++ 48 :: x :: s3).drop (pfx.length + 1) = x :: s3 := by
          rw [List.drop_length_add_append]; rfl
        have hout : scanOutcome { neg := neg, mag := 0, consumed := pfx.length + 1 } (pfx ++ 48 :: x :: s3) = none := by
          unfold scanOutcome
          simp [hdrop, hxs]
        rw [hout]
        unfold bodyValue
        have hr : rstripL (48 :: x :: s3) = 48 :: x :: rstripL s3 :=
          rstripL_append (a := [48, x]) (b := s3) (endsNonBlank_mark hx)
        rw [hr]
        have hxd : isDigitIn (effBase base 8) x = false := mark_not_digit hb16 hx
        cases hrs : rstripL s3 with
        | nil =>
          rw [numeralBody_mark_short]
          simp [hxd]
        | cons d tl =>
          rw [numeralBody_mark_nodigit (rstripL_head_not hds hrs)]
          simp [hxd]
      · simp only [hds, if_false]
        obtain ⟨d, ds', hdd⟩ : ∃ d ds', s3.takeWhile (isDigitIn 16) = d :: ds' := by
          cases h : s3.takeWhile (isDigitIn 16) with
          | nil => exact absurd h hds
          | cons d ds' => exact ⟨d, ds', rfl⟩
        have hdig : isDigitIn 16 d = true :=
          all_takeWhile (isDigitIn 16) s3 d (by rw [hdd]; simp)
        have hnb : numeralBody base ([48, x] ++ rstripL s3) = (16, rstripL s3) := by
          rw [(digits_split 16 s3).1, hdd]
          exact numeralBody_mark_digit (tl := ds' ++ rstripL (s3.dropWhile (isDigitIn 16)))
            (by simpa [HasHexMark] using And.intro hm.1 hx) hdig
        have := digits_case base 16 neg pfx [48, x] s3 (endsNonBlank_mark hx) hds hnb
        simpa using this
    · -- a plain leading zero
      have hb2 : 2 ≤ effBase base 8 := effBase_ge hb (by omega)
      unfold scanFrom
      rw [scanPrefix_zero_nomark hm]
      have hds : (48 :: r).takeWhile (isDigitIn (effBase base 8)) ≠ [] := by
        rw [List.takeWhile_cons, zero_isDigit hb2]; simp
      simp only [hds, if_false]
      have hnb : numeralBody base ([] ++ rstripL (48 :: r)) = (effBase base 8, rstripL (48 :: r)) := by
        have e : rstripL (48 :: r) = 48 :: rstripL r :=
          rstripL_append (a := [48]) (b := r) (endsNonBlank_single (by decide))
        rw [List.nil_append, e]
        refine numeralBody_zero_nomark fun hm' => hm ⟨hm'.1, ?_⟩
        rcases hm'.2 with h | h
        · exact Or.inl (head?_rstripL h)
        · exact Or.inr (head?_rstripL h)
      have := digits_case base (effBase base 8) neg pfx [] (48 :: r) endsNonBlank_nil hds hnb
      simpa using this
  · -- no leading zero: no prefix
    unfold scanFrom
    rw [scanPrefix_nonzero h48]
    have hhead : (rstripL s2).head? ≠ some 48 := fun h => h48 (head?_rstripL h)
    by_cases hds : s2.takeWhile (isDigitIn (effBase base 10)) = []
    · simp only [hds, if_true]
      have hout : scanOutcome { neg := false, mag := 0, consumed := 0 } (pfx ++ s2) = none := by
        simp [scanOutcome]
      have h20 : ¬ (0 = 2) := by omega
      simp only [h20, if_false, hout]
      unfold bodyValue
      rw [numeralBody_nonzero hhead]
      cases hrs : rstripL s2 with
      | nil => simp
      | cons a tl =>
        simp [rstripL_head_not hds hrs]
    · simp only [hds, if_false]
      have := digits_case base (effBase base 10) neg pfx [] s2 endsNonBlank_nil hds (numeralBody_nonzero hhead)
      simpa using this

theorem strtoScan_eq (s : CStr) (base : Nat) :
    strtoScan s base =
      (match scanSign (s.dropWhile isSpace) with
       | (neg, nsign, s2) => scanFrom base ((s.takeWhile isSpace).length + nsign) neg s2) := by
  unfold strtoScan scanFrom
  rfl

theorem numeralValue_eq (base : Nat) (core : CStr) :
    numeralValue base core =
      (match scanSign core with
       | (neg, _, body) => bodyValue base neg body) := by
  unfold numeralValue bodyValue
  rfl

/-- sign handling, shared by the whole string and its stripped core -/
theorem sign_core (s1 : CStr) : ∃ sg s2 neg, s1 = sg ++ s2 ∧ scanSign s1 = (neg, sg.length, s2) ∧
    ∃ k, scanSign (rstripL s1) = (neg, k, rstripL s2) := by
  rcases scanSign_cases s1 with ⟨s2, e1, hsg⟩ | ⟨s2, e1, hsg⟩ | ⟨hsg, hn1, hn2⟩
  · refine ⟨[45], s2, true, e1, hsg, 1, ?_⟩
    have hc : rstripL s1 = 45 :: rstripL s2 := by
      rw [e1]; exact rstripL_append (a := [45]) (b := s2) (endsNonBlank_single (by decide))
    rw [hc]; rfl
  · refine ⟨[43], s2, false, e1, hsg, 1, ?_⟩
    have hc : rstripL s1 = 43 :: rstripL s2 := by
      rw [e1]; exact rstripL_append (a := [43]) (b := s2) (endsNonBlank_single (by decide))
    rw [hc]; rfl
  · exact ⟨[], s1, false, rfl, hsg, 0,
      scanSign_nosign (fun h => hn1 (head?_rstripL h)) (fun h => hn2 (head?_rstripL h))⟩

theorem scan_spec (s : CStr) (base : Nat) (hb : validBase base = true) :
    numeralValue base (stripBlanks s) = scanOutcome (strtoScan s base) s := by
  have hs : s = s.takeWhile isSpace ++ s.dropWhile isSpace := List.takeWhile_append_dropWhile.symm
  rw [stripBlanks_eq, strtoScan_eq, numeralValue_eq]
  generalize s.takeWhile isSpace = ws at hs
  generalize s.dropWhile isSpace = s1 at hs
  obtain ⟨sg, s2, neg, e1, hsg, k, hcore⟩ := sign_core s1
  rw [hsg, hcore]
  show bodyValue base neg (rstripL s2) = _
  have := scanFrom_spec base hb (ws ++ sg) s2 neg
  rw [this, hs, e1]
  simp

theorem refParse_eq (lo hi : Int) (s : CStr) (base : Nat) (hb : validBase base = true) :
    refParse lo hi s base =
      (scanOutcome (strtoScan s base) s).bind fun v => if lo ≤ v ∧ v ≤ hi then some v else none := by
  unfold refParse
  rw [scan_spec s base hb]
  cases scanOutcome (strtoScan s base) s <;> rfl

theorem refParse_eq_some (lo hi : Int) (s : CStr) (base : Nat) (v : Int) :
    refParse lo hi s base = some v ↔ numeralValue base (stripBlanks s) = some v ∧ lo ≤ v ∧ v ≤ hi := by
  unfold refParse
  cases numeralValue base (stripBlanks s) with
  | none => simp
  | some w =>
    by_cases hr : lo ≤ w ∧ w ≤ hi
    · simp only [if_pos hr, Option.some.injEq]
      exact ⟨fun e => e ▸ ⟨rfl, hr⟩, fun h => h.1⟩
    · simp only [if_neg hr, reduceCtorEq, Option.some.injEq, false_iff]
      exact fun h => hr (h.1 ▸ h.2)

/-- what all wrappers share; `chain` is the rest of the decision chain -/
theorem wrapper_eq {α : Type} {sc : Scan} {s : CStr} {chain : Except Err (Option α)} {f : Int → Option α}
    (h : chain = .ok (f (signed sc))) :
    (if sc.consumed = 0 then .ok none
     else if (!trailingOk (s.drop sc.consumed)) = true then .ok none else chain) =
      .ok ((scanOutcome sc s).bind f) := by
  rw [converted_eq, h, scanOutcome_eq]
  split <;> rfl

theorem two63 : (2 : Nat) ^ (64 - 1) = 9223372036854775808 := by decide
theorem two63i : (2 : Int) ^ (64 - 1) = 9223372036854775808 := by decide

theorem two64 : (2 : Nat) ^ 64 = 18446744073709551616 := by decide

/-- `strtol` returns the exact value, or saturates at a limit of `long` and reports `ERANGE` -/
theorem strtolVal_cases (sc : Scan) :
    (signed sc < LONG_MIN ∧ strtolVal 64 sc = (LONG_MIN, true)) ∨
    (LONG_MAX < signed sc ∧ strtolVal 64 sc = (LONG_MAX, true)) ∨
    (LONG_MIN ≤ signed sc ∧ signed sc ≤ LONG_MAX ∧ strtolVal 64 sc = (signed sc, false)) := by
  obtain ⟨neg, mag, c⟩ := sc
  unfold strtolVal signed LONG_MAX LONG_MIN
  simp only [two63, two63i]
  cases neg <;> simp only [Bool.false_eq_true, if_false, if_true]
  · by_cases hm : mag > 9223372036854775808 - 1
    · rw [if_pos hm]; exact Or.inr (Or.inl ⟨by omega, rfl⟩)
    · rw [if_neg hm]; exact Or.inr (Or.inr ⟨by omega, by omega, rfl⟩)
  · by_cases hm : mag > 9223372036854775808
    · rw [if_pos hm]; exact Or.inl ⟨by omega, rfl⟩
    · rw [if_neg hm]; exact Or.inr (Or.inr ⟨by omega, by omega, rfl⟩)

theorem toi_arith (sc : Scan) :
    (if ((strtolVal 64 sc).fst = LONG_MAX ∨ (strtolVal 64 sc).fst = LONG_MIN) ∧ (strtolVal 64 sc).snd = true then
        (Except.ok none : Except Err (Option Int))
      else if (strtolVal 64 sc).fst > INT_MAX ∨ (strtolVal 64 sc).fst < INT_MIN then Except.ok none
      else Except.ok (some (strtolVal 64 sc).fst)) =
    Except.ok (if INT_MIN ≤ signed sc ∧ signed sc ≤ INT_MAX then some (signed sc) else none) := by
  generalize hv : signed sc = v
  rcases strtolVal_cases sc with ⟨h, e⟩ | ⟨h, e⟩ | ⟨h1, h2, e⟩ <;> rw [e, hv] at * <;>
    unfold LONG_MAX LONG_MIN at * <;> unfold INT_MAX INT_MIN <;> dsimp only
  · rw [if_pos ⟨Or.inr rfl, rfl⟩, if_neg (by omega)]
  · rw [if_pos ⟨Or.inl rfl, rfl⟩, if_neg (by omega)]
  · rw [if_neg (by simp)]
    by_cases hs : v > 2147483647 ∨ v < -2147483648
    · rw [if_pos hs, if_neg (by omega)]
    · rw [if_neg hs, if_pos (by omega)]

theorem strToi_eq (s : CStr) (base : Nat) (hb : validBase base = true) :
    strToi s base = .ok (refParse INT_MIN INT_MAX s base) := by
  rw [refParse_eq _ _ _ _ hb]
  unfold strToi
  simp only [hb, Bool.not_true, Bool.false_eq_true, if_false]
  exact wrapper_eq (toi_arith _)

theorem tol_arith (sc : Scan) :
    (if (strtolVal 64 sc).fst = LONG_MAX ∨ (strtolVal 64 sc).fst = LONG_MIN then
        (Except.ok none : Except Err (Option Int))
      else Except.ok (some (strtolVal 64 sc).fst)) =
    Except.ok (if LONG_MIN + 1 ≤ signed sc ∧ signed sc ≤ LONG_MAX - 1 then some (signed sc) else none) := by
  generalize hv : signed sc = v
  rcases strtolVal_cases sc with ⟨h, e⟩ | ⟨h, e⟩ | ⟨h1, h2, e⟩ <;> rw [e, hv] at * <;>
    unfold LONG_MAX LONG_MIN at * <;> dsimp only
  · rw [if_pos (Or.inr rfl), if_neg (by omega)]
  · rw [if_pos (Or.inl rfl), if_neg (by omega)]
  · by_cases hs : v = 9223372036854775807 ∨ v = -9223372036854775808
    · rw [if_pos hs, if_neg (by omega)]
    · rw [if_neg hs, if_pos (by omega)]

/-- the range is open: `muggle_str_tol` / `toll` reject the two sentinels, as documented -/
theorem strTol_eq (s : CStr) (base : Nat) (hb : validBase base = true) :
    strTol s base = .ok (refParse (LONG_MIN + 1) (LONG_MAX - 1) s base) := by
  rw [refParse_eq _ _ _ _ hb]
  unfold strTol
  simp only [hb, Bool.not_true, Bool.false_eq_true, if_false]
  exact wrapper_eq (tol_arith _)

/-- `strtoul`: exact value, `ULONG_MAX` beyond it; behind a `-` sign (two's complement in the model)
only that the result is 0 iff the magnitude is, which is all the wrappers test -/
theorem strtoulVal_cases (sc : Scan) :
    (ULONG_MAX < sc.mag ∧ (strtoulVal 64 sc).fst = ULONG_MAX) ∨
    (sc.mag ≤ ULONG_MAX ∧ sc.neg = false ∧ (strtoulVal 64 sc).fst = sc.mag) ∨
    (sc.mag = 0 ∧ sc.neg = true ∧ (strtoulVal 64 sc).fst = 0) ∨
    (0 < sc.mag ∧ sc.neg = true ∧ (strtoulVal 64 sc).fst ≠ 0) := by
  obtain ⟨neg, mag, c⟩ := sc
  unfold strtoulVal ULONG_MAX
  simp only [two64]
  by_cases hm : mag > 18446744073709551616 - 1
  · rw [if_pos hm]; exact Or.inl ⟨by omega, rfl⟩
  · rw [if_neg hm]
    cases neg
    · exact Or.inr (Or.inl ⟨by omega, rfl, rfl⟩)
    · by_cases h0 : mag = 0
      · subst h0; exact Or.inr (Or.inr (Or.inl ⟨rfl, rfl, rfl⟩))
      · refine Or.inr (Or.inr (Or.inr ⟨by omega, rfl, ?_⟩))
        simp only [if_true]
        omega

theorem tou_arith (limit : Nat) (hl : limit ≤ ULONG_MAX - 1) (sc : Scan) :
    (if (strtoulVal 64 sc).fst = ULONG_MAX then (Except.ok none : Except Err (Option Nat))
      else if (strtoulVal 64 sc).fst > limit then Except.ok none
      else if sc.neg = true ∧ (strtoulVal 64 sc).fst ≠ 0 then Except.ok none
      else Except.ok (some (strtoulVal 64 sc).fst)) =
    Except.ok ((if 0 ≤ signed sc ∧ signed sc ≤ (limit : Int) then some (signed sc) else none).map Int.toNat) := by
  obtain ⟨neg, mag, c⟩ := sc
  unfold signed
  unfold ULONG_MAX at hl
  rcases strtoulVal_cases ⟨neg, mag, c⟩ with ⟨h, e⟩ | ⟨h, hn, e⟩ | ⟨h, hn, e⟩ | ⟨h, hn, e⟩ <;>
    unfold ULONG_MAX at * <;> dsimp only at *
  · rw [if_pos e, if_neg (by split <;> omega)]; rfl
  · subst hn
    rw [e]
    by_cases h1 : mag = 18446744073709551615
    · rw [if_pos h1, if_neg (by simp; omega)]; rfl
    · by_cases h2 : mag > limit
      · rw [if_neg h1, if_pos h2, if_neg (by simp; omega)]; rfl
      · rw [if_neg h1, if_neg h2, if_neg (by simp), if_pos (by simp; omega)]
        simp
  · subst hn h
    rw [e, if_neg (by omega), if_neg (by omega), if_neg (by simp), if_pos (by simp)]
    rfl
  · subst hn
    have hneg : ¬ (0 ≤ -(mag : Int) ∧ -(mag : Int) ≤ limit) := by omega
    simp only [if_true, hneg, if_false, Option.map_none]
    split
    · rfl
    · split
      · rfl
      · rw [if_pos ⟨trivial, e⟩]

theorem strToUnsigned_eq (limit : Nat) (hl : limit ≤ ULONG_MAX - 1) (s : CStr) (base : Nat)
    (hb : validBase base = true) :
    strToUnsigned limit s base = .ok ((refParse 0 limit s base).map Int.toNat) := by
  rw [refParse_eq _ _ _ _ hb, Option.map_bind]
  unfold strToUnsigned
  simp only [hb, Bool.not_true, Bool.false_eq_true, if_false]
  exact wrapper_eq (tou_arith limit hl _)

end MgProof.C20
