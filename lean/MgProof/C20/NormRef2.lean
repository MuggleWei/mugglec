import MgProof.C20.NormRef
/-!
# C20 — the string-level loop `normGoS` computes the reference fold `normFold`

Invariant: the produced string is `flatR st ++ cur` for a stack `st` of complete segments (`StackOk`)
and the name `cur` under construction (`CurOk`). The lemmas speak of the last character as `l.reverse = x :: r`
(`chr_last`).
-/
namespace MgProof.C20
open MgModel.C20

theorem chr_last {l : CStr} {x : Nat} {r : CStr} (h : l.reverse = x :: r) : chr l (l.length - 1) = x := by
  unfold chr
  rw [List.getD_eq_getElem?_getD, ← List.getLast?_eq_getElem?, ← List.head?_reverse, h]; rfl

theorem endsDDS_iff (out : CStr) :
    endsDDS out = true ↔ ∃ s r, out.reverse = s :: 46 :: 46 :: r ∧ isSep s = true := by
  obtain ⟨l, rfl⟩ : ∃ l, out = l.reverse := ⟨out.reverse, (List.reverse_reverse _).symm⟩
  rw [List.reverse_reverse]
  match l with
  | [] | [_] | [_, _] => simp [endsDDS]
  | x :: y :: z :: r =>
    simp [endsDDS, chr]
    constructor
    · rintro ⟨⟨h1, h2⟩, h3⟩; exact ⟨x, ⟨rfl, h2, h1⟩, h3⟩
    · rintro ⟨s, ⟨rfl, h2, h1⟩, h3⟩; exact ⟨⟨h1, h2⟩, h3⟩

theorem hasDotDot_cons (c : Nat) (l : CStr) :
    hasDotDot (c :: l) = ((c == 46 && l.head? == some 46) || hasDotDot l) := by
  cases l with
  | nil => by_cases hc : c = 46 <;> simp [hasDotDot, hc]
  | cons d t => by_cases hc : c = 46 <;> (by_cases hd : d = 46) <;> simp [hasDotDot, hc, hd]

theorem hasDotDot_iff : ∀ l : CStr, hasDotDot l = true ↔ [46, 46] <:+: l
  | [] => by simp [hasDotDot]
  | c :: l => by
    rw [hasDotDot_cons, List.infix_cons_iff, ← hasDotDot_iff l, Bool.or_eq_true, Bool.and_eq_true, beq_iff_eq,
      List.cons_prefix_cons]
    cases l with
    | nil => simp
    | cons d t =>
      simp only [List.head?_cons, beq_iff_eq, Option.some.injEq, List.cons_prefix_cons, List.nil_prefix,
        and_true, @eq_comm _ 46]

theorem hasDotDot_append_left (a b : CStr) (h : hasDotDot a = true) : hasDotDot (a ++ b) = true :=
  (hasDotDot_iff _).mpr (((hasDotDot_iff a).mp h).trans (List.infix_append' [] a b))

theorem hasDotDot_append_dd (a b : CStr) : hasDotDot (a ++ 46 :: 46 :: b) = true :=
  (hasDotDot_iff _).mpr ⟨a, b, by simp⟩

theorem hasDotDot_snoc : ∀ (a : CStr) (c : Nat), hasDotDot a = false →
    (a.getLast? = some 46 → c ≠ 46) → hasDotDot (a ++ [c]) = false
  | [], c, _, _ => by simp [hasDotDot_cons, hasDotDot]
  | [x], c, _, hl => by
    rw [List.cons_append, hasDotDot_cons]
    simp only [List.nil_append, List.head?_cons, Bool.or_eq_false_iff, Bool.and_eq_false_iff]
    constructor
    · by_cases hx : x = 46
      · subst hx
        right
        have := hl rfl
        simpa using this
      · left; simpa using hx
    · simp [hasDotDot_cons, hasDotDot]
  | x :: y :: t, c, h, hl => by
    rw [hasDotDot_cons] at h
    rw [List.cons_append, hasDotDot_cons]
    simp only [Bool.or_eq_false_iff, Bool.and_eq_false_iff] at h ⊢
    refine ⟨?_, hasDotDot_snoc (y :: t) c h.2 (by simpa using hl)⟩
    simpa using h.1

def SegOk (seg : CStr × Option Nat) : Prop :=
  ∃ s, seg.2 = some s ∧ isSep s = true ∧ (∀ c ∈ seg.1, isSep c = false) ∧
    (seg.1 = [46, 46] ∨ hasDotDot seg.1 = false)

def StackOk (st : List (CStr × Option Nat)) : Prop := ∀ seg ∈ st, SegOk seg

theorem StackOk.cons {seg : CStr × Option Nat} {st : List (CStr × Option Nat)} (h : SegOk seg) (hst : StackOk st) :
    StackOk (seg :: st) :=
  List.forall_mem_cons.mpr ⟨h, hst⟩

theorem StackOk.tail {seg : CStr × Option Nat} {st : List (CStr × Option Nat)} (h : StackOk (seg :: st)) :
    StackOk st :=
  (List.forall_mem_cons.mp h).2

theorem isSep46 : isSep 46 = false := by decide

theorem stackOk_push {st : List (CStr × Option Nat)} (hst : StackOk st) {e : Nat} (he : isSep e = true) :
    StackOk (([46, 46], some e) :: st) :=
  .cons ⟨e, rfl, he, by intro c hc; simp at hc; rw [hc]; exact isSep46, Or.inl rfl⟩ hst

/-- the stack is kept top first -/
def flatR (st : List (CStr × Option Nat)) : CStr := flattenSegs st.reverse

theorem flattenSegs_append : ∀ (l1 l2 : List (CStr × Option Nat)),
    flattenSegs (l1 ++ l2) = flattenSegs l1 ++ flattenSegs l2
  | [], _ => rfl
  | (n, s) :: l1, l2 => by
    simp [flattenSegs, flattenSegs_append l1 l2]

theorem flatR_cons (n : CStr) (s : Option Nat) (st : List (CStr × Option Nat)) :
    flatR ((n, s) :: st) = flatR st ++ n ++ s.toList := by
  unfold flatR
  rw [List.reverse_cons, flattenSegs_append]
  simp [flattenSegs]

theorem flatR_nil : flatR [] = [] := rfl

def SepEnded (A : CStr) : Prop := A = [] ∨ ∃ s r, A.reverse = s :: r ∧ isSep s = true

theorem SepEnded.not_dot {A r : CStr} (hA : SepEnded A) : A.reverse ≠ 46 :: r := by
  rintro hr
  rcases hA with rfl | ⟨s, r', hr', hs⟩
  · cases hr
  · rw [hr'] at hr
    injection hr with h1 _
    rw [h1, isSep46] at hs
    cases hs

theorem flatR_ends : ∀ {st : List (CStr × Option Nat)}, StackOk st → SepEnded (flatR st)
  | [], _ => Or.inl rfl
  | (n, so) :: st', h => by
    obtain ⟨s, hs, hsep, _, _⟩ := h (n, so) (by simp)
    simp only at hs
    subst hs
    rw [flatR_cons]
    exact Or.inr ⟨s, (flatR st' ++ n).reverse, by simp, hsep⟩

theorem flatR_eq_nil {st : List (CStr × Option Nat)} (h : StackOk st) : flatR st = [] ↔ st = [] := by
  cases st with
  | nil => exact ⟨fun _ => rfl, fun _ => rfl⟩
  | cons seg st' =>
    obtain ⟨s, hs, _⟩ := h seg (by simp)
    obtain ⟨n, so⟩ := seg
    simp only at hs
    subst hs
    rw [flatR_cons]
    simp

theorem scanBackS_skip (out : CStr) (a : Nat) : ∀ k, (∀ i, a ≤ i → i < a + k → isSep (chr out i) = false) →
    scanBackS out (a + k) = scanBackS out a
  | 0, _ => rfl
  | k + 1, h => by
    have e : a + (k + 1) = (a + k) + 1 := by omega
    rw [e, scanBackS, h (a + k) (by omega) (by omega)]
    simp only [Bool.false_eq_true, if_false]
    exact scanBackS_skip out a k (fun i h1 h2 => h i h1 (by omega))

theorem scanBackS_name (A n2 X : CStr) (hn : ∀ c ∈ n2, isSep c = false) (hA : SepEnded A) :
    scanBackS (A ++ n2 ++ X) (A.length + n2.length) = A.length := by
  rw [scanBackS_skip]
  · rcases hA with h0 | ⟨s, r, hr, hs⟩
    · subst h0; rfl
    · have hl : A.length = r.length + 1 := by
        have := congrArg List.length hr; simpa using this
      rw [hl, scanBackS]
      have : chr (A ++ n2 ++ X) r.length = s := by
        rw [List.append_assoc, chr_append_left (by omega)]
        have := chr_last hr
        rwa [show A.length - 1 = r.length by omega] at this
      rw [this, hs]
      simp
  · intro i h1 h2
    rw [List.append_assoc, chr_append_right h1, chr_append_left (by omega)]
    exact hn _ (chr_mem (by omega))

/-- the reference side is `normFold_bad` -/
theorem dotdotS_in_name (A cur : CStr) (e : Nat) (hne : cur ≠ []) (hc : ∀ c ∈ cur, isSep c = false) :
    dotdotS (A ++ cur) e = none := by
  obtain ⟨x, r, hr⟩ := List.exists_cons_of_ne_nil (l := cur.reverse) (by simpa using hne)
  have hx : isSep x = false := hc x (by
    have : x ∈ cur.reverse := by rw [hr]; simp
    simpa using this)
  have hrev : (A ++ cur).reverse = x :: (r ++ A.reverse) := by simp [hr]
  unfold dotdotS popS endsDDS
  rw [chr_last hrev, hx]
  simp [hne]

theorem endsDDS_stack (A n2 : CStr) (s2 : Nat) (hs2 : isSep s2 = true)
    (hdd : n2 = [46, 46] ∨ hasDotDot n2 = false) (hA : SepEnded A) :
    endsDDS (A ++ n2 ++ [s2]) = true ↔ n2 = [46, 46] := by
  have hrev : (A ++ n2 ++ [s2]).reverse = s2 :: (n2.reverse ++ A.reverse) := by simp
  rw [endsDDS_iff, hrev]
  constructor
  · rintro ⟨s, r, hr, _⟩
    injection hr with _ hr
    match hn2 : n2.reverse with
    | [] =>
      -- fewer than two characters: the `..` would reach into `A`, which ends in a separator
      rw [hn2, List.nil_append] at hr
      exact absurd hr hA.not_dot
    | [x] =>
      rw [hn2] at hr
      injection hr with _ hr
      exact absurd hr hA.not_dot
    | x :: y :: t' =>
      -- two or more: `n2` ends in `..`, so `hasDotDot n2`
      rw [hn2] at hr
      injection hr with hx hr
      injection hr with hy _
      rw [List.reverse_eq_cons_iff] at hn2
      have hn2' : n2 = t'.reverse ++ [46, 46] := by
        rw [hn2, List.reverse_cons, hx, hy, List.append_assoc]; rfl
      rcases hdd with h | h
      · exact h
      · rw [hn2', hasDotDot_append_dd] at h; cases h
  · rintro rfl
    exact ⟨s2, A.reverse, rfl, hs2⟩

theorem dotdotS_stack (A n2 : CStr) (s2 e : Nat) (hs2 : isSep s2 = true)
    (hn : ∀ c ∈ n2, isSep c = false) (hdd : n2 = [46, 46] ∨ hasDotDot n2 = false) (hA : SepEnded A) :
    dotdotS (A ++ n2 ++ [s2]) e =
      if n2 = [46, 46] then some (pushS (A ++ n2 ++ [s2]) e)
      else if n2 = [] ∧ A = [] then none
      else some A := by
  have hlen : (A ++ n2 ++ [s2]).length = A.length + n2.length + 1 := by
    rw [List.length_append, List.length_append]; rfl
  have hrev : (A ++ n2 ++ [s2]).reverse = s2 :: (n2.reverse ++ A.reverse) := by simp
  unfold dotdotS
  rw [if_neg (show ¬ (A ++ n2 ++ [s2]).length = 0 by omega)]
  by_cases hnn : n2 = [46, 46]
  · rw [if_pos ((endsDDS_stack A n2 s2 hs2 hdd hA).mpr hnn), if_pos hnn]
  · rw [if_neg (fun h => hnn ((endsDDS_stack A n2 s2 hs2 hdd hA).mp h)), if_neg hnn]
    -- `popS`: the last character is the separator `s2`; scanning back skips the name `n2`
    unfold popS
    rw [chr_last hrev, hs2]
    simp only [Bool.not_true, Bool.false_eq_true, if_false]
    by_cases hsmall : n2 = [] ∧ A = []
    · rw [if_pos (by rw [hlen, hsmall.1, hsmall.2]; simp), if_pos hsmall]
    · have : ¬ (A ++ n2 ++ [s2]).length < 2 := by
        rw [hlen]
        intro hlt
        exact hsmall ⟨List.eq_nil_of_length_eq_zero (by omega), List.eq_nil_of_length_eq_zero (by omega)⟩
      rw [if_neg this, if_neg hsmall, show (A ++ n2 ++ [s2]).length - 1 = A.length + n2.length by omega,
        scanBackS_name A n2 [s2] hn hA, List.append_assoc, List.take_left]

/-- third clause: no `..` straddles the name under construction and the rest of the input -/
def CurOk (cur rest : CStr) : Prop :=
  (∀ c ∈ cur, isSep c = false) ∧ hasDotDot cur = false ∧ (cur.getLast? = some 46 → rest.head? ≠ some 46)

def refK (rest cur : CStr) (st : List (CStr × Option Nat)) : Option CStr :=
  (normFold (segsAux rest cur.reverse) st).map (fun st' => flatR st')

theorem normFold_plain (name : CStr) (sep : Option Nat) (more st : List (CStr × Option Nat))
    (h : hasDotDot name = false) :
    normFold ((name, sep) :: more) st = normFold more ((name, sep) :: st) := by
  have hne : name ≠ [46, 46] := by intro e; rw [e] at h; simp [hasDotDot] at h
  rw [normFold.eq_def]
  simp [hne, h]

theorem normFold_bad_name (name : CStr) (sep : Option Nat) (more st : List (CStr × Option Nat))
    (h : hasDotDot name = true) (hl : 3 ≤ name.length) : normFold ((name, sep) :: more) st = none := by
  have hne : name ≠ [46, 46] := by intro e; rw [e] at hl; simp at hl
  rw [normFold.eq_def]
  simp [hne, h]

theorem normFold_bad : ∀ (l acc : CStr) (st : List (CStr × Option Nat)),
    hasDotDot acc.reverse = true → 3 ≤ acc.length → normFold (segsAux l acc) st = none
  | [], acc, st, h, hl => by
    have : acc ≠ [] := by intro e; rw [e] at hl; simp at hl
    simp only [segsAux, this, if_false]
    exact normFold_bad_name _ _ _ _ h (by simpa using hl)
  | c :: l, acc, st, h, hl => by
    rw [segsAux]
    by_cases hs : isSep c = true
    · simp only [hs, if_true]
      exact normFold_bad_name _ _ _ _ h (by simpa using hl)
    · simp only [hs, if_false, Bool.false_eq_true]
      apply normFold_bad l (c :: acc) st
      · rw [List.reverse_cons]; exact hasDotDot_append_left _ _ h
      · simp; omega

theorem curOk_nil (rest : CStr) : CurOk [] rest :=
  ⟨by intro x hx; simp at hx, by simp [hasDotDot], by intro hx; simp at hx⟩

theorem char_step (c : Nat) (tl cur : CStr) (st : List (CStr × Option Nat)) (hst : StackOk st)
    (hcur : CurOk cur (c :: tl)) (h : ¬ (c = 46 ∧ tl.head? = some 46)) :
    ∃ st' cur', StackOk st' ∧ CurOk cur' tl ∧ flatR st ++ cur ++ [c] = flatR st' ++ cur' ∧
      refK (c :: tl) cur st = refK tl cur' st' := by
  obtain ⟨h1, h2, h3⟩ := hcur
  by_cases hs : isSep c = true
  · refine ⟨(cur, some c) :: st, [], .cons ⟨c, rfl, hs, h1, Or.inr h2⟩ hst, curOk_nil tl, ?_, ?_⟩
    · rw [flatR_cons]; simp
    · unfold refK
      rw [segsAux]
      simp only [hs, if_true, List.reverse_reverse, List.reverse_nil]
      rw [normFold_plain _ _ _ _ h2]
  · have hs' : isSep c = false := by simpa using hs
    refine ⟨st, cur ++ [c], hst, ?_, by simp, ?_⟩
    · refine ⟨?_, ?_, ?_⟩
      · intro x hx
        simp at hx
        rcases hx with hx | rfl
        · exact h1 x hx
        · exact hs'
      · apply hasDotDot_snoc cur c h2
        intro hl
        have := h3 hl
        simpa using this
      · intro hl
        simp at hl
        intro hh
        exact h ⟨hl, hh⟩
    · unfold refK
      rw [segsAux]
      simp only [hs, if_false, Bool.false_eq_true, List.reverse_append, List.reverse_cons, List.reverse_nil,
        List.nil_append, List.singleton_append]

/-- with `sep = none` (a `..` at the very end) the pushed segment is not `SegOk`, but nothing follows it -/
theorem dotdot_step (st : List (CStr × Option Nat)) (hst : StackOk st) (sep : Option Nat) (e : Nat)
    (he : e = 0 ∧ sep = none ∨ sep = some e ∧ isSep e = true) (more : List (CStr × Option Nat)) :
    (dotdotS (flatR st) e = none ∧ normFold (([46, 46], sep) :: more) st = none) ∨
    ∃ st', dotdotS (flatR st) e = some (flatR st') ∧
      normFold (([46, 46], sep) :: more) st = normFold more st' ∧ (sep ≠ none → StackOk st') := by
  have hpush : ∀ out : CStr, pushS out e = out ++ [46, 46] ++ sep.toList := by
    intro out
    unfold pushS
    rcases he with ⟨h0, hn⟩ | ⟨hs, hsep⟩
    · simp [h0, hn]
    · have : e ≠ 0 := by rintro rfl; exact absurd hsep (by decide)
      simp [this, hs]
  have hpushed : sep ≠ none → StackOk (([46, 46], sep) :: st) := by
    rcases he with ⟨_, hn⟩ | ⟨hs, hsep⟩
    · exact fun h => absurd hn h
    · exact fun _ => hs ▸ stackOk_push hst hsep
  -- by the top of the stack: none / `..` / the root / an ordinary name
  cases st with
  | nil =>
    right
    refine ⟨[([46, 46], sep)], ?_, ?_, hpushed⟩
    · rw [flatR_nil, show dotdotS [] e = some (pushS [] e) by simp [dotdotS], hpush, flatR_cons, flatR_nil]
    · rw [normFold.eq_def]; simp
  | cons top st' =>
    obtain ⟨n2, so⟩ := top
    obtain ⟨s2, hso, hs2, hn2, hdd2⟩ := hst (n2, so) (by simp)
    simp only at hso hn2 hdd2
    subst hso
    have hst' : StackOk st' := hst.tail
    rw [flatR_cons]
    simp only [Option.toList_some]
    rw [dotdotS_stack (flatR st') n2 s2 e hs2 hn2 hdd2 (flatR_ends hst'), normFold.eq_def]
    by_cases hnn : n2 = [46, 46]
    · right
      simp only [hnn, if_true]
      refine ⟨([46, 46], sep) :: ([46, 46], some s2) :: st', ?_, rfl, hnn ▸ hpushed⟩
      rw [hpush, flatR_cons, flatR_cons]; simp
    · simp only [hnn, if_false]
      by_cases hsmall : n2 = [] ∧ flatR st' = []
      · left
        have : n2 = [] ∧ st' = [] := ⟨hsmall.1, (flatR_eq_nil hst').mp hsmall.2⟩
        rw [if_pos hsmall]
        simp [this]
      · right
        have : ¬ (n2 = [] ∧ st' = []) := by
          intro h; exact hsmall ⟨h.1, (flatR_eq_nil hst').mpr h.2⟩
        simp only [hsmall, if_false, this]
        exact ⟨st', rfl, rfl, fun _ => hst'⟩

theorem segsAux_dd (l acc : CStr) : segsAux (46 :: 46 :: l) acc = segsAux l (46 :: 46 :: acc) := by
  have one : ∀ l acc : CStr, segsAux (46 :: l) acc = segsAux l (46 :: acc) := fun l acc => by
    rw [segsAux, isSep46]; rfl
  rw [one, one]

/-- `..` behind a non-empty name: the reference reports an error (the loop's side: `dotdotS_in_name`) -/
theorem refK_dd_in_name (tl2 cur : CStr) (st : List (CStr × Option Nat)) (hne : cur ≠ []) :
    refK (46 :: 46 :: tl2) cur st = none := by
  have : 0 < cur.length := List.length_pos_iff.mpr hne
  unfold refK
  rw [segsAux_dd, normFold_bad tl2 _ st
    (by rw [show (46 :: 46 :: cur.reverse).reverse = cur ++ [46, 46] by simp]; exact hasDotDot_append_dd cur [])
    (by simp; omega)]
  rfl

theorem normGoS_ref (rest : CStr) : ∀ (cur : CStr) (st : List (CStr × Option Nat)),
    StackOk st → CurOk cur rest → normGoS rest (flatR st ++ cur) = refK rest cur st := by
  induction rest using normLoop_induct with
  | nil =>
    intro cur st _ hcur
    rw [normGoS]
    unfold refK
    rw [segsAux]
    by_cases hc : cur = []
    · subst hc; simp [normFold]
    · have : cur.reverse ≠ [] := by simpa using hc
      simp only [this, if_false, List.reverse_reverse]
      rw [normFold_plain _ _ _ _ hcur.2.1]
      simp [normFold, flatR_cons]
  | char c tl hdd ih =>
    intro cur st hst hcur
    rw [normGoS_char c tl _ hdd]
    obtain ⟨st', cur', hst', hcur', hout, href⟩ := char_step c tl cur st hst hcur hdd
    rw [hout, href]
    exact ih cur' st' hst' hcur'
  | dd_end =>
    intro cur st hst hcur
    rw [normGoS_dd_end]
    -- `cur = []`: a `..` segment, `dotdot_step`; otherwise `..` ends a longer name, an error on both sides
    by_cases hcur0 : cur = []
    · subst hcur0
      unfold refK
      rw [segsAux_dd, segsAux]
      simp only [List.append_nil, List.reverse_nil, reduceCtorEq, if_false, List.reverse_cons, List.nil_append,
        List.cons_append]
      rcases dotdot_step st hst none 0 (Or.inl ⟨rfl, rfl⟩) [] with ⟨h1, h2⟩ | ⟨st', h1, h2, _⟩
      · rw [h1, h2]; rfl
      · rw [h1, h2]; simp [normFold]
    · rw [refK_dd_in_name [] cur st hcur0, dotdotS_in_name (flatR st) cur 0 hcur0 hcur.1]
  | dd e tl3 ih =>
    intro cur st hst hcur
    rw [normGoS_dd]
    by_cases hcur0 : cur = []
    · subst hcur0
      unfold refK
      rw [segsAux_dd, segsAux]
      by_cases hs : isSep e = true
      · simp only [hs, Bool.not_true, Bool.false_eq_true, if_false, if_true, List.reverse_nil,
          List.reverse_cons, List.nil_append, List.cons_append, List.append_nil]
        rcases dotdot_step st hst (some e) e (Or.inr ⟨rfl, hs⟩) (segsAux tl3 []) with
          ⟨h1, h2⟩ | ⟨st', h1, h2, hok⟩
        · rw [h1, h2]; rfl
        · rw [h1, h2]
          have := ih [] st' (hok (by simp)) (curOk_nil tl3)
          simp only [List.append_nil] at this
          rw [Option.bind_some, this]
          rfl
      · -- `..e…` with `e` no separator: a name that starts with `..`
        have hs' : isSep e = false := by simpa using hs
        simp only [hs', Bool.not_false, if_true, Bool.false_eq_true, if_false]
        rw [normFold_bad tl3 _ st (by simp [hasDotDot]) (by simp)]
        rfl
    · rw [refK_dd_in_name _ cur st hcur0, dotdotS_in_name (flatR st) cur e hcur0 hcur.1]
      split <;> rfl

end MgProof.C20
