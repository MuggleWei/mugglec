import MgProof.C20.PathLemmas
/-!
# C20 — the loop of `muggle_path_normpath` refines a loop on strings (`fx = true`)

Under the invariant `Produced` (the cells below `pos` hold the string produced so far) every
buffer operation of `normGo` is the corresponding operation on that string (`normGoS`).
-/
namespace MgProof.C20
open MgModel.C20

/-! Mirrors of `endsDotDot`, `scanBack`, `normPush`, `normPop`, `normDotDot`, `normGo` (MgModel.C20.Path), in that
order: buffer reads become `chr` on the produced string. -/

def endsDDS (out : CStr) : Bool :=
  decide (out.length ≥ 3) && (chr out (out.length - 3) == 46) && (chr out (out.length - 2) == 46) &&
    isSep (chr out (out.length - 1))

def scanBackS (out : CStr) : Nat → Nat
  | 0 => 0
  | i + 1 => if isSep (chr out i) then i + 1 else scanBackS out i

theorem scanBackS_le (out : CStr) : ∀ k, scanBackS out k ≤ k
  | 0 => Nat.le_refl _
  | i + 1 => by
    unfold scanBackS
    split
    · exact Nat.le_refl _
    · have := scanBackS_le out i; omega

def pushS (out : CStr) (e : Nat) : CStr := out ++ [46, 46] ++ (if e = 0 then [] else [e])

def popS (out : CStr) : Option CStr :=
  if !isSep (chr out (out.length - 1)) then none
  else if out.length < 2 then none
  else some (out.take (scanBackS out (out.length - 1)))

def dotdotS (out : CStr) (e : Nat) : Option CStr :=
  if out.length = 0 then some (pushS out e)
  else if endsDDS out then some (pushS out e)
  else popS out

def normGoS : CStr → CStr → Option CStr
  | [], out => some out
  | c :: tl, out =>
    match tl with
    | [] => normGoS [] (out ++ [c])
    | d :: tl2 =>
      if c = 46 ∧ d = 46 then
        match tl2 with
        | [] => dotdotS out 0
        | e :: tl3 =>
          if !isSep e then none
          else
            match dotdotS out e with
            | none => none
            | some out' => normGoS tl3 out'
      else normGoS (d :: tl2) (out ++ [c])

def Refines (r : Except Err (Option (Buf × Nat))) (size : Nat) (o : Option CStr) : Prop :=
  match o with
  | none => r = .ok none
  | some out' => ∃ b', r = .ok (some (b', out'.length)) ∧ b'.size = size ∧ Produced b' out'.length out'

theorem Produced.refines {b' : Buf} {pos' size : Nat} {out' : CStr} (hp : Produced b' pos' out')
    (hs : b'.size = size) : Refines (.ok (some (b', pos'))) size (some out') :=
  ⟨b', by rw [hp.1], hs, by rw [hp.1]; exact hp⟩

theorem scanBack_val {b : Buf} {pos : Nat} {out : CStr} (h : Produced b pos out) :
    ∀ k, k ≤ pos → scanBack b k = .ok (scanBackS out k)
  | 0, _ => rfl
  | i + 1, hk => by
    unfold scanBack scanBackS
    rw [h.read (by omega)]
    simp only [bind, Except.bind, pure, Except.pure]
    by_cases hs : isSep (chr out i) = true
    · simp [hs]
    · simp only [hs, if_false, Bool.false_eq_true]
      exact scanBack_val h i (by omega)

theorem endsDotDot_val {b : Buf} {pos : Nat} {out : CStr} (h : Produced b pos out) :
    endsDotDot b pos = .ok (endsDDS out) := by
  unfold endsDotDot endsDDS
  rw [h.1]
  by_cases h3 : pos ≥ 3
  · rw [if_pos h3]
    simp only [bind, Except.bind, pure, Except.pure, h.read (i := pos - 3) (by omega),
      h.read (i := pos - 2) (by omega), h.read (i := pos - 1) (by omega)]
    by_cases hc3 : chr out (pos - 3) = 46 <;> by_cases hc2 : chr out (pos - 2) = 46 <;> simp [h3, hc3, hc2]
  · simp [h3]; rfl

theorem normPush_val {b : Buf} {pos e : Nat} {out : CStr} (h : Produced b pos out)
    (hroom : pos + (if e = 0 then 2 else 3) ≤ b.size) :
    Refines (normPush true b pos e) b.size (some (pushS out e)) := by
  have hlt1 : pos < b.size := by split at hroom <;> omega
  obtain ⟨b1, w1, s1, p1⟩ := h.write hlt1 (v := 46) (by omega)
  have hlt2 : pos + 1 < b1.size := by rw [s1]; split at hroom <;> omega
  obtain ⟨b2, w2, s2, p2⟩ := p1.write hlt2 (v := 46) (by omega)
  unfold normPush pushS
  simp only [bind, Except.bind, pure, Except.pure, w1, w2, true_and]
  by_cases he : e = 0
  · simp only [he, if_true, List.append_nil]
    rw [show out ++ [46, 46] = out ++ [46] ++ [46] by simp]
    exact p2.refines (by rw [s2, s1])
  · simp only [he, if_false] at hroom ⊢
    obtain ⟨b3, w3, s3, p3⟩ := p2.write (show pos + 1 + 1 < b2.size by rw [s2, s1]; omega) (v := e) he
    rw [show pos + 2 = pos + 1 + 1 by omega, w3, show out ++ [46, 46] ++ [e] = out ++ [46] ++ [46] ++ [e] by simp]
    exact p3.refines (by rw [s3, s2, s1])

theorem normPop_val {b : Buf} {pos : Nat} {out : CStr} (h : Produced b pos out) (hp : pos ≠ 0) :
    Refines (normPop b pos) b.size (popS out) := by
  have hl := h.1
  unfold normPop popS
  simp only [bind, Except.bind, pure, Except.pure]
  rw [h.read (i := pos - 1) (by omega), hl]
  dsimp only
  by_cases hs : isSep (chr out (pos - 1)) = true
  · simp only [hs, Bool.not_true, Bool.false_eq_true, if_false]
    by_cases h2 : pos < 2
    · simp only [h2, if_true]; rfl
    · simp only [h2, if_false]
      rw [scanBack_val h (pos - 1) (by omega)]
      have hle := scanBackS_le out (pos - 1)
      have hsh := h.shrink (pos' := scanBackS out (pos - 1)) (by omega)
      exact hsh.refines rfl
  · have : (!isSep (chr out (pos - 1))) = true := by simpa using hs
    simp only [this, if_true]
    rfl

theorem normDotDot_val {b : Buf} {pos e : Nat} {out : CStr} (h : Produced b pos out)
    (hroom : pos + (if e = 0 then 2 else 3) ≤ b.size) :
    Refines (normDotDot true b pos e) b.size (dotdotS out e) := by
  have hl := h.1
  unfold normDotDot dotdotS
  simp only [bind, Except.bind]
  rw [hl]
  by_cases hp0 : pos = 0
  · simp only [hp0, if_true]
    rw [hp0] at hroom h
    exact normPush_val h hroom
  · simp only [hp0, if_false]
    rw [endsDotDot_val h]
    dsimp only
    by_cases hd : endsDDS out = true
    · simp only [hd, if_true]
      exact normPush_val h hroom
    · simp only [hd, if_false, Bool.false_eq_true]
      exact normPop_val h hp0

theorem pushS_length (out : CStr) (e : Nat) : (pushS out e).length = out.length + (if e = 0 then 2 else 3) := by
  unfold pushS; split <;> simp

theorem popS_length {out out' : CStr} (h : popS out = some out') : out'.length ≤ out.length := by
  unfold popS at h
  split at h
  · cases h
  · split at h
    · cases h
    · cases h; exact List.length_take_le' _ _

theorem dotdotS_length {out out' : CStr} {e : Nat} (h : dotdotS out e = some out') :
    out'.length ≤ out.length + (if e = 0 then 2 else 3) := by
  unfold dotdotS at h
  split at h
  · cases h; exact Nat.le_of_eq (pushS_length out e)
  · split at h
    · cases h; exact Nat.le_of_eq (pushS_length out e)
    · exact Nat.le_trans (popS_length h) (Nat.le_add_right _ _)

theorem normGoS_char (c : Nat) (tl out : CStr) (h : ¬ (c = 46 ∧ tl.head? = some 46)) :
    normGoS (c :: tl) out = normGoS tl (out ++ [c]) := by
  cases tl with
  | nil => simp [normGoS]
  | cons d tl2 =>
    rw [normGoS.eq_def]
    have : ¬ (c = 46 ∧ d = 46) := by simpa using h
    simp [this]

theorem normGoS_dd_end (out : CStr) : normGoS [46, 46] out = dotdotS out 0 := by
  rw [normGoS]; rfl

theorem normGoS_dd (e : Nat) (tl3 out : CStr) :
    normGoS (46 :: 46 :: e :: tl3) out = if !isSep e then none else (dotdotS out e).bind (normGoS tl3) := by
  rw [normGoS]
  simp only [and_self, if_true]
  split
  · rfl
  · cases dotdotS out e <;> rfl

theorem normGo_char (fx : Bool) (c : Nat) (tl : CStr) (b : Buf) (pos : Nat)
    (h : ¬ (c = 46 ∧ tl.head? = some 46)) :
    normGo fx (c :: tl) b pos = (b.write pos c).bind fun b' => normGo fx tl b' (pos + 1) := by
  cases tl with
  | nil => rw [normGo]; rfl
  | cons d tl2 =>
    rw [normGo.eq_def]
    have : ¬ (c = 46 ∧ d = 46) := by simpa using h
    simp only [this, if_false]; rfl

theorem normGo_dd_end (fx : Bool) (b : Buf) (pos : Nat) : normGo fx [46, 46] b pos = normDotDot fx b pos 0 := by
  rw [normGo]; rfl

theorem normGo_dd (fx : Bool) (e : Nat) (tl3 : CStr) (b : Buf) (pos : Nat) :
    normGo fx (46 :: 46 :: e :: tl3) b pos =
      if !isSep e then .ok none
      else (normDotDot fx b pos e).bind fun r =>
        match r with
        | none => .ok none
        | some (b, pos) => normGo fx tl3 b pos := by
  rw [normGo]
  simp only [and_self, if_true]
  rfl

/-- Induction along the loop of `normpath`, one case per equation above (`_char`, `_dd_end`, `_dd` of `normGoS` and of
`normGo`): an ordinary character is copied; `..` ends the path; `..` stands before `e` and the loop goes on behind `e`. -/
theorem normLoop_induct {motive : CStr → Prop} (nil : motive [])
    (char : ∀ c tl, ¬ (c = 46 ∧ tl.head? = some 46) → motive tl → motive (c :: tl))
    (dd_end : motive [46, 46]) (dd : ∀ e tl3, motive tl3 → motive (46 :: 46 :: e :: tl3)) :
    ∀ rest, motive rest
  | [] => nil
  | [c] => char c [] (by simp) nil
  | c :: d :: tl2 =>
    if h : c = 46 ∧ d = 46 then by
      obtain ⟨rfl, rfl⟩ := h
      match tl2 with
      | [] => exact dd_end
      | e :: tl3 => exact dd e tl3 (normLoop_induct nil char dd_end dd tl3)
    else char c (d :: tl2) (by simpa using h) (normLoop_induct nil char dd_end dd (d :: tl2))

theorem normGoS_length (rest : CStr) : ∀ (out out' : CStr), normGoS rest out = some out' →
    out'.length ≤ out.length + rest.length := by
  induction rest using normLoop_induct with
  | nil => intro out out' h; rw [normGoS] at h; cases h; exact Nat.le_refl _
  | char c tl hdd ih =>
    intro out out' h
    rw [normGoS_char c tl out hdd] at h
    have := ih _ _ h
    simp only [List.length_append, List.length_cons, List.length_nil] at this ⊢
    omega
  | dd_end => intro out out' h; rw [normGoS_dd_end] at h; exact dotdotS_length h
  | dd e tl3 ih =>
    intro out out' h
    rw [normGoS_dd] at h
    split at h
    · cases h
    · cases hds : dotdotS out e with
      | none => rw [hds] at h; cases h
      | some out1 =>
        rw [hds] at h
        have h1 := ih out1 out' h
        have h2 := dotdotS_length hds
        simp only [List.length_cons]
        split at h2 <;> omega

theorem refines_char {c : Nat} {tl : CStr} {b : Buf} {pos : Nat} {out : CStr}
    (h : ¬ (c = 46 ∧ tl.head? = some 46)) (hc : c ≠ 0) (hprod : Produced b pos out) (hlt : pos < b.size)
    (ih : ∀ b', b'.size = b.size → Produced b' (pos + 1) (out ++ [c]) →
      Refines (normGo true tl b' (pos + 1)) b.size (normGoS tl (out ++ [c]))) :
    Refines (normGo true (c :: tl) b pos) b.size (normGoS (c :: tl) out) := by
  obtain ⟨b1, w1, s1, p1⟩ := hprod.write hlt hc
  rw [normGo_char _ _ _ _ _ h, normGoS_char _ _ _ h, w1]
  exact ih b1 s1 p1

/-- `pos + rest.length < b.size` makes every write succeed (the loop produces no more than it reads,
`dotdotS_length`) and leaves a cell for the terminator; `NoNul rest` keeps `NoNul out` for `Produced.terminate` -/
theorem normGo_refines (rest : CStr) : ∀ (b : Buf) (pos : Nat) (out : CStr),
    NoNul rest → Produced b pos out → pos + rest.length < b.size →
    Refines (normGo true rest b pos) b.size (normGoS rest out) := by
  induction rest using normLoop_induct with
  | nil => intro b pos out _ hprod _; rw [normGo, normGoS]; exact hprod.refines rfl
  | char c tl hdd ih =>
    intro b pos out hnn hprod hroom
    refine refines_char hdd (hnn c (by simp)) hprod (by omega) fun b' hs hp => ?_
    rw [← hs]
    exact ih b' _ _ (fun x hx => hnn x (List.mem_cons_of_mem _ hx)) hp (by simp at hroom ⊢; omega)
  | dd_end =>
    intro b pos out _ hprod hroom
    rw [normGo_dd_end, normGoS_dd_end]
    exact normDotDot_val (e := 0) hprod (by simp at hroom ⊢; omega)
  | dd e tl3 ih =>
    intro b pos out hnn hprod hroom
    rw [normGo_dd, normGoS_dd]
    split
    · rfl
    have he : e ≠ 0 := hnn e (by simp)
    have hstep := normDotDot_val (e := e) hprod (by simp only [he, if_false]; simp at hroom; omega)
    cases hds : dotdotS out e with
    | none =>
      rw [hds] at hstep
      unfold Refines at hstep
      rw [hstep]
      rfl
    | some out' =>
      rw [hds] at hstep
      obtain ⟨b', hsome, hsz, hp'⟩ := hstep
      rw [hsome]
      have hlen := dotdotS_length hds
      have hl := hprod.1
      simp only [he, if_false] at hlen
      have := ih b' out'.length out' (fun x hx => hnn x (by simp [hx])) hp'
        (by rw [hsz]; simp at hroom; omega)
      rw [hsz] at this
      exact this

end MgProof.C20
