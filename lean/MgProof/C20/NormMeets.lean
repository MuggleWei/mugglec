import MgProof.C20.NormRef2
/-!
# C20 — `muggle_path_normpath` and `muggle_path_abspath` meet the reference

`NormRef` (buffer loop = string loop) and `NormRef2` (string loop = reference fold) put together with the code
around the loop: the dropped leading `./`, the `./` for an empty result, the terminator; for `abspath` the join
with the current directory in a `MUGGLE_MAX_PATH` buffer.
-/
namespace MgProof.C20
open MgModel.C20

/-- the part of the path the loop runs over (one leading `./` or `.\` of a relative path dropped) -/
def normStart (p : CStr) : CStr :=
  if !isAbs p && (([46, 47] : CStr).isPrefixOf p || ([46, 92] : CStr).isPrefixOf p) then p.drop 2 else p

theorem refNormpath_eq (p : CStr) :
    refNormpath p =
      (refK (normStart p) [] []).map (fun r => if r = [] then [46, 47] else r) := by
  unfold refNormpath refK normStart segments flatR
  simp only [List.reverse_nil]
  generalize normFold _ _ = r
  cases r <;> rfl

theorem pathNormpath_meets (p : CStr) (hp : NoNul p) (b : Buf) :
    Meets (pathNormpath true p b) b.size (specNormpath p b.size) := by
  unfold specNormpath
  rw [refNormpath_eq]
  unfold pathNormpath
  simp only [bind, pure, Except.pure]
  refine .guard (fun h1 => if_neg (by omega)) fun h1 => ?_
  rw [if_pos (show p.length < b.size by omega)]
  have hstart : (if (!isAbs p) = true then
      if (startswith p [46, 47] || startswith p [46, 92]) = true then List.drop 2 p else p
    else p) = normStart p := by
    unfold normStart
    rw [startswith_lit p [46, 47] (by simp), startswith_lit p [46, 92] (by simp)]
    cases isAbs p <;> rfl
  rw [hstart]
  have hlen : (normStart p).length ≤ p.length := by
    unfold normStart; split <;> simp
  have hnn : NoNul (normStart p) := by
    unfold normStart; split
    · exact hp.drop 2
    · exact hp
  have hrf := normGo_refines (normStart p) b 0 [] hnn (.nil b) (by omega)
  have hS := normGoS_ref (normStart p) [] [] (by intro seg hseg; simp at hseg) (curOk_nil _)
  simp only [flatR_nil, List.append_nil] at hS
  rw [hS] at hrf
  cases hk : refK (normStart p) [] [] with
  | none =>
    rw [hk] at hrf
    exact .bind hrf (meets_fail rfl)
  | some out' =>
    rw [hk] at hrf
    obtain ⟨b', hsome, hsz, hp'⟩ := hrf
    -- `Produced` gives `≤ size`; the terminator needs `<`, which comes from the input's length
    have hbound : out'.length < b.size := by
      have := normGoS_length _ _ _ (hS.trans hk)
      simp only [List.length_nil] at this
      omega
    refine .bind hsome ?_
    simp only [Option.map_some]
    by_cases hp0 : out'.length = 0
    · -- nothing is left: the result is `./`
      obtain rfl : out' = [] := List.eq_nil_of_length_eq_zero hp0
      simp only [List.length_nil, if_true]
      refine .guard' hsz (fun h2 => fits_none_of (by simp; omega)) fun h2 => ?_
      obtain ⟨b1, w1, s1, p1⟩ := hp'.write (v := 46) (by rw [hsz]; omega) (by omega)
      obtain ⟨b2, w2, s2, p2⟩ := p1.write (v := 47) (by rw [s1, hsz]; omega) (by omega)
      obtain ⟨b3, w3, s3, c3⟩ := p2.terminate (by rw [s2, s1, hsz]; omega)
      rw [fits_some_of (show ([46, 47] : CStr).length < b.size by simp; omega)]
      exact .bind w1 (.bind w2 (.bind w3 (meets_ok (by rw [s3, s2, s1, hsz]) c3)))
    · have hne : out' ≠ [] := fun e => hp0 (by rw [e]; rfl)
      rw [if_neg hp0, if_neg hne, fits_some_of hbound]
      obtain ⟨b3, w3, s3, c3⟩ := hp'.terminate (by rw [hsz]; omega)
      exact .bind w3 (meets_ok (by rw [s3, hsz]) c3)

theorem isAbs_length {p : CStr} (h : isAbs p = true) : 1 < p.length := by
  unfold isAbs at h
  split at h
  · rename_i h1; exact h1.1
  · split at h
    · rename_i h2; have := h2.1; omega
    · cases h

theorem specAbspath_small {cwd : Option CStr} {p : CStr} {size : Nat} (h1 : size ≤ 1) :
    specAbspath cwd p size = none := by
  unfold specAbspath
  split
  · rename_i hab
    have := isAbs_length hab
    exact fits_none_of (by omega)
  · cases cwd with
    | none => rfl
    | some cwd =>
      dsimp only
      cases hr : refJoin cwd p with
      | none => rfl
      | some full =>
        have hl2 := refJoin_length hr
        dsimp only
        split
        · rfl
        · exact if_neg (by omega)

theorem pathAbspath_meets (cwd : Option CStr) (hcwd : ∀ c, cwd = some c → NoNul c) (p : CStr)
    (hp : NoNul p) (b : Buf) : Meets (pathAbspath true cwd p b) b.size (specAbspath cwd p b.size) := by
  unfold pathAbspath
  simp only [bind, pure, Except.pure, if_true]
  refine .guard specAbspath_small fun h1 => ?_
  unfold specAbspath
  by_cases hab : isAbs p = true
  · rw [if_pos hab, if_pos hab]
    exact meets_strncpy b p h1 hp
  · rw [if_neg hab, if_neg hab]
    cases cwd with
    | none => exact meets_fail rfl
    | some cwd =>
      obtain ⟨full, hj1, _, hj3⟩ := pathJoin_meets cwd p (hcwd cwd rfl) hp (Buf.fresh MAX_PATH)
      have hsize : (Buf.fresh MAX_PATH).size = MAX_PATH := by simp [Buf.fresh, Buf.size]
      rw [hsize] at hj1 hj3
      unfold specJoin at hj1 hj3
      refine .bind hj1 ?_
      dsimp only
      cases hr : refJoin cwd p with
      | none => exact meets_fail rfl
      | some fullStr =>
        rw [hr] at hj3
        dsimp only
        by_cases hl : fullStr.length < MAX_PATH
        · rw [fits_some_of hl] at hj3 ⊢
          have hc := hj3 fullStr rfl
          simp only [Option.isSome_some, Bool.not_true, Bool.false_eq_true, if_false, hc,
            if_neg (show ¬ fullStr.length ≥ MAX_PATH by omega)]
          exact pathNormpath_meets fullStr (cstrCells_noNul _ _ hc) b
        · rw [fits_none_of hl, if_pos (show fullStr.length ≥ MAX_PATH by omega)]
          exact meets_fail rfl

theorem specNormpath_lt {p x : CStr} {size : Nat} (h : specNormpath p size = some x) : x.length < size := by
  unfold specNormpath at h
  split at h
  · exact fits_lt h
  · cases h

theorem specAbspath_lt {cwd : Option CStr} {p x : CStr} {size : Nat} (h : specAbspath cwd p size = some x) :
    x.length < size := by
  unfold specAbspath at h
  split at h
  · exact fits_lt h
  · split at h
    · cases h
    · split at h
      · cases h
      · split at h
        · cases h
        · exact specNormpath_lt h

end MgProof.C20
