import MgModel.C20.Bits
/-!
# C20 — lemmas for `next_pow_of_2`

Everything is proved on `Nat` through `BitVec.toNat` (`|||`, `&&&`, `>>>` commute with
`toNat`); the bit-level facts used are `Nat.testBit` of `|||`, `>>>`, `2^k - 1`,
`Nat.testBit_log2`, `Nat.testBit_lt_two_pow`; the macro's test is `Nat.and_sub_one_eq_zero_iff_isPowerOfTwo`.
-/
namespace MgProof.C20
open MgModel.C20

def IsPow2 (n : Nat) : Prop := ∃ k, n = 2 ^ k

theorem testBit_above_log2 {n i : Nat} (hi : n.log2 < i) : n.testBit i = false := by
  apply Nat.testBit_lt_two_pow
  exact Nat.lt_of_lt_of_le Nat.lt_log2_self (Nat.pow_le_pow_right (by omega) hi)

def Smeared (m x y : Nat) : Prop :=
  ∀ i, y.testBit i = true ↔ ∃ d, d < m ∧ x.testBit (i + d) = true

theorem smeared_one (x : Nat) : Smeared 1 x x := by
  intro i
  constructor
  · intro h; exact ⟨0, by omega, by simpa using h⟩
  · rintro ⟨d, hd, h⟩
    have : d = 0 := by omega
    subst this; simpa using h

theorem smeared_step {m x y : Nat} (h : Smeared m x y) : Smeared (2 * m) x (y ||| y >>> m) := by
  intro i
  rw [Nat.testBit_or, Nat.testBit_shiftRight, Bool.or_eq_true, h i, h (m + i)]
  constructor
  · rintro (⟨d, hd, hb⟩ | ⟨d, hd, hb⟩)
    · exact ⟨d, by omega, hb⟩
    · refine ⟨m + d, by omega, ?_⟩
      have : i + (m + d) = m + i + d := by omega
      rw [this]; exact hb
  · rintro ⟨d, hd, hb⟩
    by_cases hdm : d < m
    · exact Or.inl ⟨d, hdm, hb⟩
    · refine Or.inr ⟨d - m, by omega, ?_⟩
      have : m + i + (d - m) = i + d := by omega
      rw [this]; exact hb

def smear16N (x : Nat) : Nat :=
  let x := x ||| (x >>> 1)
  let x := x ||| (x >>> 2)
  let x := x ||| (x >>> 4)
  let x := x ||| (x >>> 8)
  let x := x ||| (x >>> 16)
  x

theorem smear16_toNat (x : BitVec 64) : (smear16 x).toNat = smear16N x.toNat := by
  simp [smear16, smear16N, BitVec.toNat_or, BitVec.toNat_ushiftRight]

theorem smeared32 (x : Nat) : Smeared 32 x (smear16N x) := by
  have h1 := smeared_step (smeared_one x)
  have h2 := smeared_step h1
  have h4 := smeared_step h2
  have h8 := smeared_step h4
  have h16 := smeared_step h8
  exact h16

theorem smeared64 (x : Nat) : Smeared 64 x (smear16N x ||| smear16N x >>> 32) :=
  smeared_step (smeared32 x)

theorem smeared_eq {m n y : Nat} (hn : n ≠ 0) (hlt : n < 2 ^ m) (h : Smeared m n y) :
    y = 2 ^ (n.log2 + 1) - 1 := by
  have hm : n.log2 < m := (Nat.log2_lt hn).mpr hlt
  apply Nat.eq_of_testBit_eq
  intro i
  rw [Nat.testBit_two_pow_sub_one]
  by_cases hi : i < n.log2 + 1
  · have : y.testBit i = true := (h i).mpr ⟨n.log2 - i, by omega, by
      have : i + (n.log2 - i) = n.log2 := by omega
      rw [this]; exact Nat.testBit_log2 hn⟩
    simp [this, hi]
  · have : y.testBit i = false := by
      cases hy : y.testBit i with
      | false => rfl
      | true =>
        obtain ⟨d, _, hb⟩ := (h i).mp hy
        rw [testBit_above_log2 (by omega)] at hb
        cases hb
    simp [this, hi]

theorem and_pred_eq_zero_iff {n : Nat} : n &&& (n - 1) = 0 ↔ n = 0 ∨ IsPow2 n := by
  constructor
  · intro h
    by_cases h0 : n = 0
    · exact Or.inl h0
    · exact Or.inr ((Nat.and_sub_one_eq_zero_iff_isPowerOfTwo h0).mp h)
  · rintro (rfl | ⟨k, rfl⟩)
    · rfl
    · exact (Nat.and_sub_one_eq_zero_iff_isPowerOfTwo (Nat.ne_of_gt (Nat.two_pow_pos k))).mpr ⟨k, rfl⟩

theorem isPow2Macro_iff (x : BitVec 64) :
    isPow2Macro x = true ↔ (x.toNat = 0 ∨ IsPow2 x.toNat) := by
  unfold isPow2Macro
  rw [beq_iff_eq, ← BitVec.toNat_inj, BitVec.toNat_and, ← and_pred_eq_zero_iff]
  by_cases h0 : x.toNat = 0
  · have : x = 0#64 := BitVec.eq_of_toNat_eq (by simpa using h0)
    subst this
    simp
  · have hx : x.toNat < 2 ^ 64 := x.isLt
    have hsub : (x - 1).toNat = x.toNat - 1 := by
      rw [BitVec.toNat_sub]
      simp
      omega
    rw [hsub]
    simp

theorem isPow2_of_macro {x : BitVec 64} (h1 : 1 ≤ x.toNat) (hm : isPow2Macro x = true) : IsPow2 x.toNat :=
  ((isPow2Macro_iff x).mp hm).resolve_left (by omega)

theorem not_isPow2_of_macro {x : BitVec 64} (hm : isPow2Macro x = false) :
    x.toNat ≠ 0 ∧ ¬ IsPow2 x.toNat := by
  constructor <;> intro h
  · rw [(isPow2Macro_iff x).mpr (Or.inl h)] at hm; cases hm
  · rw [(isPow2Macro_iff x).mpr (Or.inr h)] at hm; cases hm

theorem pow2_le_of_lt {j k : Nat} (h : 2 ^ k < 2 ^ j) : 2 ^ (k + 1) ≤ 2 ^ j := by
  apply Nat.pow_le_pow_right (by omega)
  apply Classical.byContradiction
  intro hh
  have : j ≤ k := by omega
  have := Nat.pow_le_pow_right (show 0 < 2 by omega) this
  omega

def IsLeastPow2 (n p : Nat) : Prop :=
  IsPow2 p ∧ n ≤ p ∧ ∀ q, IsPow2 q → n ≤ q → p ≤ q

theorem IsLeastPow2.unique {n p q : Nat} (hp : IsLeastPow2 n p) (hq : IsLeastPow2 n q) : p = q :=
  Nat.le_antisymm (hp.2.2 q hq.1 hq.2.1) (hq.2.2 p hp.1 hp.2.1)

theorem nextPow2_else (x : BitVec 64) (h : isPow2Macro x = false) :
    (nextPow2 x).toNat = 2 ^ (x.toNat.log2 + 1) % 2 ^ 64 := by
  have hn := (not_isPow2_of_macro h).1
  unfold nextPow2
  rw [h]
  simp only [Bool.false_eq_true, if_false]
  rw [BitVec.toNat_add, BitVec.toNat_or, BitVec.toNat_ushiftRight, smear16_toNat,
    smeared_eq hn x.isLt (smeared64 x.toNat)]
  have : 0 < 2 ^ (x.toNat.log2 + 1) := Nat.pow_pos (by omega)
  simp
  congr 1
  omega

theorem nextPow2Orig_else (x : BitVec 64) (h : isPow2Macro x = false) (h32 : x.toNat < 2 ^ 32) :
    (nextPow2Orig x).toNat = 2 ^ (x.toNat.log2 + 1) := by
  have hn := (not_isPow2_of_macro h).1
  have hk : x.toNat.log2 < 32 := (Nat.log2_lt hn).mpr h32
  unfold nextPow2Orig
  rw [h]
  simp only [Bool.false_eq_true, if_false]
  rw [BitVec.toNat_add, smear16_toNat, smeared_eq hn h32 (smeared32 x.toNat)]
  have h1 : 0 < 2 ^ (x.toNat.log2 + 1) := Nat.pow_pos (by omega)
  have h2 : 2 ^ (x.toNat.log2 + 1) ≤ 2 ^ 32 := Nat.pow_le_pow_right (by omega) (by omega)
  simp
  omega

theorem least_of_not_pow2 {n : Nat} (hn : n ≠ 0) (hp : ¬ IsPow2 n) :
    IsLeastPow2 n (2 ^ (n.log2 + 1)) := by
  refine ⟨⟨_, rfl⟩, Nat.le_of_lt Nat.lt_log2_self, ?_⟩
  rintro q ⟨j, rfl⟩ hq
  apply pow2_le_of_lt
  have h1 : 2 ^ n.log2 ≤ n := Nat.log2_self_le hn
  have hne : n ≠ 2 ^ n.log2 := fun e => hp ⟨_, e⟩
  omega

theorem least_of_pow2 {n : Nat} (hp : IsPow2 n) : IsLeastPow2 n n :=
  ⟨hp, Nat.le_refl _, fun _ _ h => h⟩

/-- `muggle_next_pow_of_2` on `Nat`: `y` is the argument after smear steps that cover `m` bits -/
theorem leastPow2_of_smeared {m n y : Nat} (h1 : 1 ≤ n) (hlt : n < 2 ^ m) (hs : Smeared m n y) :
    IsLeastPow2 n (if n &&& (n - 1) = 0 then n else y + 1) := by
  have hn : n ≠ 0 := by omega
  split
  · next h => exact least_of_pow2 ((and_pred_eq_zero_iff.mp h).resolve_left hn)
  · next h =>
    rw [smeared_eq hn hlt hs, Nat.sub_add_cancel (Nat.pow_pos (by omega))]
    exact least_of_not_pow2 hn fun hp => h (and_pred_eq_zero_iff.mpr (Or.inr hp))

/-- the `BitVec 64` models (`nextPow2`, `nextPow2Orig`) go through this instead: `r` is the result,
given branch by branch -/
theorem isLeastPow2_of_branches {x r : BitVec 64} (h1 : 1 ≤ x.toNat)
    (hpos : isPow2Macro x = true → r = x)
    (hneg : isPow2Macro x = false → r.toNat = 2 ^ (x.toNat.log2 + 1)) :
    IsLeastPow2 x.toNat r.toNat := by
  cases hm : isPow2Macro x with
  | true => rw [hpos hm]; exact least_of_pow2 (isPow2_of_macro h1 hm)
  | false =>
    obtain ⟨hn, hnp⟩ := not_isPow2_of_macro hm
    rw [hneg hm]; exact least_of_not_pow2 hn hnp

theorem leastPow2From_spec (n : Nat) : ∀ fuel a,
    (∀ q, IsPow2 q → n ≤ q → 2 ^ a ≤ q) → n ≤ 2 ^ (a + fuel) →
    IsLeastPow2 n (leastPow2From fuel (2 ^ a) n) := by
  intro fuel
  induction fuel with
  | zero =>
    intro a hlow hup
    have hup' : n ≤ 2 ^ a := by simpa using hup
    exact ⟨⟨a, rfl⟩, hup', hlow⟩
  | succ f ih =>
    intro a hlow hup
    unfold leastPow2From
    by_cases h : n ≤ 2 ^ a
    · simp only [h, if_true]
      exact ⟨⟨a, rfl⟩, h, hlow⟩
    · simp only [h, if_false]
      rw [← Nat.pow_succ']
      apply ih (a + 1)
      · rintro q ⟨j, rfl⟩ hq
        apply pow2_le_of_lt
        omega
      · have : a + 1 + f = a + (f + 1) := by omega
        rw [this]; exact hup

theorem specNextPow2_least {n : Nat} (h : n ≤ 2 ^ 64) : IsLeastPow2 n (specNextPow2 n) := by
  have := leastPow2From_spec n 65 0 (by
    rintro q ⟨j, rfl⟩ _
    exact Nat.pow_le_pow_right (by omega) (Nat.zero_le _)) (by
    have : 2 ^ 64 ≤ 2 ^ (0 + 65) := Nat.pow_le_pow_right (by omega) (by omega)
    omega)
  simpa [specNextPow2] using this

end MgProof.C20
