import MgProof.C20.BitsLemmas
import MgProof.C20.SwapLemmas
import MgProof.C20.HexLemmas
import MgProof.C20.NormMeets
import MgProof.C20.FloatLemmas
/-!
# C20 — property theorems (pure utilities)

Statement (properties.jsonl): the numeric string parsers return success with the exact value
only for a single well-formed, in-range numeral (surrounding blanks allowed) and failure
otherwise, never a silently truncated value. Path join, dirname, basename, normpath and abspath
never write beyond the caller's buffer, NUL-terminate whatever they report as success, and agree
with a reference path algebra. next-power-of-two returns the least power of two not below its
argument over its whole 64-bit domain, strip/find/count helpers agree with their reference
definitions (including empty strings), and hex encode/decode and endian swaps round-trip.

Quantifiers: each theorem in this file is for **all** inputs of the stated type (all 64-bit words,
all byte strings of any length, all buffers of any size and any initial contents, all bases
0/2..36); nothing is bounded. The models are those of the code after `fixes/C20-*.patch`;
for every repaired defect the unpatched code's model (`…Orig`, `fx = false`) is shown to violate
the statement on a concrete input (`…_orig_…` theorems, by evaluation).
-/
namespace MgProof.C20
open MgModel.C20

/-- for the `decide` witnesses about the unpatched code, which compare `Except` values -/
instance {ε α : Type} [DecidableEq ε] [DecidableEq α] : DecidableEq (Except ε α) := fun a b =>
  match a, b with
  | .ok x, .ok y => if h : x = y then isTrue (by rw [h]) else isFalse (fun e => h (by injection e))
  | .error x, .error y => if h : x = y then isTrue (by rw [h]) else isFalse (fun e => h (by injection e))
  | .ok _, .error _ => isFalse (fun e => by cases e)
  | .error _, .ok _ => isFalse (fun e => by cases e)

/-! ## 1. next-power-of-two (clause "least power of two not below its argument, whole 64-bit domain") -/

/-- **next_pow_of_2, main theorem.** For every 64-bit `x` with `1 ≤ x ≤ 2^63` the result is a
power of two, is not below `x`, and every power of two not below `x` is at least the result. -/
theorem next_pow_of_2_least (x : BitVec 64) (h1 : 1 ≤ x.toNat) (h2 : x.toNat ≤ 2 ^ 63) :
    IsLeastPow2 x.toNat (nextPow2 x).toNat := by
  refine isLeastPow2_of_branches h1 (fun hm => by simp [nextPow2, hm]) fun hm => ?_
  obtain ⟨hn, hnp⟩ := not_isPow2_of_macro hm
  have hlt : x.toNat < 2 ^ 63 := Nat.lt_of_le_of_ne h2 fun e => hnp ⟨63, e⟩
  have hk : x.toNat.log2 < 63 := (Nat.log2_lt hn).mpr hlt
  have hle : 2 ^ (x.toNat.log2 + 1) ≤ 2 ^ 63 := Nat.pow_le_pow_right (by omega) (by omega)
  rw [nextPow2_else x hm, Nat.mod_eq_of_lt (by omega)]

/-- the executable specification printed by the driver is that least power of two -/
theorem next_pow_of_2_spec (x : BitVec 64) (h1 : 1 ≤ x.toNat) (h2 : x.toNat ≤ 2 ^ 63) :
    (nextPow2 x).toNat = specNextPow2 x.toNat :=
  (next_pow_of_2_least x h1 h2).unique (specNextPow2_least (by omega))

/-- outside the domain of the theorem the function returns 0: `x = 0` … -/
theorem next_pow_of_2_zero : nextPow2 0 = 0 := by decide

/-- … and `x > 2^63`, where no power of two `≥ x` fits 64 bits. -/
theorem next_pow_of_2_above (x : BitVec 64) (h : 2 ^ 63 < x.toNat) : nextPow2 x = 0 := by
  have hn : x.toNat ≠ 0 := by omega
  have hlt := x.isLt
  have hm : isPow2Macro x = false := by
    cases hb : isPow2Macro x with
    | false => rfl
    | true =>
      obtain ⟨k, hk⟩ := isPow2_of_macro (by omega) hb
      rw [hk] at h hlt
      have h1 : 63 < k := (Nat.pow_lt_pow_iff_right (by omega)).mp h
      have h2 : k < 64 := (Nat.pow_lt_pow_iff_right (by omega)).mp hlt
      omega
  apply BitVec.eq_of_toNat_eq
  rw [nextPow2_else x hm]
  have hk : x.toNat.log2 = 63 := by
    have h1 : 63 ≤ x.toNat.log2 := (Nat.le_log2 hn).mpr (by omega)
    have h2 : x.toNat.log2 < 64 := (Nat.log2_lt hn).mpr hlt
    omega
  rw [hk]
  rfl

/-- the unpatched code (no `x |= x >> 32`) is right up to `2^32` … -/
theorem next_pow_of_2_orig_partial (x : BitVec 64) (h1 : 1 ≤ x.toNat) (h2 : x.toNat ≤ 2 ^ 32) :
    IsLeastPow2 x.toNat (nextPow2Orig x).toNat :=
  isLeastPow2_of_branches h1 (fun hm => by simp [nextPow2Orig, hm]) fun hm =>
    nextPow2Orig_else x hm <| Nat.lt_of_le_of_ne h2 fun e => (not_isPow2_of_macro hm).2 ⟨32, e⟩

/-- … and **wrong above**: at `2^40 + 1` it returns 2199023255042, not `2^41`. -/
theorem next_pow_of_2_orig_fails :
    ¬ IsLeastPow2 (2 ^ 40 + 1) (nextPow2Orig (BitVec.ofNat 64 (2 ^ 40 + 1))).toNat := by
  intro h
  have hgood := next_pow_of_2_least (BitVec.ofNat 64 (2 ^ 40 + 1)) (by decide) (by decide)
  have e : (BitVec.ofNat 64 (2 ^ 40 + 1)).toNat = 2 ^ 40 + 1 := by decide
  rw [e] at hgood
  have := h.unique hgood
  revert this
  decide

/-! ## 2. endian swaps (clause "endian swaps round-trip") -/

/-- swapping twice is the identity, for every 16/32/64-bit value -/
theorem endian_swap_roundtrip :
    (∀ v : BitVec 16, swap16 (swap16 v) = v) ∧ (∀ v : BitVec 32, swap32 (swap32 v) = v) ∧
    (∀ v : BitVec 64, swap64 (swap64 v) = v) :=
  ⟨invol_of_reverses_bytes (n := 2) rfl swap16_byte, invol_of_reverses_bytes (n := 4) rfl swap32_byte,
   invol_of_reverses_bytes (n := 8) rfl swap64_byte⟩

/-- byte `j` of the swapped value is byte `n-1-j` of the argument (byte reversal) -/
theorem endian_swap_reverses_bytes :
    (∀ (v : BitVec 16) j, j < 2 → byteOf (swap16 v) j = byteOf v (1 - j)) ∧
    (∀ (v : BitVec 32) j, j < 4 → byteOf (swap32 v) j = byteOf v (3 - j)) ∧
    (∀ (v : BitVec 64) j, j < 8 → byteOf (swap64 v) j = byteOf v (7 - j)) :=
  ⟨swap16_byte, swap32_byte, swap64_byte⟩

/-- … which is the executable specification printed by the driver -/
theorem endian_swap_spec :
    (∀ v : BitVec 16, (swap16 v).toNat = specSwap 2 v.toNat) ∧
    (∀ v : BitVec 32, (swap32 v).toNat = specSwap 4 v.toNat) ∧
    (∀ v : BitVec 64, (swap64 v).toNat = specSwap 8 v.toNat) :=
  ⟨toNat_of_reverses_bytes (n := 2) rfl swap16_byte, toNat_of_reverses_bytes (n := 4) rfl swap32_byte,
   toNat_of_reverses_bytes (n := 8) rfl swap64_byte⟩

/-! ## 3. hex (clause "hex encode/decode round-trip") -/

/-- encoding is the reference upper-case encoding, for every byte string -/
theorem hex_encode_ref (bs : List Nat) (h : ∀ b ∈ bs, b < 256) : hexFromBytes bs = some (refEncode bs) :=
  hexFromBytes_ref bs h

/-- decoding is the reference decoding on every character string (valid or not) -/
theorem hex_decode_ref (hex : List Nat) :
    (∀ r, refDecode hex = some r → hexToBytes hex = .ok r) ∧
    (refDecode hex = none → ∃ part, hexToBytes hex = .error part) :=
  ⟨fun _ h => hexToBytes_ref_some h, hexToBytes_ref_none⟩

/-- **round trip 1**: decode (encode bs) = bs for every byte string of every length -/
theorem hex_roundtrip (bs : List Nat) (h : ∀ b ∈ bs, b < 256) :
    ∃ hex, hexFromBytes bs = some hex ∧ hexToBytes hex = .ok bs :=
  ⟨refEncode bs, hexFromBytes_ref bs h, hexToBytes_ref_some (refDecode_refEncode bs h)⟩

/-- **round trip 2**: encode (decode hex) = hex in upper case, for every valid even-length text -/
theorem hex_roundtrip_text (hex r : List Nat) (hl : hex.length % 2 = 0) (hd : hexToBytes hex = .ok r) :
    hexFromBytes r = some (hex.map upperHex) := by
  cases hr : refDecode hex with
  | none =>
    obtain ⟨part, hp⟩ := hexToBytes_ref_none hr
    rw [hp] at hd; cases hd
  | some r' =>
    have := hexToBytes_ref_some hr
    rw [this] at hd
    injection hd with hd
    subst hd
    obtain ⟨h1, h2⟩ := refEncode_refDecode hex r' hl hr
    rw [hexFromBytes_ref r' h2, h1]

/-! ## 4. strip / find / count / startswith / endswith (clause "agree with their reference
definitions, including empty strings") — all strings, all `int` arguments -/

/-- every helper equals its reference definition, for all strings and all `int` arguments -/
theorem str_helpers_agree :
    (∀ s p, startswith s p = refStartswith s p) ∧ (∀ s p, endswith s p = refEndswith s p) ∧
    (∀ s sub a b, strFind s sub a b = refFind s sub a b) ∧
    (∀ s sub a b, strCount s sub a b = refCount s sub a b) ∧
    (∀ s, lstripIdx s = refLstrip s) ∧ (∀ s, rstripIdx s = refRstrip s) :=
  ⟨startswith_eq_ref, endswith_eq_ref, strFind_eq_ref, strCount_eq_ref, lstripIdx_eq_ref, rstripIdx_eq_ref⟩

/-- the unpatched `rstrip_idx` reads `str[-1]` for the empty string (and for no other:
`rstripIdxOrig_oob_iff`) -/
theorem rstrip_orig_reads_out_of_bounds : rstripIdxOrig [] = .error .oob :=
  (rstripIdxOrig_oob_iff []).mpr rfl

/-- the unpatched `count` does not terminate for an empty `sub` and a non-empty window, here `"a"`
from 0 to its end (for exactly which arguments: `strCountOrig_hang_iff`) -/
theorem count_orig_hangs : strCountOrig [97] [] 0 0 = .error .hang :=
  (strCountOrig_hang_iff [97] [] 0 0).mpr ⟨rfl, by decide⟩

/-! ## 5. integer parsers (clause "success with the exact value only for a single well-formed,
in-range numeral (surrounding blanks allowed) and failure otherwise") -/

/-- "surrounding blanks allowed": a string is blanks, its stripped core, blanks; the core
neither starts nor ends with a blank -/
theorem stripBlanks_decomp (s : CStr) :
    ∃ lead trail, s = lead ++ stripBlanks s ++ trail ∧ (∀ c ∈ lead, isSpace c = true) ∧
      (∀ c ∈ trail, isSpace c = true) ∧ EndsNonBlank (stripBlanks s) ∧
      (∀ a t, stripBlanks s = a :: t → isSpace a = false) := by
  obtain ⟨t, hd, ht, hend⟩ := rstripL_decomp (s.dropWhile isSpace)
  refine ⟨s.takeWhile isSpace, t, ?_, all_takeWhile isSpace s, ht, hend, fun a t' hs => ?_⟩
  · rw [stripBlanks_eq, List.append_assoc, ← hd, List.takeWhile_append_dropWhile]
  · exact rstripL_head_not (takeWhile_dropWhile isSpace s) hs

/-- **parsers, main theorem.** For every string and every base in `{0, 2..36}` each wrapper
returns exactly what the specification `refParse` defines: success with value `v` iff the
string without surrounding blanks is one numeral (`[+-]`, base prefix, digits of the base,
nothing else) whose exact value is `v` and `v` lies in the range of the type.
`tol/toll` and `toul/toull` exclude their documented sentinels (`LONG_MIN`, `LONG_MAX`,
`ULONG_MAX`). -/
theorem int_parsers_exact (s : CStr) (base : Nat) (hb : validBase base = true) :
    strToi s base = .ok (refParse INT_MIN INT_MAX s base) ∧
    strTol s base = .ok (refParse (LONG_MIN + 1) (LONG_MAX - 1) s base) ∧
    strToll s base = .ok (refParse (LONG_MIN + 1) (LONG_MAX - 1) s base) ∧
    strTou s base = .ok ((refParse 0 UINT_MAX s base).map Int.toNat) ∧
    strToul s base = .ok ((refParse 0 ((ULONG_MAX - 1 : Nat) : Int) s base).map Int.toNat) ∧
    strToull s base = .ok ((refParse 0 ((ULONG_MAX - 1 : Nat) : Int) s base).map Int.toNat) :=
  ⟨strToi_eq s base hb, strTol_eq s base hb, strTol_eq s base hb,
   strToUnsigned_eq UINT_MAX (by decide) s base hb,
   strToUnsigned_eq (ULONG_MAX - 1) (Nat.le_refl _) s base hb,
   strToUnsigned_eq (ULONG_MAX - 1) (Nat.le_refl _) s base hb⟩

/-- reading of the main theorem as the property states it, for `toi` -/
theorem toi_success_iff (s : CStr) (base : Nat) (hb : validBase base = true) (v : Int) :
    strToi s base = .ok (some v) ↔
      (numeralValue base (stripBlanks s) = some v ∧ INT_MIN ≤ v ∧ v ≤ INT_MAX) := by
  rw [strToi_eq s base hb, Except.ok.injEq, refParse_eq_some]

/-- what the property itself demands of `tol`/`toll` (the sentinel rejection is the library's
documented extra, not a demand): a success carries the exact in-range value of a single
numeral, and every single numeral whose value is in the range of `long` and is not one of the two
sentinels is accepted -/
theorem tol_sound_complete (s : CStr) (base : Nat) (hb : validBase base = true) (v : Int) :
    (strTol s base = .ok (some v) → refParse LONG_MIN LONG_MAX s base = some v) ∧
    (refParse LONG_MIN LONG_MAX s base = some v → v ≠ LONG_MAX → v ≠ LONG_MIN →
      strTol s base = .ok (some v)) := by
  rw [strTol_eq s base hb]
  simp only [Except.ok.injEq, refParse_eq_some]
  unfold LONG_MAX LONG_MIN
  exact ⟨fun ⟨h, _, _⟩ => ⟨h, by omega, by omega⟩, fun ⟨h, _, _⟩ _ _ => ⟨h, by omega, by omega⟩⟩

/-- the same for `toul`/`toull` and their sentinel `ULONG_MAX` -/
theorem toul_sound_complete (s : CStr) (base : Nat) (hb : validBase base = true) (v : Nat) :
    (strToul s base = .ok (some v) → refParse 0 (ULONG_MAX : Int) s base = some (v : Int)) ∧
    (refParse 0 (ULONG_MAX : Int) s base = some (v : Int) → v ≠ ULONG_MAX →
      strToul s base = .ok (some v)) := by
  unfold strToul
  rw [strToUnsigned_eq (ULONG_MAX - 1) (Nat.le_refl _) s base hb]
  simp only [Except.ok.injEq, Option.map_eq_some_iff, refParse_eq_some]
  unfold ULONG_MAX
  constructor
  · rintro ⟨w, ⟨h, _, _⟩, hv⟩
    have : w = v := by omega
    exact this ▸ ⟨h, by omega, by omega⟩
  · rintro ⟨h, _, _⟩ _
    exact ⟨v, ⟨h, by omega, by omega⟩, rfl⟩

/-- the scanning half of the theorem: `strtol`/`strtoul` (as specified) find a numeral exactly
when the stripped string is one -/
theorem strtol_scan_spec (s : CStr) (base : Nat) (hb : validBase base = true) :
    numeralValue base (stripBlanks s) = scanOutcome (strtoScan s base) s :=
  scan_spec s base hb

/-- unpatched `toi`: `"2147483648 "` is reported as success with −2147483648 (truncated) -/
theorem toi_orig_truncates :
    strToiOrig [50, 49, 52, 55, 52, 56, 51, 54, 52, 56, 32] 10 = .ok (some (-2147483648)) ∧
    refParse INT_MIN INT_MAX [50, 49, 52, 55, 52, 56, 51, 54, 52, 56, 32] 10 = none := by
  constructor <;> decide

/-- unpatched `tou`: `"4294967296"` is reported as success with 0, `"-2"` with 4294967294 -/
theorem tou_orig_truncates :
    strTouOrig [52, 50, 57, 52, 57, 54, 55, 50, 57, 54] 10 = .ok (some 0) ∧
    strTouOrig [45, 50] 10 = .ok (some 4294967294) ∧
    refParse 0 UINT_MAX [52, 50, 57, 52, 57, 54, 55, 50, 57, 54] 10 = none ∧
    refParse 0 UINT_MAX [45, 50] 10 = none := by
  refine ⟨?_, ?_, ?_, ?_⟩ <;> decide

/-- unpatched `toul`/`toull`: `"-2"` is reported as success with 2^64 − 2 -/
theorem toul_orig_wraps : strToulOrig [45, 50] 10 = .ok (some 18446744073709551614) := by decide

/-! ## 5b. float parsers (same clause, for `tof` / `tod` / `told`) -/

/-- **float parsers, main theorem.** For every string and each of the three formats (binary32,
binary64, x87 extended) the wrapper returns exactly what the specification defines: success
iff the string without surrounding blanks is `[+-]` followed by one decimal or hexadecimal
floating numeral (or `inf`, `infinity`, `nan`, `nan(n-char-seq)` in any case) and the correctly
rounded value (round-to-nearest-even, gradual underflow) does not overflow; the value reported
is that correctly rounded value. -/
theorem float_parsers_exact (f : Fmt) (s : CStr) : strToFloat f s = refParseFloat f s := by
  unfold strToFloat refParseFloat
  rw [float_scan_spec s, converted_eq]
  split <;> rfl

/-- the scanning half: `strtod` (as specified) converts a numeral with only blanks behind it
exactly when the stripped string is one numeral, with the same exact value -/
theorem strtod_scan_spec (s : CStr) :
    floatNumeral (stripBlanks s) =
      (if (strtodScan s).consumed ≠ 0 ∧ (s.drop (strtodScan s).consumed).all isSpace
       then some (strtodScan s).val else none) :=
  float_scan_spec s

/-- unpatched `tof`: `"-1e50"` is reported as success with −inf; unpatched `tod`: `"1e999 "` with +inf -/
theorem tof_tod_orig_accept_overflow :
    strToFloatOrig true fmt32 [45, 49, 101, 53, 48] = some (.inf true true) ∧
    refParseFloat fmt32 [45, 49, 101, 53, 48] = none ∧
    strToFloatOrig false fmt64 [49, 101, 57, 57, 57, 32] = some (.inf false true) ∧
    refParseFloat fmt64 [49, 101, 57, 57, 57, 32] = none := by
  decide +kernel

/-! ## 6. path functions (clauses "never write beyond the caller's buffer", "NUL-terminate
whatever they report as success", "agree with a reference path algebra") -/

/-- **path functions, main theorem.** For every path(s) without NUL, every cwd, every buffer size
and every initial buffer content each model returns normally (so: no write at an index `≥ size`, no
read of an indeterminate byte), reports success exactly when the reference path algebra defines a
result that fits the buffer with its terminator (`specJoin`, `specBasename`, `specDirname`,
`specNormpath`, `specAbspath`), keeps the buffer size, and on success the buffer holds exactly that
result followed by NUL. For `normpath` the reference is the segment-wise algebra `refNormpath`
(drop one leading `./`, a `..` segment removes the previous ordinary segment, is kept after `..` or
at the start, is an error at a root; a longer name containing `..` is an error). -/
theorem path_functions_meet_reference (b : Buf) :
    (∀ p1 p2, NoNul p1 → NoNul p2 → Meets (pathJoin true p1 p2 b) b.size (specJoin p1 p2 b.size)) ∧
    (∀ p, NoNul p → Meets (pathBasename true p b) b.size (specBasename p b.size)) ∧
    (∀ p, NoNul p → Meets (pathDirname p b) b.size (specDirname p b.size)) ∧
    (∀ p, NoNul p → Meets (pathNormpath true p b) b.size (specNormpath p b.size)) ∧
    (∀ cwd p, (∀ c, cwd = some c → NoNul c) → NoNul p →
      Meets (pathAbspath true cwd p b) b.size (specAbspath cwd p b.size)) :=
  ⟨fun p1 p2 h1 h2 => pathJoin_meets p1 p2 h1 h2 b, fun p h => pathBasename_meets p h b,
   fun p h => pathDirname_meets p h b, fun p h => pathNormpath_meets p h b,
   fun cwd p hc hp => pathAbspath_meets cwd hc p hp b⟩

/-- the string-level mirror `normGoS` of the loop of `normpath` (tied to the model's `normGo` by
`normGo_refines`, inside `pathNormpath_meets`) is exactly the reference fold: for all remaining
inputs, all stacks of completed segments, all partial names -/
theorem normpath_loop_is_reference_fold (rest cur : CStr) (st : List (CStr × Option Nat))
    (hst : StackOk st) (hcur : CurOk cur rest) :
    normGoS rest (flatR st ++ cur) = refK rest cur st :=
  normGoS_ref rest cur st hst hcur

/-- **normpath / abspath, memory safety and termination** for every path, cwd, buffer size and
initial content: the model returns normally, and a reported success leaves a NUL-terminated
string shorter than the buffer. -/
theorem normpath_abspath_safe (b : Buf) (p : CStr) (hp : NoNul p) :
    SafeTerminated (pathNormpath true p b) b.size ∧
    (∀ cwd, (∀ c, cwd = some c → NoNul c) → SafeTerminated (pathAbspath true cwd p b) b.size) :=
  ⟨(pathNormpath_meets p hp b).safe fun _ => specNormpath_lt,
   fun cwd hc => (pathAbspath_meets cwd hc p hp b).safe fun _ => specAbspath_lt⟩

/-- join, basename, dirname are memory-safe and terminated as well (corollary) -/
theorem join_basename_dirname_safe (b : Buf) :
    (∀ p1 p2, NoNul p1 → NoNul p2 → SafeTerminated (pathJoin true p1 p2 b) b.size) ∧
    (∀ p, NoNul p → SafeTerminated (pathBasename true p b) b.size) ∧
    (∀ p, NoNul p → SafeTerminated (pathDirname p b) b.size) :=
  ⟨fun p1 p2 h1 h2 => (pathJoin_meets p1 p2 h1 h2 b).safe fun _ => fits_lt,
   fun p h => (pathBasename_meets p h b).safe fun _ => fits_lt,
   fun p h => (pathDirname_meets p h b).safe fun _ => fits_lt⟩

/-- unpatched `normpath`: `".."` with a 3-byte buffer writes index 3 -/
theorem normpath_orig_writes_past_buffer : pathNormpath false [46, 46] (Buf.fresh 3) = .error .oob := by
  decide

/-- unpatched `join`: size 0 wraps `size - 1` and `strncpy` runs off the buffer; an exact-fit
`path1` leaves the copy unterminated and `endswith` reads an indeterminate byte -/
theorem join_orig_unsafe :
    pathJoin false [47] [47] (Buf.fresh 0) = .error .oob ∧
    pathJoin false [97] [121, 121] (Buf.fresh 2) = .error .uninit := by
  constructor <;> decide

/-- unpatched `abspath` / `basename`: success without a terminator at `strlen == size - 1`;
unpatched `basename`: a base name that does not fit is truncated and reported as success -/
theorem abspath_basename_orig_unterminated :
    (pathAbspath false none [47, 46] (Buf.fresh 3)).map (fun r => (r.1, r.2.cstr)) = .ok (true, none) ∧
    (pathBasename false [97] (Buf.fresh 2)).map (fun r => (r.1, r.2.cstr)) = .ok (true, none) ∧
    (pathBasename false [46, 46, 46, 47, 46, 46] (Buf.fresh 2)).map (fun r => (r.1, r.2.cstr)) =
      .ok (true, some [46]) := by
  refine ⟨?_, ?_, ?_⟩ <;> decide

/-! ## Non-vacuity: the hypotheses are met by concrete, non-trivial inputs -/

example : 1 ≤ (BitVec.ofNat 64 (2 ^ 40 + 1)).toNat ∧ (BitVec.ofNat 64 (2 ^ 40 + 1)).toNat ≤ 2 ^ 63 ∧
    (nextPow2 (BitVec.ofNat 64 (2 ^ 40 + 1))).toNat = 2 ^ 41 := by decide

example : validBase 0 = true ∧ validBase 16 = true ∧
    -- "  -0x7fffffff \t" in base 0
    strToi [32, 32, 45, 48, 120, 55, 102, 102, 102, 102, 102, 102, 102, 32, 9] 0 = .ok (some (-2147483647)) := by
  decide

example : NoNul [97, 47, 98] ∧ NoNul [99] ∧
    (pathJoin true [97, 47, 98] [99] (Buf.fresh 6)).map (fun r => (r.1, r.2.cstr)) =
      .ok (true, some [97, 47, 98, 47, 99]) ∧
    (pathNormpath true [97, 47, 46, 46, 47, 98] (Buf.fresh 7)).map (fun r => (r.1, r.2.cstr)) =
      .ok (true, some [98]) := by
  refine ⟨?_, ?_, ?_, ?_⟩
  · intro c hc; simp at hc; omega
  · intro c hc; simp at hc; omega
  · decide
  · decide

example : hexToBytes [100, 69] = .ok [222] ∧ hexFromBytes [222] = some [68, 69] := by decide

-- " 0x1.8p1 " parses to 3.0 = sign 0, biased exponent 1024, fraction 2^51
example : strToFloat fmt64 [32, 48, 120, 49, 46, 56, 112, 49, 32] = some (.bits false 1024 2251799813685248) := by
  decide

end MgProof.C20
