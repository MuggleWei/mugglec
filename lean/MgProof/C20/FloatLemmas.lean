import MgModel.C20.Float
import MgProof.C20.NumLemmas
/-!
# C20 — float parsers: the scan of `strtod`

`float_scan_spec`: `strtod`'s scan followed only by blanks recognises exactly the numeral of the stripped
string; the wrappers' equation is `float_parsers_exact` in `Props`.

Main ingredient: *locality* of the scanner — appending blanks behind a string changes neither
what `scanNumber` / the `inf` / `nan` matchers recognise nor how much they consume — so scanning
the whole string and scanning its blank-stripped core agree. The pieces that look at the head of
their input (`scanSign`, `scanFrac`, `scanExp`, `scanHex`, `nanTail`, `matchCI`) are argued one by
one; the others hand `takeWhile`, `dropWhile` or `drop n` of their input on, and for them locality
is a rewrite. That a piece consumes no more than there is (`_bound`) is needed for the top theorem only.
-/
namespace MgProof.C20
open MgModel.C20

theorem Blank.head {t : CStr} (h : Blank t) {c : Nat} {r : CStr} (e : t = c :: r) : isSpace c = true :=
  h c (by rw [e]; simp)

theorem Blank.takeWhile_nil {p : Nat → Bool} (hp : ∀ c, p c = true → isSpace c = false) {t : CStr}
    (ht : Blank t) : t.takeWhile p = [] ∧ t.dropWhile p = t := by
  cases t with
  | nil => exact ⟨rfl, rfl⟩
  | cons c r =>
    have : ¬ p c = true := fun h => by have := ht.head rfl; rw [hp c h] at this; cases this
    exact ⟨List.takeWhile_cons_of_neg this, List.dropWhile_cons_of_neg this⟩

theorem takeWhile_blank (p : Nat → Bool) (hp : ∀ c, p c = true → isSpace c = false) (a t : CStr)
    (ht : Blank t) : (a ++ t).takeWhile p = a.takeWhile p := by
  rw [List.takeWhile_append, (ht.takeWhile_nil hp).1, List.append_nil]
  split
  · exact ((List.takeWhile_prefix p).eq_of_length ‹_›).symm
  · rfl

theorem dropWhile_blank (p : Nat → Bool) (hp : ∀ c, p c = true → isSpace c = false) (a t : CStr)
    (ht : Blank t) : (a ++ t).dropWhile p = a.dropWhile p ++ t := by
  rw [List.dropWhile_append, (ht.takeWhile_nil hp).2]
  split
  · rename_i h; rw [List.isEmpty_iff.mp h]; rfl
  · rfl

theorem isDec_not_space {c : Nat} (h : isDec c = true) : isSpace c = false := by
  simp only [isDec, Bool.and_eq_true, decide_eq_true_eq] at h
  exact isSpace_eq_false (by omega)

theorem lower_space {c : Nat} (h : isSpace c = true) : lower c = c := by
  unfold isSpace at h
  unfold lower
  simp only [Bool.or_eq_true, beq_iff_eq, Bool.and_eq_true, decide_eq_true_eq] at h
  have : ¬ (65 ≤ c ∧ c ≤ 90) := by omega
  simp [this]

theorem space_le_32 {c : Nat} (h : isSpace c = true) : c ≤ 32 := by
  apply Classical.byContradiction
  intro hc
  rw [isSpace_eq_false (by omega)] at h; cases h

theorem Blank.head?_ne {t : CStr} (ht : Blank t) {c : Nat} (hc : 33 ≤ c) : t.head? ≠ some c := by
  cases t with
  | nil => simp
  | cons x r => have := space_le_32 (ht.head rfl); simp; omega

theorem Blank.drop {t : CStr} (ht : Blank t) (k : Nat) : Blank (t.drop k) :=
  fun x hx => ht x (List.mem_of_mem_drop hx)

theorem Blank.head?_append {t : CStr} (ht : Blank t) {c : Nat} (hc : 33 ≤ c) (l : CStr) :
    (l ++ t).head? = some c ↔ l.head? = some c := by
  cases l with
  | nil => simpa using ht.head?_ne hc
  | cons x r => rfl

theorem scanSign_blank (a t : CStr) (ht : Blank t) :
    scanSign (a ++ t) = ((scanSign a).1, (scanSign a).2.1, (scanSign a).2.2 ++ t) := by
  cases a with
  | nil => rw [List.nil_append, scanSign_nosign (ht.head?_ne (by omega)) (ht.head?_ne (by omega))]; rfl
  | cons x a' =>
    rcases scanSign_cases (x :: a') with ⟨r', e, _⟩ | ⟨r', e, _⟩ | ⟨h, h1, h2⟩
    · injection e with e1 e2; subst e1 e2; rfl
    · injection e with e1 e2; subst e1 e2; rfl
    · rw [h, List.cons_append, scanSign_nosign (by simpa using h1) (by simpa using h2)]

theorem scanExp_blank (mark : Nat) (hm : 33 ≤ mark) (a t : CStr) (ht : Blank t) :
    scanExp mark (a ++ t) = scanExp mark a := by
  cases a with
  | nil =>
    cases t with
    | nil => rfl
    | cons c r =>
      have hc := ht.head rfl
      have hl := lower_space hc
      have h32 := space_le_32 hc
      simp only [List.nil_append, scanExp]
      have : lower c ≠ mark := by rw [hl]; omega
      simp [this]
  | cons m a' =>
    simp only [List.cons_append, scanExp]
    by_cases hmk : lower m ≠ mark
    · simp [hmk]
    · simp only [hmk, if_false]
      rw [scanSign_blank a' t ht]
      simp only
      rw [takeWhile_blank isDec (fun c h => isDec_not_space h) _ t ht]

theorem scanFrac_dot (base : Nat) (ip r2 : CStr) :
    scanFrac base ip (46 :: r2) =
      if ip = [] ∧ r2.takeWhile (isDigitIn base) = [] then none
      else some (ip ++ r2.takeWhile (isDigitIn base), (r2.takeWhile (isDigitIn base)).length,
        ip.length + 1 + (r2.takeWhile (isDigitIn base)).length) := rfl

theorem scanFrac_nodot (base : Nat) (ip l : CStr) (h : l.head? ≠ some 46) :
    scanFrac base ip l = if ip = [] then none else some (ip, 0, ip.length) := by
  unfold scanFrac
  split
  · simp at h
  · rfl

theorem scanFrac_blank (base : Nat) (ip l t : CStr) (ht : Blank t) :
    scanFrac base ip (l ++ t) = scanFrac base ip l := by
  by_cases h : l.head? = some 46
  · obtain ⟨r, rfl⟩ := List.head?_eq_some_iff.mp h
    rw [List.cons_append, scanFrac_dot, scanFrac_dot, takeWhile_blank _ (fun c h => digit_not_space h) r t ht]
  · rw [scanFrac_nodot _ _ l h, scanFrac_nodot _ _ _ (mt (ht.head?_append (by omega) l).mp h)]

theorem scanFrac_bound {base : Nat} {ip l ds : CStr} {nfrac n : Nat}
    (h : scanFrac base ip l = some (ds, nfrac, n)) : 0 < n ∧ n ≤ ip.length + l.length := by
  by_cases hd : l.head? = some 46
  · obtain ⟨r, rfl⟩ := List.head?_eq_some_iff.mp hd
    have := takeWhile_length_le (isDigitIn base) r
    rw [scanFrac_dot] at h
    split at h
    · cases h
    · simp only [Option.some.injEq, Prod.mk.injEq] at h
      rw [List.length_cons]; omega
  · rw [scanFrac_nodot _ _ l hd] at h
    split at h
    · cases h
    · rename_i hip
      simp only [Option.some.injEq, Prod.mk.injEq] at h
      have := List.length_pos_iff.mpr hip
      omega

theorem scanMantissa_blank (base : Nat) (a t : CStr) (ht : Blank t) :
    scanMantissa base (a ++ t) = scanMantissa base a := by
  have hp : ∀ c, isDigitIn base c = true → isSpace c = false := fun c h => digit_not_space h
  unfold scanMantissa
  rw [takeWhile_blank _ hp a t ht, dropWhile_blank _ hp a t ht, scanFrac_blank _ _ _ t ht]

theorem scanMantissa_bound {base : Nat} {a ds : CStr} {nfrac n : Nat}
    (h : scanMantissa base a = some (ds, nfrac, n)) : 0 < n ∧ n ≤ a.length := by
  have := scanFrac_bound h
  have hl := congrArg List.length (List.takeWhile_append_dropWhile (p := isDigitIn base) (l := a))
  rw [List.length_append] at hl
  omega

theorem scanSign_length (a : CStr) : (scanSign a).2.1 + (scanSign a).2.2.length = a.length := by
  rcases scanSign_cases a with ⟨r, e, h⟩ | ⟨r, e, h⟩ | ⟨h, _, _⟩
  · rw [h, e]; simp; omega
  · rw [h, e]; simp; omega
  · rw [h]; simp

theorem scanExp_bound (mark : Nat) (a : CStr) : (scanExp mark a).2 ≤ a.length := by
  cases a with
  | nil => simp [scanExp]
  | cons m r =>
    simp only [scanExp]
    by_cases hmk : lower m ≠ mark
    · simp [hmk]
    · simp only [hmk, if_false]
      have hs := scanSign_length r
      rcases hsc : scanSign r with ⟨neg, nsign, r2⟩
      rw [hsc] at hs
      simp only at hs ⊢
      have ht := takeWhile_length_le isDec r2
      by_cases hds : r2.takeWhile isDec = []
      · simp [hds]
      · simp only [hds, if_false, List.length_cons]
        omega

/-- what `drop` takes from `a ++ t` beyond `a` it takes from the blanks, and blanks are left -/
theorem scanBody_blank (base mark eb pd : Nat) (hm : 33 ≤ mark) (a t : CStr) (ht : Blank t) :
    scanBody base mark eb pd (a ++ t) = scanBody base mark eb pd a := by
  unfold scanBody
  rw [scanMantissa_blank base a t ht]
  cases scanMantissa base a with
  | none => rfl
  | some res => simp only [List.drop_append, scanExp_blank mark hm _ _ (ht.drop _)]

theorem scanBody_bound {base mark eb pd : Nat} {a : CStr} {num den n : Nat}
    (h : scanBody base mark eb pd a = some (num, den, n)) : 0 < n ∧ n ≤ a.length := by
  unfold scanBody at h
  cases hsm : scanMantissa base a with
  | none => rw [hsm] at h; cases h
  | some res =>
    obtain ⟨ds, nfrac, n0⟩ := res
    obtain ⟨h0, hn⟩ := scanMantissa_bound hsm
    rw [hsm] at h
    simp only [Option.some.injEq, Prod.mk.injEq] at h
    have hb := scanExp_bound mark (a.drop n0)
    simp at hb
    omega

theorem scanHex_blank (a t : CStr) (ht : Blank t) : scanHex (a ++ t) = scanHex a := by
  have hnone : ∀ l : CStr, l.head? ≠ some 48 → scanHex l = none := by
    intro l hl
    unfold scanHex
    split
    · simp at hl
    · rfl
  cases a with
  | nil => rw [List.nil_append, hnone t (ht.head?_ne (by omega)), hnone [] (by simp)]
  | cons y a' =>
    by_cases hy : y = 48
    · subst hy
      cases a' with
      | nil =>
        cases t with
        | nil => rfl
        | cons c r =>
          have hc := ht.head rfl
          have h32 := space_le_32 hc
          have hl : lower c ≠ 120 := by rw [lower_space hc]; omega
          show scanHex (48 :: c :: r) = scanHex [48]
          simp [scanHex, hl]
      | cons x a'' =>
        show scanHex (48 :: x :: (a'' ++ t)) = scanHex (48 :: x :: a'')
        unfold scanHex
        by_cases hx : lower x = 120
        · simp only [hx, if_true]
          rw [scanBody_blank 16 112 2 4 (by omega) a'' t ht]
        · simp [hx]
    · rw [hnone _ (by simpa using hy), hnone _ (by simpa using hy)]

theorem scanHex_bound {a : CStr} {num den n : Nat} (h : scanHex a = some (num, den, n)) :
    0 < n ∧ n ≤ a.length := by
  unfold scanHex at h
  split at h
  · rename_i x r
    by_cases hx : lower x = 120
    · simp only [hx, if_true] at h
      cases hb : scanBody 16 112 2 4 r with
      | none => rw [hb] at h; cases h
      | some res =>
        obtain ⟨nu, de, n0⟩ := res
        rw [hb] at h
        simp only [Option.some.injEq, Prod.mk.injEq] at h
        have := scanBody_bound hb
        simp
        omega
    · simp [hx] at h
  · cases h

theorem scanNumber_blank (a t : CStr) (ht : Blank t) : scanNumber (a ++ t) = scanNumber a := by
  unfold scanNumber
  rw [scanHex_blank a t ht, scanBody_blank 10 101 10 1 (by omega) a t ht]

theorem scanNumber_bound {a : CStr} {num den n : Nat} (h : scanNumber a = some (num, den, n)) :
    0 < n ∧ n ≤ a.length := by
  unfold scanNumber at h
  cases hh : scanHex a with
  | some res =>
    rw [hh] at h
    simp only [Option.some.injEq] at h
    rw [h] at hh
    exact scanHex_bound hh
  | none =>
    rw [hh] at h
    exact scanBody_bound h

theorem matchCI_eq : ∀ (lit s : CStr), matchCI lit s = lit.isPrefixOf (s.map lower)
  | [], s => by simp [matchCI]
  | _ :: _, [] => by simp [matchCI]
  | l :: lit, c :: s => by simp [matchCI, matchCI_eq lit s, List.isPrefixOf, Bool.beq_comm]

theorem lower_eq_small {c v : Nat} (h : lower c = v) (hv : v < 97) : c = v := by
  unfold lower at h
  by_cases hc : 65 ≤ c ∧ c ≤ 90
  · simp [hc] at h; omega
  · simp [hc] at h; exact h

theorem nchar_not_space {c : Nat} (h : isNChar c = true) : isSpace c = false := by
  simp only [isNChar, isDec, Bool.or_eq_true, Bool.and_eq_true, decide_eq_true_eq, beq_iff_eq] at h
  exact isSpace_eq_false (by omega)

theorem matchCI_blank (lit : CStr) (hl : ∀ c ∈ lit, 33 ≤ c) : ∀ (a t : CStr), Blank t →
    matchCI lit (a ++ t) = matchCI lit a := by
  induction lit with
  | nil => intro a t _; simp [matchCI]
  | cons l lit ih =>
    intro a t ht
    cases a with
    | nil =>
      cases t with
      | nil => rfl
      | cons c r =>
        have hc := ht.head rfl
        have : lower c ≠ l := by
          rw [lower_space hc]
          have := space_le_32 hc
          have := hl l (by simp)
          omega
        simp [matchCI, this]
    | cons x a' =>
      simp only [List.cons_append, matchCI]
      rw [ih (fun c hc => hl c (by simp [hc])) a' t ht]

theorem matchCI_length {lit s : CStr} (h : matchCI lit s = true) : lit.length ≤ s.length := by
  rw [matchCI_eq] at h
  simpa using isPrefixOf_length h

theorem nanTail_ne40 {l : CStr} (h : l.head? ≠ some 40) : nanTail l = 0 := by
  unfold nanTail
  split
  · simp at h
  · rfl

theorem nanTail_40 (r2 : CStr) :
    nanTail (40 :: r2) =
      if (r2.drop (r2.takeWhile isNChar).length).head? = some 41 then (r2.takeWhile isNChar).length + 2
      else 0 := rfl

theorem nanTail_blank (a t : CStr) (ht : Blank t) : nanTail (a ++ t) = nanTail a := by
  by_cases h : a.head? = some 40
  · obtain ⟨r2, rfl⟩ := List.head?_eq_some_iff.mp h
    rw [List.cons_append, nanTail_40, nanTail_40, takeWhile_blank isNChar (fun c h => nchar_not_space h) r2 t ht]
    simp only [List.drop_append, (ht.drop _).head?_append (show 33 ≤ 41 by omega)]
  · rw [nanTail_ne40 h, nanTail_ne40 (mt (ht.head?_append (by omega) a).mp h)]

theorem nanTail_bound (l : CStr) : nanTail l ≤ l.length := by
  by_cases hl : l.head? = some 40
  · obtain ⟨r2, rfl⟩ := List.head?_eq_some_iff.mp hl
    rw [nanTail_40]
    split
    · rename_i h
      have hle := takeWhile_length_le isNChar r2
      have : (r2.takeWhile isNChar).length < r2.length := by
        apply Classical.byContradiction
        intro hc
        have : r2.drop (r2.takeWhile isNChar).length = [] := List.drop_eq_nil_of_le (by omega)
        rw [this] at h; simp at h
      simp; omega
    · omega
  · rw [nanTail_ne40 hl]; omega

theorem scanSpecial_blank (a t : CStr) (ht : Blank t) : scanSpecial (a ++ t) = scanSpecial a := by
  unfold scanSpecial
  simp only [List.drop_append,
    matchCI_blank [105, 110, 102] (by intro c hc; simp at hc; omega) _ _ ht,
    matchCI_blank [110, 97, 110] (by intro c hc; simp at hc; omega) _ _ ht,
    matchCI_blank [105, 110, 105, 116, 121] (by intro c hc; simp at hc; omega) _ _ (ht.drop _),
    nanTail_blank _ _ (ht.drop _)]

theorem scanSpecial_bound {a : CStr} {k : Bool} {n : Nat} (h : scanSpecial a = some (k, n)) :
    0 < n ∧ n ≤ a.length := by
  unfold scanSpecial at h
  by_cases hinf : matchCI [105, 110, 102] a = true
  · simp only [hinf, if_true, Option.some.injEq, Prod.mk.injEq] at h
    have hl := matchCI_length hinf
    by_cases h8 : matchCI [105, 110, 105, 116, 121] (a.drop 3) = true
    · have hl8 := matchCI_length h8
      simp only [h8, if_true] at h
      simp at hl hl8
      omega
    · simp only [h8, if_false, Bool.false_eq_true] at h
      simp at hl
      omega
  · simp only [hinf, if_false, Bool.false_eq_true] at h
    by_cases hnan : matchCI [110, 97, 110] a = true
    · simp only [hnan, if_true, Option.some.injEq, Prod.mk.injEq] at h
      have hl := matchCI_length hnan
      have hb := nanTail_bound (a.drop 3)
      simp at hl hb
      omega
    · simp [hnan] at h

/-- the literal specification of the special values is "the scanner consumes the whole body" -/
def wholeSpecial (body : CStr) : Option Bool :=
  match scanSpecial body with
  | some (k, n) => if n = body.length then some k else none
  | none => none

theorem nchar_41 : isNChar 41 = false := by decide

theorem takeWhile_nchar_closed (mid rest : CStr) (h : ∀ c ∈ mid, isNChar c = true) :
    (mid ++ 41 :: rest).takeWhile isNChar = mid := by
  rw [List.takeWhile_append_of_pos h, List.takeWhile_cons_of_neg (by simp [nchar_41])]
  simp

theorem nan_closed (pfx r2 : CStr) (hpfx : pfx.getLast? = some 40)
    (hlast : (pfx ++ r2.map lower).getLast? = some 41)
    (hmid : (r2.take (r2.length - 1)).all isNChar = true) :
    r2 = r2.takeWhile isNChar ++ [41] := by
  have hr2ne : r2 ≠ [] := by
    intro e
    rw [e] at hlast
    simp at hlast
    rw [hpfx] at hlast
    cases hlast
  have hsplit := List.dropLast_concat_getLast hr2ne
  generalize hy : r2.getLast hr2ne = y at hsplit
  generalize hm : r2.dropLast = mid at hsplit
  have hy41 : y = 41 := by
    rw [← hsplit] at hlast
    simp at hlast
    exact lower_eq_small hlast (by omega)
  subst hy41
  have hlen : r2.length - 1 = mid.length := by rw [← hsplit]; simp
  have hmidall : ∀ c ∈ mid, isNChar c = true := by
    rw [hlen] at hmid
    have : r2.take mid.length = mid := by rw [← hsplit, List.take_left]
    rw [this] at hmid
    exact List.all_eq_true.mp hmid
  have hcs : r2.takeWhile isNChar = mid := by
    rw [← hsplit]; exact takeWhile_nchar_closed mid [] hmidall
  rw [hcs]; exact hsplit.symm

/-- the text behind `nan` is `(`, a run of n-chars, `)` -/
def NanArgs (rest : CStr) : Prop := ∃ mid, rest = 40 :: (mid ++ [41]) ∧ ∀ c ∈ mid, isNChar c = true

theorem nanTail_whole (rest : CStr) : nanTail rest = rest.length ↔ rest = [] ∨ NanArgs rest := by
  cases rest with
  | nil => simp [nanTail]
  | cons x r2 =>
    by_cases hx : x = 40
    · subst hx
      rw [nanTail_40]
      constructor
      · intro h
        split at h
        · rename_i hh
          right
          have hsplit := List.take_append_drop (r2.takeWhile isNChar).length r2
          have hd1 : r2.drop (r2.takeWhile isNChar).length = [41] := by
            cases hd : r2.drop (r2.takeWhile isNChar).length with
            | nil => rw [hd] at hh; simp at hh
            | cons y t =>
              have hdl := congrArg List.length hd
              rw [List.length_drop, List.length_cons] at hdl
              rw [hd] at hh
              simp only [List.head?_cons, Option.some.injEq] at hh
              rw [hh, List.eq_nil_of_length_eq_zero (l := t) (by simp at h; omega)]
          rw [take_takeWhile_length, hd1] at hsplit
          exact ⟨_, by rw [hsplit], all_takeWhile isNChar r2⟩
        · simp at h
      · rintro (h | ⟨mid, h, hall⟩)
        · cases h
        · injection h with _ h
          subst h
          rw [takeWhile_nchar_closed mid [] hall, List.drop_left]
          simp
    · rw [nanTail_ne40 (by simpa using hx)]
      constructor
      · intro h; simp at h
      · rintro (h | ⟨mid, h, _⟩)
        · cases h
        · injection h with h _; exact absurd h hx

theorem nanLit_iff (x : Nat) (r2 : CStr) :
    ((110 :: 97 :: 110 :: lower x :: r2.map lower).take 4 = [110, 97, 110, 40] ∧
      (110 :: 97 :: 110 :: lower x :: r2.map lower).getLast? = some 41 ∧
      (r2.take (r2.length - 1)).all isNChar = true) ↔ NanArgs (x :: r2) := by
  constructor
  · rintro ⟨h4, hlast, hmid⟩
    have hx : x = 40 := lower_eq_small (by simpa using h4) (by omega)
    subst hx
    exact ⟨_, congrArg _ (nan_closed [110, 97, 110, 40] r2 rfl hlast hmid), all_takeWhile isNChar r2⟩
  · rintro ⟨mid, h, hall⟩
    injection h with hx h
    subst hx h
    refine ⟨rfl, by simp [List.getLast?_cons, List.getLast?_append]; decide, ?_⟩
    have : (mid ++ [41]).length - 1 = mid.length := by simp
    rw [this, List.take_left]
    exact List.all_eq_true.mpr hall

theorem specialLit_eq (body : CStr) : specialLit body = wholeSpecial body := by
  unfold specialLit wholeSpecial scanSpecial
  simp only [matchCI_eq, List.map_drop]
  have hlen : body.length = (body.map lower).length := (List.length_map _).symm
  by_cases hinf : ([105, 110, 102] : CStr).isPrefixOf (body.map lower) = true
  · -- `inf` + `r`: the scan takes 8 characters if `r` starts with `inity`, else 3; whole iff `r` is
    -- `inity` resp. empty
    obtain ⟨r, hr⟩ := List.isPrefixOf_iff_prefix.mp hinf
    rw [if_pos hinf, hlen, ← hr]
    simp only [List.cons_append, List.nil_append, List.drop_succ_cons, List.drop_zero, List.length_cons]
    by_cases h8 : ([105, 110, 105, 116, 121] : CStr).isPrefixOf r = true
    · obtain ⟨r2, hr2⟩ := List.isPrefixOf_iff_prefix.mp h8
      subst hr2
      simp
    · have hne : r ≠ [105, 110, 105, 116, 121] := fun e => h8 (by rw [e]; rfl)
      simp [h8, hne]
  · rw [if_neg hinf]
    have hnoinf : ∀ x : CStr, body.map lower ≠ 105 :: 110 :: 102 :: x := fun x e => hinf (e ▸ rfl)
    by_cases hnan : ([110, 97, 110] : CStr).isPrefixOf (body.map lower) = true
    · -- `nan` + `rest`: whole iff `rest` is empty or `(n-chars)` (`e`), which is what the two `nan`
      -- alternatives of `specialLit` say (`nanLit_iff`)
      rw [if_pos hnan, if_neg (by simp [hnoinf])]
      dsimp only
      -- a body of fewer than three characters contradicts `hnan`
      rcases body with _ | ⟨b0, _ | ⟨b1, _ | ⟨b2, rest⟩⟩⟩ <;> simp [List.isPrefixOf] at hnan
      obtain ⟨h0, h1, h2⟩ := hnan
      have e : 3 + nanTail rest = (b0 :: b1 :: b2 :: rest).length ↔ rest = [] ∨ NanArgs rest := by
        rw [← nanTail_whole]; simp only [List.length_cons]; omega
      simp only [List.map_cons, ← h0, ← h1, ← h2, List.drop_succ_cons, List.drop_zero]
      cases rest with
      | nil => simp [nanTail]
      | cons x r2 =>
        have hl : (b0 :: b1 :: b2 :: x :: r2).length - 5 = r2.length - 1 := by simp
        simp only [List.map_cons, List.drop_succ_cons, List.drop_zero, hl]
        rw [if_neg (by simp)]
        by_cases hN : NanArgs (x :: r2)
        · rw [if_pos ((nanLit_iff x r2).mpr hN), if_pos (e.mpr (Or.inr hN))]
        · rw [if_neg fun h => hN ((nanLit_iff x r2).mp h),
            if_neg fun h => hN ((e.mp h).resolve_left (by simp))]
    · -- neither: every alternative of `specialLit` begins with `inf` or `nan`
      rw [if_neg hnan]
      have hnonan : ∀ x : CStr, body.map lower ≠ 110 :: 97 :: 110 :: x := fun x e => hnan (e ▸ rfl)
      rw [if_neg (by simp [hnoinf]), if_neg (hnonan _), if_neg]
      rintro ⟨h4, _⟩
      have := List.take_append_drop 4 (body.map lower)
      rw [h4] at this
      exact hnonan _ this.symm

/-- the token after the sign: value and characters consumed -/
def tokAfter (neg : Bool) (x : CStr) : Option (FVal × Nat) :=
  match scanNumber x with
  | some (num, den, n) => some (.fin neg num den, n)
  | none =>
    match scanSpecial x with
    | some (true, n) => some (.inf neg, n)
    | some (false, n) => some (.nan, n)
    | none => none

theorem tokAfter_blank (neg : Bool) (a t : CStr) (ht : Blank t) : tokAfter neg (a ++ t) = tokAfter neg a := by
  unfold tokAfter
  rw [scanNumber_blank a t ht, scanSpecial_blank a t ht]

theorem tokAfter_bound {neg : Bool} {a : CStr} {v : FVal} {n : Nat} (h : tokAfter neg a = some (v, n)) :
    0 < n ∧ n ≤ a.length := by
  unfold tokAfter at h
  cases hn : scanNumber a with
  | some res =>
    obtain ⟨num, den, n0⟩ := res
    rw [hn] at h
    simp only [Option.some.injEq, Prod.mk.injEq] at h
    have := scanNumber_bound hn
    omega
  | none =>
    rw [hn] at h
    cases hs : scanSpecial a with
    | none => rw [hs] at h; cases h
    | some res =>
      obtain ⟨k, n0⟩ := res
      have := scanSpecial_bound hs
      rw [hs] at h
      cases k <;> simp only [Option.some.injEq, Prod.mk.injEq] at h <;> omega

theorem strtodScan_eq (s : CStr) :
    strtodScan s =
      (match scanSign (s.dropWhile isSpace) with
       | (neg, nsign, s2) =>
         match tokAfter neg s2 with
         | some (v, n) => { val := v, consumed := (s.takeWhile isSpace).length + nsign + n }
         | none => { val := .fin false 0 1, consumed := 0 }) := by
  unfold strtodScan tokAfter
  dsimp only
  generalize scanSign (s.dropWhile isSpace) = p
  obtain ⟨neg, nsign, s2⟩ := p
  simp only
  cases scanNumber s2 with
  | some res => rfl
  | none =>
    simp only
    cases scanSpecial s2 with
    | none => rfl
    | some res =>
      obtain ⟨k, n⟩ := res
      cases k <;> rfl

theorem floatNumeral_eq (core : CStr) :
    floatNumeral core =
      (match scanSign core with
       | (neg, _, body) =>
         match tokAfter neg body with
         | some (v, n) => if n = body.length then some v else none
         | none => none) := by
  unfold floatNumeral tokAfter
  dsimp only
  generalize scanSign core = p
  obtain ⟨neg, k, body⟩ := p
  simp only
  cases scanNumber body with
  | some res => rfl
  | none =>
    simp only
    rw [specialLit_eq]
    unfold wholeSpecial
    cases scanSpecial body with
    | none => rfl
    | some res =>
      obtain ⟨k, n⟩ := res
      by_cases hn : n = body.length
      · cases k <;> simp [hn]
      · cases k <;> simp [hn]

theorem float_scan_spec (s : CStr) :
    floatNumeral (stripBlanks s) =
      (if (strtodScan s).consumed ≠ 0 ∧ (s.drop (strtodScan s).consumed).all isSpace
       then some (strtodScan s).val else none) := by
  -- opening as in `scan_spec`: `s = ws ++ sg ++ s2`, blanks and sign; `s2 = rstripL s2 ++ t` with `t` blank
  have hs : s = s.takeWhile isSpace ++ s.dropWhile isSpace := List.takeWhile_append_dropWhile.symm
  rw [stripBlanks_eq, strtodScan_eq, floatNumeral_eq]
  generalize hws : s.takeWhile isSpace = ws at hs
  generalize hs1 : s.dropWhile isSpace = s1 at hs
  obtain ⟨sg, s2, neg, e1, hsg, k, hcore⟩ := sign_core s1
  rw [hsg, hcore]
  simp only
  obtain ⟨t, hdec, ht, hend⟩ := rstripL_decomp s2
  have hloc : tokAfter neg s2 = tokAfter neg (rstripL s2) := by
    conv => lhs; rw [hdec]
    exact tokAfter_blank neg _ t ht
  rw [hloc]
  cases htok : tokAfter neg (rstripL s2) with
  | none => simp
  | some res =>
    obtain ⟨v, n⟩ := res
    obtain ⟨hn0, hnle⟩ := tokAfter_bound htok
    simp only
    -- the core is the token and `rest`; the token is the whole core iff `rest` is empty
    obtain ⟨tok, rest, hc, rfl⟩ : ∃ tok rest, rstripL s2 = tok ++ rest ∧ tok.length = n :=
      ⟨_, _, (List.take_append_drop n _).symm, List.length_take_of_le hnle⟩
    rw [hc] at hdec hend ⊢
    have hs' : s = (ws ++ sg) ++ (tok ++ (rest ++ t)) := by rw [hs, e1, hdec]; simp
    have hne : (ws ++ sg).length + tok.length ≠ 0 := by omega
    have hw : tok.length = (tok ++ rest).length ↔ rest = [] := by simp
    rw [← List.length_append, hs']
    simp only [blanks_follow_iff hend ht, hw, ne_eq, hne, not_false_eq_true, true_and]

end MgProof.C20
