import MgModel.C20.Str
/-!
# C20 — string helpers equal their reference definitions
-/
namespace MgProof.C20
open MgModel.C20

-- general `takeWhile` / `dropWhile` facts, here because the parser and path files all import this one

theorem takeWhile_length_le {α : Type} (p : α → Bool) (l : List α) : (l.takeWhile p).length ≤ l.length :=
  (List.takeWhile_prefix p).length_le

theorem all_takeWhile {α : Type} (p : α → Bool) (l : List α) : ∀ x ∈ l.takeWhile p, p x = true :=
  List.all_eq_true.mp List.all_takeWhile

theorem dropWhile_head_not {α : Type} (p : α → Bool) (l : List α) (a : α) (t : List α)
    (h : l.dropWhile p = a :: t) : p a = false := by
  have := List.head?_dropWhile_not p l
  rw [h] at this
  simpa using this

theorem takeWhile_dropWhile {α : Type} (p : α → Bool) (l : List α) : (l.dropWhile p).takeWhile p = [] := by
  cases hd : l.dropWhile p with
  | nil => rfl
  | cons x r => exact List.takeWhile_cons_of_neg (by simp [dropWhile_head_not p l x r hd])

theorem take_takeWhile_length {α : Type} (p : α → Bool) (l : List α) :
    l.take (l.takeWhile p).length = l.takeWhile p := by
  conv => lhs; arg 2; rw [← List.takeWhile_append_dropWhile (p := p) (l := l)]
  exact List.take_left

theorem prefixLoop_eq : ∀ (s p : CStr), prefixLoop s p = p.isPrefixOf s
  | _, [] => by simp [prefixLoop]
  | [], _ :: _ => by simp [prefixLoop, List.isPrefixOf]
  | a :: s, b :: p => by
    have ih := prefixLoop_eq s p
    by_cases h : a = b
    · subst h; simp [prefixLoop, List.isPrefixOf, ih]
    · have h' : ¬ b = a := fun e => h e.symm
      simp [prefixLoop, List.isPrefixOf, h, h']

theorem isPrefixOf_length {p s : CStr} (h : p.isPrefixOf s = true) : p.length ≤ s.length :=
  (List.isPrefixOf_iff_prefix.mp h).length_le

/-- the tests around the comparison loop of `startswith` / `endswith` -/
theorem guards_eq (s p : CStr) (q : Bool) (hq : q = true → p.length ≤ s.length) :
    (if s.length < p.length then false
     else if (!q) = true then false
     else if s.length ≠ 0 ∧ p.length = 0 then false else true) = (q && !(s ≠ [] && p == [])) := by
  cases q with
  | false => simp
  | true =>
    rw [if_neg (Nat.not_lt.mpr (hq rfl))]
    cases s <;> cases p <;> simp

theorem startswith_eq_ref (s p : CStr) : startswith s p = refStartswith s p := by
  unfold startswith refStartswith
  rw [prefixLoop_eq]
  exact guards_eq s p _ isPrefixOf_length

theorem startswith_lit (p lit : CStr) (h : lit ≠ []) : startswith p lit = lit.isPrefixOf p := by
  rw [startswith_eq_ref]
  unfold refStartswith
  have : (lit == []) = false := by simpa using h
  simp [this]

theorem endswith_eq_ref (s p : CStr) : endswith s p = refEndswith s p := by
  unfold endswith refEndswith
  rw [prefixLoop_eq]
  exact guards_eq s p (p.isSuffixOf s) fun h => (List.isSuffixOf_iff_suffix.mp h).length_le

theorem lstripGo_eq : ∀ (s : CStr) (idx : Nat),
    lstripGo s idx = if s ≠ [] ∧ s.all isSpace then -1 else ((idx + (s.takeWhile isSpace).length : Nat) : Int)
  | [], idx => by simp [lstripGo]
  | c :: rest, idx => by
    have ih := lstripGo_eq rest (idx + 1)
    unfold lstripGo
    by_cases hc : isSpace c = true
    · by_cases hr : rest = []
      · subst hr; simp [hc]
      · simp only [hc, if_true, hr, if_false, ih, List.all_cons, Bool.true_and, List.takeWhile_cons,
          List.length_cons, ne_eq, not_false_eq_true, true_and, reduceCtorEq]
        by_cases ha : rest.all isSpace = true
        · simp [ha]
        · simp [ha]; omega
    · simp [hc]

theorem lstripIdx_eq_ref (s : CStr) : lstripIdx s = refLstrip s := by
  unfold lstripIdx refLstrip
  rw [lstripGo_eq]
  simp

theorem rstripGo_eq : ∀ (r : CStr), rstripGo r = ((r.dropWhile isSpace).length : Int) - 1
  | [] => by simp [rstripGo]
  | c :: rest => by
    have ih := rstripGo_eq rest
    unfold rstripGo
    by_cases hc : isSpace c = true
    · by_cases hr : rest = []
      · subst hr; simp [hc]
      · simp [hc, hr, ih]
    · simp [hc]

theorem rstripIdx_eq_ref (s : CStr) : rstripIdx s = refRstrip s := by
  unfold rstripIdx refRstrip
  by_cases h : s.length = 0
  · have : s = [] := List.eq_nil_of_length_eq_zero h
    subst this; simp
  · simp only [h, if_false]; exact rstripGo_eq _

theorem rstripIdxOrig_oob_iff (s : CStr) : rstripIdxOrig s = .error .oob ↔ s = [] := by
  unfold rstripIdxOrig
  by_cases h : s.length = 0
  · have : s = [] := List.eq_nil_of_length_eq_zero h
    subst this; simp
  · have : s ≠ [] := fun e => h (by simp [e])
    simp [h, this]

theorem strstr_none : ∀ (hay sub : CStr), strstr hay sub = none → ∀ j, ¬ sub <+: hay.drop j
  | [], sub, h, j => by
    unfold strstr at h
    by_cases hs : sub = []
    · simp [hs] at h
    · simpa [List.prefix_nil] using hs
  | a :: hay, sub, h, j => by
    unfold strstr at h
    by_cases hp : sub.isPrefixOf (a :: hay) = true
    · simp [hp] at h
    · simp only [hp, if_false, Option.map_eq_none_iff, Bool.false_eq_true] at h
      cases j with
      | zero => simpa [List.isPrefixOf_iff_prefix] using hp
      | succ j => simpa using strstr_none hay sub h j

theorem strstr_some : ∀ (hay sub : CStr) (off : Nat), strstr hay sub = some off →
    sub <+: hay.drop off ∧ ∀ j, j < off → ¬ sub <+: hay.drop j
  | [], sub, off, h => by
    unfold strstr at h
    by_cases hs : sub = []
    · simp [hs] at h; subst h; simp [hs]
    · simp [hs] at h
  | a :: hay, sub, off, h => by
    unfold strstr at h
    by_cases hp : sub.isPrefixOf (a :: hay) = true
    · simp [hp] at h; subst h
      exact ⟨by simpa [List.isPrefixOf_iff_prefix] using hp, by intro j hj; omega⟩
    · simp only [hp, if_false, Bool.false_eq_true] at h
      cases hr : strstr hay sub with
      | none => simp [hr] at h
      | some o =>
        simp [hr] at h; subst h
        obtain ⟨h1, h3⟩ := strstr_some hay sub o hr
        refine ⟨by simpa using h1, ?_⟩
        intro j hj
        cases j with
        | zero => simpa [List.isPrefixOf_iff_prefix] using hp
        | succ j => simpa using h3 j (by omega)

theorem strstr_of_prefix {l sub : CStr} (h : sub.isPrefixOf l = true) : strstr l sub = some 0 := by
  cases l with
  | nil => simp [strstr, show sub = [] by simpa [List.isPrefixOf_iff_prefix] using h]
  | cons a t => simp [strstr, h]

theorem strstr_drop {s sub : CStr} {q : Nat} (hq : q < s.length) (h : ¬ sub.isPrefixOf (s.drop q) = true) :
    strstr (s.drop q) sub = (strstr (s.drop (q + 1)) sub).map (· + 1) := by
  rw [List.drop_eq_getElem_cons hq] at h ⊢
  rw [strstr, if_neg h]

theorem findFrom_eq (s sub : CStr) (e : Nat) (he : e ≤ s.length) : ∀ (fuel q : Nat), e + 1 - q ≤ fuel →
    findFrom s sub e fuel q =
      (match strstr (s.drop q) sub with
       | none => -1
       | some off => if q + off + sub.length > e then -1 else ((q + off : Nat) : Int)) := by
  have hfar : ∀ q, q + sub.length > e →
      (match strstr (s.drop q) sub with
       | none => -1
       | some off => if q + off + sub.length > e then -1 else ((q + off : Nat) : Int)) = -1 := by
    intro q hq
    cases strstr (s.drop q) sub with
    | none => rfl
    | some off => simp; omega
  intro fuel
  induction fuel with
  | zero => intro q hq; rw [hfar q (by omega)]; rfl
  | succ f ih =>
    intro q hq
    unfold findFrom
    by_cases h1 : q + sub.length > e
    · rw [if_pos h1, hfar q h1]
    · rw [if_neg h1]
      by_cases hp : sub.isPrefixOf (s.drop q) = true
      · rw [if_pos hp, strstr_of_prefix hp]; simp [h1]
      · -- at the end of `s` the window leaves room only for the empty `sub`, a prefix of anything
        have hq' : q < s.length := by
          apply Classical.byContradiction
          intro hge
          exact hp (by simp [List.eq_nil_of_length_eq_zero (l := sub) (by omega)])
        rw [if_neg hp, ih (q + 1) (by omega), strstr_drop hq' hp]
        cases strstr (s.drop (q + 1)) sub with
        | none => rfl
        | some off => simp [show q + 1 + off = q + (off + 1) by omega]

theorem window_bounds {len : Nat} {start end_ : Int} {st e : Nat}
    (h : window len start end_ = some (st, e)) : st < e ∧ e ≤ len := by
  unfold window at h
  by_cases h1 : start < 0 ∨ end_ < 0
  · simp [h1] at h
  · by_cases h2 : start ≥ (len : Int)
    · simp [h1, h2] at h
    · by_cases h4 : end_ = 0
      · subst h4
        simp [h2] at h
        omega
      · by_cases h5 : end_ > (len : Int)
        · simp [h1, h2, h4, h5] at h
          omega
        · simp [h1, h2, h4, h5] at h
          omega

theorem strFind_eq_ref (s sub : CStr) (start end_ : Int) : strFind s sub start end_ = refFind s sub start end_ := by
  unfold strFind refFind
  cases hw : window s.length start end_ with
  | none => rfl
  | some p =>
    obtain ⟨st, e⟩ := p
    obtain ⟨_, he⟩ := window_bounds hw
    simp only
    rw [findFrom_eq s sub e he (e + 1 - st) st (Nat.le_refl _)]
    cases strstr (s.drop st) sub <;> rfl

theorem countOcc_short {sub : CStr} (h : 0 < sub.length) {w : CStr} (hw : w.length < sub.length) :
    countOcc sub h w = 0 := by
  rw [countOcc]; simp [hw]

theorem countOcc_match {sub : CStr} (h : 0 < sub.length) {w : CStr} (hm : sub <+: w) :
    countOcc sub h w = 1 + countOcc sub h (w.drop sub.length) := by
  rw [countOcc]
  have hl : ¬ w.length < sub.length := by have := hm.length_le; omega
  have : sub.isPrefixOf w = true := List.isPrefixOf_iff_prefix.mpr hm
  simp [hl, this]

theorem countOcc_nomatch {sub : CStr} (h : 0 < sub.length) {w : CStr} (hm : ¬ sub <+: w) :
    countOcc sub h w = countOcc sub h (w.drop 1) := by
  by_cases hl : w.length < sub.length
  · rw [countOcc_short h hl, countOcc_short h (by simp; omega)]
  · rw [countOcc]
    have : sub.isPrefixOf w = false := by
      cases hh : sub.isPrefixOf w with
      | false => rfl
      | true => exact absurd (List.isPrefixOf_iff_prefix.mp hh) hm
    simp [hl, this]

theorem countOcc_skip {sub : CStr} (h : 0 < sub.length) : ∀ (off : Nat) (w : CStr),
    (∀ j, j < off → ¬ sub <+: w.drop j) → countOcc sub h w = countOcc sub h (w.drop off)
  | 0, w, _ => by simp
  | off + 1, w, hn => by
    have h0 : ¬ sub <+: w := by simpa using hn 0 (by omega)
    rw [countOcc_nomatch h h0, countOcc_skip h off (w.drop 1) (by
      intro j hj
      rw [List.drop_drop]
      have := hn (j + 1) (by omega)
      rwa [Nat.add_comm] at this)]
    rw [List.drop_drop, Nat.add_comm]

theorem countOcc_none {sub : CStr} (h : 0 < sub.length) (w : CStr)
    (hn : ∀ j, ¬ sub <+: w.drop j) : countOcc sub h w = 0 := by
  rw [countOcc_skip h w.length w (fun j _ => hn j)]
  exact countOcc_short h (by simp; omega)

theorem prefix_window {s sub : CStr} {e k : Nat} :
    sub <+: (s.take e).drop k ↔ sub <+: s.drop k ∧ sub.length ≤ e - k := by
  rw [List.drop_take, List.prefix_take_iff]

theorem countOcc_window_none {s sub : CStr} (hsub : 0 < sub.length) {e pos : Nat}
    (h : ∀ j, sub <+: s.drop (pos + j) → e < pos + j + sub.length) :
    countOcc sub hsub ((s.take e).drop pos) = 0 := by
  apply countOcc_none
  intro j hm
  rw [List.drop_drop, prefix_window] at hm
  have := h j hm.1
  omega

theorem countLoop_eq (s sub : CStr) (hsub : 0 < sub.length) (e : Nat) (pos cnt : Nat) :
    countLoop s sub hsub e pos cnt = cnt + countOcc sub hsub ((s.take e).drop pos) := by
  induction pos, cnt using countLoop.induct s sub hsub e with
  | case1 pos cnt hs =>
    -- no further occurrence
    rw [countLoop, hs, countOcc_window_none hsub fun j hm => ?_]
    · rfl
    · rw [← List.drop_drop] at hm
      exact absurd hm (strstr_none _ _ hs j)
  | case2 pos cnt off hs q h1 =>
    -- the next occurrence ends beyond `e`
    obtain ⟨_, hbefore⟩ := strstr_some _ _ _ hs
    rw [countLoop, hs]
    dsimp only
    rw [if_pos h1, countOcc_window_none hsub fun j hmj => ?_]
    · rfl
    · rw [← List.drop_drop] at hmj
      by_cases hj : j < off
      · exact absurd hmj (hbefore j hj)
      · simp only [q] at h1
        omega
  | case3 pos cnt off hs q h1 h2 =>
    -- it ends at `e`: counted, the last one
    obtain ⟨hm, hbefore⟩ := strstr_some _ _ _ hs
    simp only [q] at h1 h2
    rw [countLoop, hs]
    dsimp only
    rw [if_neg h1, if_pos h2, countOcc_skip hsub off _ fun j hj hmj => ?_, List.drop_drop,
      countOcc_match hsub (prefix_window.mpr ⟨by rwa [List.drop_drop] at hm, by omega⟩), List.drop_drop,
      countOcc_short hsub (by simp; omega)]
    rw [List.drop_drop, prefix_window] at hmj
    exact hbefore j hj (by rw [List.drop_drop]; exact hmj.1)
  | case4 pos cnt off hs q h1 h2 ih =>
    -- it ends before `e`: counted, the loop goes on behind it
    obtain ⟨hm, hbefore⟩ := strstr_some _ _ _ hs
    simp only [q] at h1 h2 ih
    rw [countLoop, hs]
    dsimp only
    rw [if_neg h1, if_neg h2, countOcc_skip hsub off _ fun j hj hmj => ?_, List.drop_drop,
      countOcc_match hsub (prefix_window.mpr ⟨by rwa [List.drop_drop] at hm, by omega⟩), List.drop_drop,
      ih]
    · omega
    · rw [List.drop_drop, prefix_window] at hmj
      exact hbefore j hj (by rw [List.drop_drop]; exact hmj.1)

theorem strCount_eq_ref (s sub : CStr) (start end_ : Int) :
    strCount s sub start end_ = refCount s sub start end_ := by
  unfold strCount refCount
  by_cases h : sub.length = 0
  · simp [h]
  · simp only [h, dite_false]
    cases hw : window s.length start end_ with
    | none => rfl
    | some p =>
      obtain ⟨st, e⟩ := p
      simp only
      rw [countLoop_eq s sub (by omega) e st 0]
      simp

theorem strCountOrig_hang_iff (s sub : CStr) (start end_ : Int) :
    strCountOrig s sub start end_ = .error .hang ↔
      (sub = [] ∧ (window s.length start end_).isSome) := by
  unfold strCountOrig
  by_cases h : sub.length = 0
  · have hs : sub = [] := List.eq_nil_of_length_eq_zero h
    cases hw : window s.length start end_ <;> simp [hs]
  · have hs : sub ≠ [] := fun e => h (by simp [e])
    simp only [h, dite_false]
    cases hw : window s.length start end_ <;> simp [hs]

end MgProof.C20
