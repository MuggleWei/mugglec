import MgProof.C12.LemmasAes
/-!
# C12 — AES in a form the kernel evaluates quickly

The two recursive functions that call `sub` are repeated over an arbitrary S-box, so that
`encryptBlock` / `keyExpansion` can be evaluated at `fastSub` (`Kat.lean`: a test vector does about
two hundred S-box look-ups).
-/
namespace MgProof.C12
open MgModel.C12 MgModel.C12.Aes

/-- `encRounds` and `expandAux` with the S-box as a parameter (suffix `W`) -/
def encRoundsW (S : Byte → Byte) : List Bytes → Bytes → Bytes
  | [], s => s
  | [k], s => addRoundKey k (shiftRows (s.map S))
  | k :: ks, s => encRoundsW S ks (addRoundKey k (mixColumns (shiftRows (s.map S))))

def expandAuxW (S : Byte → Byte) (nk : Nat) : Nat → List Bytes → List Bytes
  | 0, ws => ws
  | fuel + 1, ws =>
    let i := ws.length
    let prev := ws.getD (i - 1) []
    let temp :=
      if i % nk = 0 then xorBytes ((rotWord prev).map S) (rcon (i / nk))
      else if nk > 6 ∧ i % nk = 4 then prev.map S
      else prev
    expandAuxW S nk fuel (ws ++ [xorBytes (ws.getD (i - nk) []) temp])

theorem encRoundsW_sub : ∀ (ks : List Bytes) (s : Bytes), encRoundsW sub ks s = encRounds ks s
  | [], _ => rfl
  | [_], _ => rfl
  | _ :: k' :: ks, _ => encRoundsW_sub (k' :: ks) _

theorem expandAuxW_sub (nk : Nat) : ∀ (fuel : Nat) (ws : List Bytes),
    expandAuxW sub nk fuel ws = expandAux nk fuel ws
  | 0, _ => rfl
  | fuel + 1, _ => expandAuxW_sub nk fuel _

def keyExpansionW (S : Byte → Byte) (key : Bytes) : List Bytes :=
  let nk := key.length / 4
  chunks 16 (expandAuxW S nk (4 * (rounds nk + 1) - nk) (chunks 4 key)).flatten

def encryptBlockW (S : Byte → Byte) (key b : Bytes) : Bytes :=
  match keyExpansionW S key with
  | [] => b
  | k0 :: ks => encRoundsW S ks (addRoundKey k0 b)

theorem keyExpansion_eq_fast (key : Bytes) : keyExpansion key = keyExpansionW fastSub key := by
  rw [← sub_eq_fastSub, keyExpansion, keyExpansionW, expandAuxW_sub]

theorem encryptBlock_eq_fast (key b : Bytes) : encryptBlock key b = encryptBlockW fastSub key b := by
  rw [encryptBlock, encryptBlockW, ← keyExpansion_eq_fast, ← sub_eq_fastSub]
  cases keyExpansion key with
  | nil => rfl
  | cons k0 ks => simp only [cipher, encRoundsW_sub]

end MgProof.C12

