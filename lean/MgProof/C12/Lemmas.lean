import MgModel.C12.Modes
/-!
# C12 — lemmas about the mode loops (parametric in the block function)
-/
namespace MgProof.C12
open MgModel.C12

/-! ## xorBytes -/

theorem xorBytes_length (a b : Bytes) : (xorBytes a b).length = min a.length b.length := by
  simp [xorBytes]

theorem zipWith_cancel {α} {f : α → α → α} (hf : ∀ x y, f (f x y) y = x) : ∀ (a b : List α),
    a.length ≤ b.length → List.zipWith f (List.zipWith f a b) b = a
  | [], _, _ => by simp
  | _ :: _, [], h => by simp at h
  | x :: a, y :: b, h => by simp [hf, zipWith_cancel hf a b (by simpa using h)]

theorem xorBytes_cancel (a b : Bytes) (h : a.length ≤ b.length) : xorBytes (xorBytes a b) b = a :=
  zipWith_cancel (fun x y => by rw [BitVec.xor_assoc]; simp) a b h

theorem xorBytes_comm (a b : Bytes) : xorBytes a b = xorBytes b a := by
  induction a generalizing b with
  | nil => cases b <;> simp [xorBytes]
  | cons x xs ih =>
    cases b with
    | nil => simp [xorBytes]
    | cons y ys =>
      have := ih ys
      simp [xorBytes] at this ⊢
      exact ⟨BitVec.xor_comm _ _, this⟩

theorem xorBytes_cancel_left (a b : Bytes) (h : b.length ≤ a.length) :
    xorBytes a (xorBytes a b) = b := by
  rw [xorBytes_comm a b, xorBytes_comm a, xorBytes_cancel b a h]

theorem xorBytes_append (a₁ a₂ b₁ b₂ : Bytes) (h : a₁.length = b₁.length) :
    xorBytes (a₁ ++ a₂) (b₁ ++ b₂) = xorBytes a₁ b₁ ++ xorBytes a₂ b₂ := by
  simp [xorBytes, List.zipWith_append h]

/-! ## chunks -/

theorem chunksAux_cons (n : Nat) (hn : 0 < n) (a rest : Bytes) (ha : a.length = n) :
    ∀ fuel, chunksAux n (fuel + 1) (a ++ rest) = a :: chunksAux n fuel rest := by
  intro fuel
  cases h : a ++ rest with
  | nil => simp [(List.append_eq_nil_iff.mp h).1] at ha; omega
  | cons x xs =>
    simp only [chunksAux]
    rw [← h, List.take_left' ha, List.drop_left' ha]

theorem chunksAux_fuel_irrel (n : Nat) (hn : 0 < n) : ∀ (f1 f2 : Nat) (l : Bytes), l.length ≤ f1 →
    l.length ≤ f2 → chunksAux n f1 l = chunksAux n f2 l := by
  intro f1
  induction f1 with
  | zero =>
    intro f2 l h _
    have : l = [] := by simpa using h
    subst this
    cases f2 <;> rfl
  | succ f ih =>
    intro f2 l h1 h2
    cases l with
    | nil => cases f2 <;> rfl
    | cons x xs =>
      cases f2 with
      | zero => simp at h2
      | succ g =>
        have hd : ((x :: xs).drop n).length ≤ xs.length := by simp; omega
        simp only [chunksAux]
        rw [ih g ((x :: xs).drop n) (by simp at h1 hd ⊢; omega) (by simp at h2 hd ⊢; omega)]

theorem chunks_nil (n : Nat) : chunks n [] = [] := rfl

theorem chunksAux_nil (n k : Nat) : chunksAux n k [] = [] := by cases k <;> rfl

/-- what the fuel hides: the first `n` bytes, then the rest, which is shorter, so that the fuel left is enough -/
theorem chunks_eq (n : Nat) (hn : 0 < n) (l : Bytes) (h0 : l ≠ []) :
    chunks n l = l.take n :: chunks n (l.drop n) := by
  cases l with
  | nil => exact absurd rfl h0
  | cons x xs =>
    simp only [chunks, List.length_cons, chunksAux]
    rw [chunksAux_fuel_irrel n hn xs.length _ _ (by simp; omega) (Nat.le_refl _)]

theorem chunks_cons (n : Nat) (hn : 0 < n) (a rest : Bytes) (ha : a.length = n) :
    chunks n (a ++ rest) = a :: chunks n rest := by
  have h0 : a ++ rest ≠ [] := fun h => by simp [(List.append_eq_nil_iff.mp h).1] at ha; omega
  rw [chunks_eq n hn _ h0, List.take_left' ha, List.drop_left' ha]

theorem chunks_short (n : Nat) (l : Bytes) (h0 : l ≠ []) (h : l.length ≤ n) : chunks n l = [l] := by
  have hn : 0 < n := Nat.lt_of_lt_of_le (List.length_pos_iff.mpr h0) h
  rw [chunks_eq n hn l h0, List.take_of_length_le h, List.drop_of_length_le h, chunks_nil]

theorem stream_induction (n : Nat) (hn : 0 < n) (P : Bytes → Prop)
    (hbase : ∀ l : Bytes, l.length ≤ n → P l)
    (hstep : ∀ a rest, a.length = n → P rest → P (a ++ rest)) : ∀ l, P l := by
  have key : ∀ k : Nat, ∀ l : Bytes, l.length = k → P l := by
    intro k
    induction k using Nat.strongRecOn with
    | ind k ih =>
      intro l hk
      by_cases hle : l.length ≤ n
      · exact hbase l hle
      · have h := List.take_append_drop n l
        rw [← h]
        exact hstep _ _ (by simp; omega) (ih (l.drop n).length (by simp; omega) _ rfl)
  intro l; exact key l.length l rfl

theorem blocks_induction (n : Nat) (hn : 0 < n) (P : Bytes → Prop) (h0 : P [])
    (hstep : ∀ a rest, a.length = n → P rest → P (a ++ rest)) :
    ∀ l : Bytes, l.length % n = 0 → P l := by
  refine stream_induction n hn (fun l => l.length % n = 0 → P l) ?_ ?_
  · intro l hl hm
    by_cases h : l = []
    · subst h; exact h0
    · -- a non-empty multiple of `n` that is at most `n` is one block
      have hpos : 0 < l.length := List.length_pos_iff.mpr h
      have : l.length = n := by
        rcases Nat.lt_or_ge l.length n with hlt | hge
        · rw [Nat.mod_eq_of_lt hlt] at hm; omega
        · omega
      simpa using hstep l [] this h0
  · intro a rest ha ih hm
    rw [List.length_append, ha, Nat.add_mod_left] at hm
    exact hstep a rest ha (ih hm)

theorem chunks_flatten (n : Nat) (hn : 0 < n) (l : Bytes) (hl : l.length % n = 0) :
    (chunks n l).flatten = l := by
  refine blocks_induction n hn (fun l => (chunks n l).flatten = l) rfl ?_ l hl
  intro a rest ha ih
  simp [chunks_cons n hn a rest ha, ih]

theorem chunks_all_len (n : Nat) (hn : 0 < n) (l : Bytes) (hl : l.length % n = 0) :
    ∀ c ∈ chunks n l, c.length = n := by
  refine blocks_induction n hn (fun l => ∀ c ∈ chunks n l, c.length = n) (by simp [chunks_nil]) ?_ l hl
  intro a rest ha ih c hc
  rw [chunks_cons n hn a rest ha] at hc
  rcases List.mem_cons.mp hc with rfl | h
  · exact ha
  · exact ih c h

theorem chunks_append (n : Nat) (hn : 0 < n) (a b : Bytes) (ha : a.length % n = 0) :
    chunks n (a ++ b) = chunks n a ++ chunks n b := by
  refine blocks_induction n hn (fun a => chunks n (a ++ b) = chunks n a ++ chunks n b) (by simp [chunks_nil]) ?_ a ha
  intro x rest hx ih
  rw [List.append_assoc, chunks_cons n hn x _ hx, chunks_cons n hn x _ hx, ih]
  rfl

theorem length_append_mod {n : Nat} {a b : Bytes} (ha : a.length % n = 0) (hb : b.length % n = 0) :
    (a ++ b).length % n = 0 := by
  rw [List.length_append, Nat.add_mod, ha, hb]; simp

theorem chunks_of_flatten (n : Nat) (hn : 0 < n) : ∀ (bl : List Bytes), (∀ b ∈ bl, b.length = n) →
    chunks n bl.flatten = bl
  | [], _ => rfl
  | b :: bl, h => by
    rw [List.flatten_cons, chunks_cons n hn b _ (h b (by simp)),
      chunks_of_flatten n hn bl (fun c hc => h c (by simp [hc]))]

theorem flatten_length (n : Nat) : ∀ (bl : List Bytes), (∀ b ∈ bl, b.length = n) →
    bl.flatten.length = n * bl.length
  | [], _ => rfl
  | b :: bl, h => by
    rw [List.flatten_cons, List.length_append, h b (by simp),
      flatten_length n bl (fun c hc => h c (by simp [hc])), List.length_cons, Nat.mul_succ, Nat.add_comm]

theorem flatten_len_mod (n : Nat) (bl : List Bytes) (h : ∀ b ∈ bl, b.length = n) :
    bl.flatten.length % n = 0 := by
  rw [flatten_length n bl h, Nat.mul_mod_right]

/-! ## chained loops -/

/-- the shape the chained loops share: CBC over blocks; CFB, OFB, CTR over bytes -/
def run {α β σ : Type} (step : σ → α → σ × β) : σ → List α → List β × σ
  | s, [] => ([], s)
  | s, x :: xs => ((step s x).2 :: (run step (step s x).1 xs).1, (run step (step s x).1 xs).2)

section
variable {α β σ : Type} (step : σ → α → σ × β)

theorem run_append (xs ys : List α) : ∀ s,
    run step s (xs ++ ys) =
      ((run step s xs).1 ++ (run step (run step s xs).2 ys).1, (run step (run step s xs).2 ys).2) := by
  induction xs with
  | nil => intro s; rfl
  | cons x xs ih => intro s; simp [run, ih]

theorem run_length (xs : List α) : ∀ s, (run step s xs).1.length = xs.length := by
  induction xs with
  | nil => intro s; rfl
  | cons x xs ih => intro s; simp [run, ih]

theorem run_on {I : σ → Prop} {Q : α → Prop} {R : β → Prop}
    (h : ∀ s x, I s → Q x → I (step s x).1 ∧ R (step s x).2) : ∀ (xs : List α) s, I s → (∀ x ∈ xs, Q x) →
    I (run step s xs).2 ∧ ∀ y ∈ (run step s xs).1, R y := by
  intro xs
  induction xs with
  | nil => intro s hs _; exact ⟨hs, by simp [run]⟩
  | cons x xs ih =>
    intro s hs hx
    obtain ⟨h1, h2⟩ := h s x hs (hx x (by simp))
    obtain ⟨h3, h4⟩ := ih _ h1 (fun y hy => hx y (by simp [hy]))
    exact ⟨h3, by simpa [run, h2] using h4⟩

theorem run_invariant {I : σ → Prop} (h : ∀ s x, I s → I (step s x).1) (xs : List α) (s : σ) (hs : I s) :
    I (run step s xs).2 :=
  (run_on step (Q := fun _ => True) (R := fun _ => True) (fun s x hs _ => ⟨h s x hs, trivial⟩) xs s hs
    (fun _ _ => trivial)).1

theorem run_inverse_on {step' : σ → β → σ × α} {I : σ → Prop} {Q : α → Prop}
    (hI : ∀ s x, I s → Q x → I (step s x).1)
    (h : ∀ s x, I s → Q x → step' s (step s x).2 = ((step s x).1, x)) : ∀ (xs : List α) s, I s →
    (∀ x ∈ xs, Q x) → run step' s (run step s xs).1 = (xs, (run step s xs).2) := by
  intro xs
  induction xs with
  | nil => intro s _ _; rfl
  | cons x xs ih =>
    intro s hs hx
    have hq := hx x (by simp)
    simp [run, h s x hs hq, ih _ (hI s x hs hq) (fun y hy => hx y (by simp [hy]))]

theorem run_inverse {step' : σ → β → σ × α} (h : ∀ s x, step' s (step s x).2 = ((step s x).1, x))
    (xs : List α) (s : σ) : run step' s (run step s xs).1 = (xs, (run step s xs).2) :=
  run_inverse_on step (I := fun _ => True) (Q := fun _ => True) (fun _ _ _ _ => trivial)
    (fun s x _ _ => h s x) xs s trivial (fun _ _ => trivial)

end

/-! ## ECB and CBC -/

theorem ecbLoop_append (F : Bytes → Bytes) (bs : Nat) (hbs : 0 < bs) (a b : Bytes)
    (ha : a.length % bs = 0) : ecbLoop F bs (a ++ b) = ecbLoop F bs a ++ ecbLoop F bs b := by
  simp [ecbLoop, chunks_append bs hbs a b ha]

theorem ecbLoop_block (F : Bytes → Bytes) (bs : Nat) (hbs : 0 < bs) (a : Bytes) (ha : a.length = bs) :
    ecbLoop F bs a = F a := by
  have := chunks_cons bs hbs a [] ha
  simp [chunks_nil] at this
  simp [ecbLoop, this]

theorem ecbLoop_length (F : Bytes → Bytes) (bs : Nat) (hbs : 0 < bs)
    (hF : ∀ b, b.length = bs → (F b).length = bs) (l : Bytes) (hl : l.length % bs = 0) :
    (ecbLoop F bs l).length = l.length := by
  refine blocks_induction bs hbs (fun l => (ecbLoop F bs l).length = l.length) (by simp [ecbLoop, chunks_nil]) ?_ l hl
  intro a rest ha ih
  rw [ecbLoop_append F bs hbs a rest (by simp [ha]), ecbLoop_block F bs hbs a ha]
  simp [hF a ha, ha, ih]

theorem ecbLoop_roundtrip (E D : Bytes → Bytes) (bs : Nat) (hbs : 0 < bs)
    (hE : ∀ b, b.length = bs → (E b).length = bs)
    (hDE : ∀ b, b.length = bs → D (E b) = b) (l : Bytes) (hl : l.length % bs = 0) :
    ecbLoop D bs (ecbLoop E bs l) = l := by
  refine blocks_induction bs hbs (fun l => ecbLoop D bs (ecbLoop E bs l) = l) (by simp [ecbLoop, chunks_nil]) ?_ l hl
  intro a rest ha ih
  rw [ecbLoop_append E bs hbs a rest (by simp [ha]), ecbLoop_block E bs hbs a ha,
    ecbLoop_append D bs hbs _ _ (by simp [hE a ha]), ecbLoop_block D bs hbs _ (hE a ha), hDE a ha, ih]

/-- one CBC block, encrypting (`iv ^= in; out = F(iv); iv = out`) and decrypting
(`out = F(in) ^ iv; iv = in`): state and output -/
def cbcEncStep (F : Bytes → Bytes) (iv p : Bytes) : Bytes × Bytes := (F (xorBytes iv p), F (xorBytes iv p))
def cbcDecStep (F : Bytes → Bytes) (iv c : Bytes) : Bytes × Bytes := (c, xorBytes (F c) iv)

theorem cbcEncBlocks_eq_run (F : Bytes → Bytes) : ∀ (bl : List Bytes) (iv : Bytes),
    cbcEncBlocks F iv bl = ((run (cbcEncStep F) iv bl).1.flatten, (run (cbcEncStep F) iv bl).2)
  | [], _ => rfl
  | p :: ps, iv => by simp [cbcEncBlocks, run, cbcEncStep, cbcEncBlocks_eq_run F ps]

theorem cbcDecBlocks_eq_run (F : Bytes → Bytes) : ∀ (bl : List Bytes) (iv : Bytes),
    cbcDecBlocks F iv bl = ((run (cbcDecStep F) iv bl).1.flatten, (run (cbcDecStep F) iv bl).2)
  | [], _ => rfl
  | c :: cs, iv => by simp [cbcDecBlocks, run, cbcDecStep, cbcDecBlocks_eq_run F cs]

theorem specCbcEnc_eq_run (E : Bytes → Bytes) : ∀ (bl : List Bytes) (iv : Bytes),
    Spec.cbcEnc E iv bl = (run (cbcEncStep E) iv bl).1
  | [], _ => rfl
  | p :: ps, iv => by simp [Spec.cbcEnc, run, cbcEncStep, xorBytes_comm p iv, specCbcEnc_eq_run E ps]

theorem specCbcDec_eq_run (D : Bytes → Bytes) : ∀ (bl : List Bytes) (iv : Bytes),
    Spec.cbcDec D iv bl = (run (cbcDecStep D) iv bl).1
  | [], _ => rfl
  | c :: cs, iv => by simp [Spec.cbcDec, run, cbcDecStep, specCbcDec_eq_run D cs]

theorem cbcEncBlocks_append (F : Bytes → Bytes) (xs ys : List Bytes) (iv : Bytes) :
    cbcEncBlocks F iv (xs ++ ys) =
      ((cbcEncBlocks F iv xs).1 ++ (cbcEncBlocks F (cbcEncBlocks F iv xs).2 ys).1,
       (cbcEncBlocks F (cbcEncBlocks F iv xs).2 ys).2) := by
  simp only [cbcEncBlocks_eq_run, run_append, List.flatten_append]

theorem cbcDecBlocks_append (F : Bytes → Bytes) (xs ys : List Bytes) (iv : Bytes) :
    cbcDecBlocks F iv (xs ++ ys) =
      ((cbcDecBlocks F iv xs).1 ++ (cbcDecBlocks F (cbcDecBlocks F iv xs).2 ys).1,
       (cbcDecBlocks F (cbcDecBlocks F iv xs).2 ys).2) := by
  simp only [cbcDecBlocks_eq_run, run_append, List.flatten_append]

theorem cbcEnc_run_len (F : Bytes → Bytes) (bs : Nat) (hF : ∀ b, b.length = bs → (F b).length = bs)
    (bl : List Bytes) (iv : Bytes) (hiv : iv.length = bs) (hbl : ∀ x ∈ bl, x.length = bs) :
    (run (cbcEncStep F) iv bl).2.length = bs ∧ ∀ c ∈ (run (cbcEncStep F) iv bl).1, c.length = bs :=
  run_on _ (I := fun s : Bytes => s.length = bs) (Q := fun p : Bytes => p.length = bs)
    (R := fun c : Bytes => c.length = bs)
    (fun s x hs hx => by
      have := hF (xorBytes s x) (by simp [xorBytes_length, hs, hx])
      exact ⟨this, this⟩) bl iv hiv hbl

theorem cbcEncBlocks_iv_length (F : Bytes → Bytes) (bs : Nat)
    (hF : ∀ b, b.length = bs → (F b).length = bs) (bl : List Bytes) (iv : Bytes)
    (hiv : iv.length = bs) (hbl : ∀ x ∈ bl, x.length = bs) : (cbcEncBlocks F iv bl).2.length = bs := by
  rw [cbcEncBlocks_eq_run]; exact (cbcEnc_run_len F bs hF bl iv hiv hbl).1

theorem cbcDecBlocks_iv_length (F : Bytes → Bytes) (bs : Nat) (bl : List Bytes) (iv : Bytes)
    (hiv : iv.length = bs) (hbl : ∀ x ∈ bl, x.length = bs) : (cbcDecBlocks F iv bl).2.length = bs := by
  rw [cbcDecBlocks_eq_run]
  exact (run_on _ (I := fun s : Bytes => s.length = bs) (Q := fun c : Bytes => c.length = bs)
    (R := fun _ => True) (fun _ _ _ hx => ⟨hx, trivial⟩) bl iv hiv hbl).1

theorem cbcEnc_eq_spec (E : Bytes → Bytes) (blocks : List Bytes) (iv : Bytes) :
    (cbcEncBlocks E iv blocks).1 = (Spec.cbcEnc E iv blocks).flatten := by
  rw [cbcEncBlocks_eq_run, specCbcEnc_eq_run]

theorem cbcDec_eq_spec (D : Bytes → Bytes) (blocks : List Bytes) (iv : Bytes) :
    (cbcDecBlocks D iv blocks).1 = (Spec.cbcDec D iv blocks).flatten := by
  rw [cbcDecBlocks_eq_run, specCbcDec_eq_run]

/-- `D (E (iv ⊕ p)) ⊕ iv = p`, and both sides carry the ciphertext block on -/
theorem cbcStep_roundtrip (E D : Bytes → Bytes) (bs : Nat) (hE : ∀ b, b.length = bs → (E b).length = bs)
    (hDE : ∀ b, b.length = bs → D (E b) = b) (blocks : List Bytes) (iv : Bytes)
    (hiv : iv.length = bs) (h : ∀ b ∈ blocks, b.length = bs) :
    run (cbcDecStep D) iv (run (cbcEncStep E) iv blocks).1 = (blocks, (run (cbcEncStep E) iv blocks).2) := by
  have hx : ∀ s x : Bytes, s.length = bs → x.length = bs → (xorBytes s x).length = bs :=
    fun s x hs hx => by simp [xorBytes_length, hs, hx]
  refine run_inverse_on _ (I := fun s : Bytes => s.length = bs) (Q := fun p : Bytes => p.length = bs)
    (fun s x hs hq => hE _ (hx s x hs hq)) (fun s x hs hq => ?_) blocks iv hiv h
  simp only [cbcDecStep, cbcEncStep]
  rw [hDE _ (hx s x hs hq), xorBytes_comm s x, xorBytes_cancel x s (by omega)]

theorem specCbc_roundtrip (E D : Bytes → Bytes) (bs : Nat)
    (hE : ∀ b, b.length = bs → (E b).length = bs)
    (hDE : ∀ b, b.length = bs → D (E b) = b) (blocks : List Bytes) (iv : Bytes)
    (hiv : iv.length = bs) (h : ∀ b ∈ blocks, b.length = bs) :
    Spec.cbcDec D iv (Spec.cbcEnc E iv blocks) = blocks := by
  rw [specCbcDec_eq_run, specCbcEnc_eq_run, cbcStep_roundtrip E D bs hE hDE blocks iv hiv h]

theorem cbcBlocks_roundtrip (E D : Bytes → Bytes) (bs : Nat) (hbs : 0 < bs)
    (hE : ∀ b, b.length = bs → (E b).length = bs) (hDE : ∀ b, b.length = bs → D (E b) = b)
    (m iv : Bytes) (hiv : iv.length = bs) (hl : m.length % bs = 0) :
    (cbcEncBlocks E iv (chunks bs m)).1.length % bs = 0 ∧
    cbcDecBlocks D iv (chunks bs (cbcEncBlocks E iv (chunks bs m)).1) =
      (m, (cbcEncBlocks E iv (chunks bs m)).2) := by
  have hbl := chunks_all_len bs hbs m hl
  have hcl := (cbcEnc_run_len E bs hE _ iv hiv hbl).2
  rw [cbcEncBlocks_eq_run]
  refine ⟨flatten_len_mod bs _ hcl, ?_⟩
  rw [chunks_of_flatten bs hbs _ hcl, cbcDecBlocks_eq_run, cbcStep_roundtrip E D bs hE hDE _ iv hiv hbl,
    chunks_flatten bs hbs m hl]

theorem cbcEnc_final_iv (F : Bytes → Bytes) : ∀ (blocks : List Bytes) (iv : Bytes),
    (cbcEncBlocks F iv blocks).2 = (Spec.cbcEnc F iv blocks).getLastD iv
  | [], _ => rfl
  | p :: ps, iv => by
    simp only [cbcEncBlocks, Spec.cbcEnc, xorBytes_comm iv p]
    rw [cbcEnc_final_iv F ps]
    cases h : Spec.cbcEnc F (F (xorBytes p iv)) ps <;> simp [List.getLastD]

theorem cbcDec_final_iv (F : Bytes → Bytes) : ∀ (blocks : List Bytes) (iv : Bytes),
    (cbcDecBlocks F iv blocks).2 = blocks.getLastD iv
  | [], _ => rfl
  | c :: cs, iv => by
    simp only [cbcDecBlocks]
    rw [cbcDec_final_iv F cs]
    cases cs <;> simp [List.getLastD]

/-! ## CFB, OFB, CTR -/

theorem cfbLoop_eq_run (F : Bytes → Bytes) (bs : Nat) (enc : Bool) (xs : Bytes) : ∀ s,
    cfbLoop F bs enc s xs = run (cfbByte F bs enc) s xs := by
  induction xs with
  | nil => intro s; rfl
  | cons x xs ih => intro s; simp only [cfbLoop, run, ih]

theorem ofbLoop_eq_run (F : Bytes → Bytes) (bs : Nat) (xs : Bytes) : ∀ s,
    ofbLoop F bs s xs = run (ofbByte F bs) s xs := by
  induction xs with
  | nil => intro s; rfl
  | cons x xs ih => intro s; simp only [ofbLoop, run, ih]

theorem ctrLoop_eq_run (F : Bytes → Bytes) (bs : Nat) (xs : Bytes) : ∀ s,
    ctrLoop F bs s xs = run (ctrByte F bs) s xs := by
  induction xs with
  | nil => intro s; rfl
  | cons x xs ih => intro s; simp only [ctrLoop, run, ih]

theorem cfbLoop_append (F : Bytes → Bytes) (bs : Nat) (enc : Bool) (xs ys : Bytes) : ∀ s,
    cfbLoop F bs enc s (xs ++ ys) =
      ((cfbLoop F bs enc s xs).1 ++ (cfbLoop F bs enc (cfbLoop F bs enc s xs).2 ys).1,
       (cfbLoop F bs enc (cfbLoop F bs enc s xs).2 ys).2) := by
  simp only [cfbLoop_eq_run]; exact run_append _ xs ys

theorem ofbLoop_append (F : Bytes → Bytes) (bs : Nat) (xs ys : Bytes) : ∀ s,
    ofbLoop F bs s (xs ++ ys) =
      ((ofbLoop F bs s xs).1 ++ (ofbLoop F bs (ofbLoop F bs s xs).2 ys).1,
       (ofbLoop F bs (ofbLoop F bs s xs).2 ys).2) := by
  simp only [ofbLoop_eq_run]; exact run_append _ xs ys

theorem ctrLoop_append (F : Bytes → Bytes) (bs : Nat) (xs ys : Bytes) : ∀ s,
    ctrLoop F bs s (xs ++ ys) =
      ((ctrLoop F bs s xs).1 ++ (ctrLoop F bs (ctrLoop F bs s xs).2 ys).1,
       (ctrLoop F bs (ctrLoop F bs s xs).2 ys).2) := by
  simp only [ctrLoop_eq_run]; exact run_append _ xs ys

/-- in both directions the feedback byte is the ciphertext byte -/
theorem cfbLoop_roundtrip_of (F : Bytes → Bytes) (bs : Nat) (enc : Bool) (xs : Bytes) : ∀ s,
    cfbLoop F bs (!enc) s (cfbLoop F bs enc s xs).1 = (xs, (cfbLoop F bs enc s xs).2) := by
  simp only [cfbLoop_eq_run]
  exact run_inverse _ (fun s x => by cases enc <;> simp [cfbByte, BitVec.xor_assoc]) xs

theorem cfbLoop_roundtrip (F : Bytes → Bytes) (bs : Nat) (xs : Bytes) : ∀ s,
    cfbLoop F bs false s (cfbLoop F bs true s xs).1 = (xs, (cfbLoop F bs true s xs).2) :=
  cfbLoop_roundtrip_of F bs true xs

theorem cfbLoop_roundtrip' (F : Bytes → Bytes) (bs : Nat) (xs : Bytes) : ∀ s,
    cfbLoop F bs true s (cfbLoop F bs false s xs).1 = (xs, (cfbLoop F bs false s xs).2) :=
  cfbLoop_roundtrip_of F bs false xs

theorem ofbLoop_roundtrip (F : Bytes → Bytes) (bs : Nat) (xs : Bytes) : ∀ s,
    ofbLoop F bs s (ofbLoop F bs s xs).1 = (xs, (ofbLoop F bs s xs).2) := by
  simp only [ofbLoop_eq_run]
  exact run_inverse _ (fun s x => by simp [ofbByte, BitVec.xor_assoc]) xs

theorem ctrLoop_roundtrip (F : Bytes → Bytes) (bs : Nat) (xs : Bytes) : ∀ s,
    ctrLoop F bs s (ctrLoop F bs s xs).1 = (xs, (ctrLoop F bs s xs).2) := by
  simp only [ctrLoop_eq_run]
  exact run_inverse _ (fun s x => by simp [ctrByte, BitVec.xor_assoc]) xs

theorem cfbLoop_length (F : Bytes → Bytes) (bs : Nat) (enc : Bool) (xs : Bytes) : ∀ s,
    (cfbLoop F bs enc s xs).1.length = xs.length := by
  simp only [cfbLoop_eq_run]; exact run_length _ xs

theorem ofbLoop_length (F : Bytes → Bytes) (bs : Nat) (xs : Bytes) : ∀ s,
    (ofbLoop F bs s xs).1.length = xs.length := by
  simp only [ofbLoop_eq_run]; exact run_length _ xs

theorem ctrLoop_length (F : Bytes → Bytes) (bs : Nat) (xs : Bytes) : ∀ s,
    (ctrLoop F bs s xs).1.length = xs.length := by
  simp only [ctrLoop_eq_run]; exact run_length _ xs

end MgProof.C12
