import MgModel.C12.Aes
import MgProof.C12.Lemmas
import MgProof.C12.LemmasTable
/-!
# C12 — AES (FIPS-197): `InvCipher ∘ Cipher = id` for every key schedule

Ingredients: the two S-box tables are inverse (evaluated on the 256 bytes), ShiftRows on 16
positions, `InvMixColumns ∘ MixColumns = id` (GF(2)-linearity of `gmul`, so four identities on the eight bits,
evaluated), `AddRoundKey` is an involution, and an induction over the list of round keys.
-/
namespace MgProof.C12
open MgModel.C12 MgModel.C12.Aes

theorem sub_eq (b : Byte) : sub b = BitVec.ofNat 8 (Tables.aesSbox.getD b.toNat 0) := by
  simp [sub, sboxArr]
theorem invSub_eq (b : Byte) : invSub b = BitVec.ofNat 8 (Tables.aesInvSbox.getD b.toNat 0) := by
  simp [invSub, invSboxArr]

/-- the S-box by one shift of the packed table; `sub` walks the table, which is what kernel
evaluation pays for -/
def fastSub (b : Byte) : Byte := BitVec.ofNat 8 (pack Tables.aesSbox >>> (8 * b.toNat))

theorem sbox_entries_lt :
    (∀ v ∈ Tables.aesSbox, v < 256) ∧ (∀ v ∈ Tables.aesInvSbox, v < 256) := by decide +kernel

theorem sub_eq_fastSub : sub = fastSub := by
  funext b; rw [sub_eq, fastSub, ofNat_getD_eq_pack _ sbox_entries_lt.1]

def fastInvSub (b : Byte) : Byte := BitVec.ofNat 8 (pack Tables.aesInvSbox >>> (8 * b.toNat))

theorem invSub_eq_fastInvSub : invSub = fastInvSub := by
  funext b; rw [invSub_eq, fastInvSub, ofNat_getD_eq_pack _ sbox_entries_lt.2]

theorem fastSub_inverse (b : Byte) : fastInvSub (fastSub b) = b ∧ fastSub (fastInvSub b) = b := by
  revert b; exact forall_byte (by decide +kernel)

theorem invSub_sub (b : Byte) : invSub (sub b) = b := by
  rw [sub_eq_fastSub, invSub_eq_fastInvSub]; exact (fastSub_inverse b).1

theorem sub_invSub (b : Byte) : sub (invSub b) = b := by
  rw [sub_eq_fastSub, invSub_eq_fastInvSub]; exact (fastSub_inverse b).2

theorem invSubBytes_subBytes (s : Bytes) : invSubBytes (subBytes s) = s := by
  simp [invSubBytes, subBytes, Function.comp_def, invSub_sub]

theorem xtime_xor (a b : Byte) : xtime (a ^^^ b) = xtime a ^^^ xtime b := by
  unfold xtime
  rw [BitVec.msb_xor, BitVec.shiftLeft_xor_distrib]
  cases a.msb <;> cases b.msb <;> simp
  · ac_rfl
  · ac_rfl
  · rw [show ∀ p q k : Byte, p ^^^ k ^^^ (q ^^^ k) = p ^^^ q ^^^ (k ^^^ k) from by intros; ac_rfl]
    simp

theorem gmulAux_xor (fuel a : Nat) : ∀ x y : Byte,
    gmulAux fuel a (x ^^^ y) = gmulAux fuel a x ^^^ gmulAux fuel a y := by
  induction fuel generalizing a with
  | zero => intro x y; simp [gmulAux]
  | succ f ih =>
    intro x y
    simp only [gmulAux, xtime_xor, ih]
    split
    · ac_rfl
    · simp

theorem gmul_xor (a : Nat) (x y : Byte) : gmul a (x ^^^ y) = gmul a x ^^^ gmul a y :=
  gmulAux_xor 8 a x y

/-- a byte is the sum of its bits -/
theorem byte_bits (x : Byte) : x =
    (List.range 8).foldl (fun acc i => if x.getLsbD i then acc ^^^ 1#8 <<< i else acc) 0 := by
  revert x; exact forall_byte (by decide +kernel)

theorem linear_ext {L M : Byte → Byte} (hL : ∀ x y, L (x ^^^ y) = L x ^^^ L y)
    (hM : ∀ x y, M (x ^^^ y) = M x ^^^ M y)
    (h : ∀ i, i < 8 → L (1#8 <<< i) = M (1#8 <<< i)) (x : Byte) : L x = M x := by
  have h0 : ∀ {N : Byte → Byte}, (∀ x y, N (x ^^^ y) = N x ^^^ N y) → N 0 = 0 := fun hN => by
    have := hN 0 0; simpa using this
  -- every partial sum of bits is mapped alike
  have key : ∀ (l : List Nat) (acc : Byte), (∀ i ∈ l, i < 8) → L acc = M acc →
      L (l.foldl (fun acc i => if x.getLsbD i then acc ^^^ 1#8 <<< i else acc) acc) =
      M (l.foldl (fun acc i => if x.getLsbD i then acc ^^^ 1#8 <<< i else acc) acc) := by
    intro l
    induction l with
    | nil => intro acc _ h; exact h
    | cons i l ih =>
      intro acc hl hacc
      rw [List.foldl_cons]
      refine ih _ (fun j hj => hl j (by simp [hj])) ?_
      split
      · rw [hL, hM, hacc, h i (hl i (by simp))]
      · exact hacc
  rw [byte_bits x]
  exact key _ 0 (fun i hi => List.mem_range.mp hi) (by rw [h0 hL, h0 hM])

theorem linear_ext_zero {L : Byte → Byte} (hL : ∀ x y, L (x ^^^ y) = L x ^^^ L y)
    (h : ∀ i, i < 8 → L (1#8 <<< i) = 0) (x : Byte) : L x = 0 :=
  linear_ext (M := fun _ => 0) hL (fun _ _ => by simp) h x

theorem mixid_basis : ∀ i, i < 8 →
    gmul 14 (gmul 2 (1#8 <<< i)) ^^^ gmul 11 (1#8 <<< i) ^^^ gmul 13 (1#8 <<< i) ^^^ gmul 9 (gmul 3 (1#8 <<< i)) = 1#8 <<< i ∧
    gmul 14 (gmul 3 (1#8 <<< i)) ^^^ gmul 11 (gmul 2 (1#8 <<< i)) ^^^ gmul 13 (1#8 <<< i) ^^^ gmul 9 (1#8 <<< i) = 0 ∧
    gmul 14 (1#8 <<< i) ^^^ gmul 11 (gmul 3 (1#8 <<< i)) ^^^ gmul 13 (gmul 2 (1#8 <<< i)) ^^^ gmul 9 (1#8 <<< i) = 0 ∧
    gmul 14 (1#8 <<< i) ^^^ gmul 11 (1#8 <<< i) ^^^ gmul 13 (gmul 3 (1#8 <<< i)) ^^^ gmul 9 (gmul 2 (1#8 <<< i)) = 0 := by
  decide +kernel

/-- the first row of `M⁻¹ · M` (FIPS-197 §5.3.3), entry by entry: the products `{0e·02, 0b, 0d, 09·03}`
sum to the identity, the three others to zero. Each entry is linear in `x`: the eight bits suffice. -/
theorem mixid (x : Byte) :
    gmul 14 (gmul 2 x) ^^^ gmul 11 x ^^^ gmul 13 x ^^^ gmul 9 (gmul 3 x) = x ∧
    gmul 14 (gmul 3 x) ^^^ gmul 11 (gmul 2 x) ^^^ gmul 13 x ^^^ gmul 9 x = 0 ∧
    gmul 14 x ^^^ gmul 11 (gmul 3 x) ^^^ gmul 13 (gmul 2 x) ^^^ gmul 9 x = 0 ∧
    gmul 14 x ^^^ gmul 11 x ^^^ gmul 13 (gmul 3 x) ^^^ gmul 9 (gmul 2 x) = 0 := by
  -- a xor of `gmul`s of `x` is additive in `x`
  refine ⟨?_, ?_, ?_, ?_⟩
  · revert x; refine linear_ext ?_ (fun _ _ => rfl) fun i hi => (mixid_basis i hi).1
    intro a b; simp only [gmul_xor]; ac_rfl
  · revert x; refine linear_ext_zero ?_ fun i hi => (mixid_basis i hi).2.1
    intro a b; simp only [gmul_xor]; ac_rfl
  · revert x; refine linear_ext_zero ?_ fun i hi => (mixid_basis i hi).2.2.1
    intro a b; simp only [gmul_xor]; ac_rfl
  · revert x; refine linear_ext_zero ?_ fun i hi => (mixid_basis i hi).2.2.2
    intro a b; simp only [gmul_xor]; ac_rfl

theorem invMix_row (a0 a1 a2 a3 : Byte) :
    gmul 14 (gmul 2 a0 ^^^ gmul 3 a1 ^^^ a2 ^^^ a3) ^^^ gmul 11 (a0 ^^^ gmul 2 a1 ^^^ gmul 3 a2 ^^^ a3) ^^^
      gmul 13 (a0 ^^^ a1 ^^^ gmul 2 a2 ^^^ gmul 3 a3) ^^^ gmul 9 (gmul 3 a0 ^^^ a1 ^^^ a2 ^^^ gmul 2 a3) = a0 := by
  simp only [gmul_xor]
  calc _ = (gmul 14 (gmul 2 a0) ^^^ gmul 11 a0 ^^^ gmul 13 a0 ^^^ gmul 9 (gmul 3 a0)) ^^^
           (gmul 14 (gmul 3 a1) ^^^ gmul 11 (gmul 2 a1) ^^^ gmul 13 a1 ^^^ gmul 9 a1) ^^^
           (gmul 14 a2 ^^^ gmul 11 (gmul 3 a2) ^^^ gmul 13 (gmul 2 a2) ^^^ gmul 9 a2) ^^^
           (gmul 14 a3 ^^^ gmul 11 a3 ^^^ gmul 13 (gmul 3 a3) ^^^ gmul 9 (gmul 2 a3)) := by ac_rfl
    _ = a0 := by rw [(mixid a0).1, (mixid a1).2.1, (mixid a2).2.2.1, (mixid a3).2.2.2]; simp

/-- `InvMixColumns ∘ MixColumns = id` on one column, for all 2^32 columns: both matrices are
circulant, so row `r` of the product on `(a0, a1, a2, a3)` is row 0 on the column rotated by `r` -/
theorem invMixCol_mixCol (a0 a1 a2 a3 : Byte) :
    invMixCol (gmul 2 a0 ^^^ gmul 3 a1 ^^^ a2 ^^^ a3)
      (a0 ^^^ gmul 2 a1 ^^^ gmul 3 a2 ^^^ a3)
      (a0 ^^^ a1 ^^^ gmul 2 a2 ^^^ gmul 3 a3)
      (gmul 3 a0 ^^^ a1 ^^^ a2 ^^^ gmul 2 a3) = [a0, a1, a2, a3] := by
  unfold invMixCol
  congr 1
  · exact invMix_row a0 a1 a2 a3
  congr 1
  · exact Eq.trans (by ac_rfl) (invMix_row a1 a2 a3 a0)
  congr 1
  · exact Eq.trans (by ac_rfl) (invMix_row a2 a3 a0 a1)
  congr 1
  exact Eq.trans (by ac_rfl) (invMix_row a3 a0 a1 a2)

theorem list16 {α} (s : List α) (h : s.length = 16) :
    ∃ a0 a1 a2 a3 a4 a5 a6 a7 a8 a9 a10 a11 a12 a13 a14 a15,
      s = [a0, a1, a2, a3, a4, a5, a6, a7, a8, a9, a10, a11, a12, a13, a14, a15] := by
  match s, h with
  | [a0, a1, a2, a3, a4, a5, a6, a7, a8, a9, a10, a11, a12, a13, a14, a15], _ =>
    exact ⟨a0, a1, a2, a3, a4, a5, a6, a7, a8, a9, a10, a11, a12, a13, a14, a15, rfl⟩

theorem invMixColumns_mixColumns (s : Bytes) (h : s.length = 16) :
    invMixColumns (mixColumns s) = s := by
  obtain ⟨a0, a1, a2, a3, a4, a5, a6, a7, a8, a9, a10, a11, a12, a13, a14, a15, rfl⟩ := list16 s h
  simp only [mixColumns, mixCol, List.cons_append, List.nil_append, invMixColumns, invMixCol_mixCol]

theorem mixColumns_length (s : Bytes) (h : s.length = 16) : (mixColumns s).length = 16 := by
  obtain ⟨a0, a1, a2, a3, a4, a5, a6, a7, a8, a9, a10, a11, a12, a13, a14, a15, rfl⟩ := list16 s h
  simp [mixColumns, mixCol]

theorem invShiftRows_shiftRows (s : Bytes) (h : s.length = 16) : invShiftRows (shiftRows s) = s := by
  obtain ⟨a0, a1, a2, a3, a4, a5, a6, a7, a8, a9, a10, a11, a12, a13, a14, a15, rfl⟩ := list16 s h
  rfl

theorem shiftRows_length (s : Bytes) : (shiftRows s).length = 16 := by
  simp [shiftRows, shiftIdx]

theorem subBytes_length (s : Bytes) : (subBytes s).length = s.length := by simp [subBytes]

theorem invMixColumns_length (s : Bytes) (h : s.length = 16) : (invMixColumns s).length = 16 := by
  obtain ⟨a0, a1, a2, a3, a4, a5, a6, a7, a8, a9, a10, a11, a12, a13, a14, a15, rfl⟩ := list16 s h
  simp [invMixColumns, invMixCol]

theorem invShiftRows_length (s : Bytes) : (invShiftRows s).length = 16 := by
  simp [invShiftRows, invShiftIdx]

theorem invSubBytes_length (s : Bytes) : (invSubBytes s).length = s.length := by simp [invSubBytes]

theorem addRoundKey_length (k s : Bytes) (hk : k.length = 16) (hs : s.length = 16) :
    (addRoundKey k s).length = 16 := by simp [addRoundKey, xorBytes_length, hk, hs]

theorem addRoundKey_cancel (k s : Bytes) (hk : k.length = 16) (hs : s.length = 16) :
    addRoundKey k (addRoundKey k s) = s := by
  simp only [addRoundKey]; exact xorBytes_cancel s k (by omega)

def fullRound (k s : Bytes) : Bytes := addRoundKey k (mixColumns (shiftRows (subBytes s)))
def invFullRound (k t : Bytes) : Bytes := invMixColumns (addRoundKey k (invSubBytes (invShiftRows t)))

/-- rounds 1..Nr-1 of `Cipher`; `dmid` is the loop of `InvCipher`. FIPS-197 Fig. 12 groups the steps
of `InvCipher` half a round out of phase: a step of `dmid` undoes `AddRoundKey ∘ MixColumns` of one
round and `ShiftRows ∘ SubBytes` of the round before (the shape of `fullRound_undo`, `mid_undo`). -/
abbrev mid (ks : List Bytes) (s : Bytes) : Bytes := ks.foldl (fun s k => fullRound k s) s

abbrev dmid (ks : List Bytes) (t : Bytes) : Bytes := ks.foldl (fun t k => invFullRound k t) t

theorem encRounds_cons (k : Bytes) (ks : List Bytes) (hks : ks ≠ []) (s : Bytes) :
    encRounds (k :: ks) s = encRounds ks (fullRound k s) := by
  cases ks with
  | nil => exact absurd rfl hks
  | cons k' ks' => rfl

theorem decRounds_cons (k : Bytes) (ks : List Bytes) (hks : ks ≠ []) (s : Bytes) :
    decRounds (k :: ks) s = decRounds ks (invFullRound k s) := by
  cases ks with
  | nil => exact absurd rfl hks
  | cons k' ks' => rfl

theorem encRounds_snoc (ks : List Bytes) (kN : Bytes) : ∀ s,
    encRounds (ks ++ [kN]) s = addRoundKey kN (shiftRows (subBytes (mid ks s))) := by
  induction ks with
  | nil => intro s; rfl
  | cons k ks ih =>
    intro s
    rw [List.cons_append, encRounds_cons k _ (by simp), ih]; rfl

theorem decRounds_snoc (ks : List Bytes) (k0 : Bytes) : ∀ t,
    decRounds (ks ++ [k0]) t = addRoundKey k0 (invSubBytes (invShiftRows (dmid ks t))) := by
  induction ks with
  | nil => intro t; rfl
  | cons k ks ih =>
    intro t
    rw [List.cons_append, decRounds_cons k _ (by simp), ih]; rfl

theorem fullRound_length (k s : Bytes) (hk : k.length = 16) : (fullRound k s).length = 16 :=
  addRoundKey_length k _ hk (mixColumns_length _ (shiftRows_length _))

theorem fullRound_undo (k s : Bytes) (hk : k.length = 16) (hs : s.length = 16) :
    invSubBytes (invShiftRows (invMixColumns (addRoundKey k (fullRound k s)))) = s := by
  unfold fullRound
  rw [addRoundKey_cancel k _ hk (mixColumns_length _ (shiftRows_length _)),
    invMixColumns_mixColumns _ (shiftRows_length _),
    invShiftRows_shiftRows _ (by rw [subBytes_length]; exact hs), invSubBytes_subBytes]

theorem mid_undo : ∀ (ks : List Bytes) (s : Bytes), (∀ k ∈ ks, k.length = 16) → s.length = 16 →
    invSubBytes (invShiftRows (dmid ks.reverse (shiftRows (subBytes (mid ks s))))) = s := by
  intro ks
  induction ks with
  | nil =>
    intro s _ hs
    simp only [List.foldl_nil, List.reverse_nil]
    rw [invShiftRows_shiftRows _ (by rw [subBytes_length]; exact hs), invSubBytes_subBytes]
  | cons k ks ih =>
    intro s hks hs
    have hk : k.length = 16 := hks k (by simp)
    simp only [List.foldl_cons, List.reverse_cons, List.foldl_append, List.foldl_nil]
    rw [invFullRound, ih (fullRound k s) (fun k' h => hks k' (by simp [h])) (fullRound_length k s hk)]
    exact fullRound_undo k s hk hs

/-- `Cipher` and `InvCipher` on a key schedule with a first and a last round key -/
theorem cipher_snoc (k0 kN : Bytes) (ks : List Bytes) (b : Bytes) :
    cipher (k0 :: (ks ++ [kN])) b = addRoundKey kN (shiftRows (subBytes (mid ks (addRoundKey k0 b)))) := by
  rw [cipher, encRounds_snoc]

theorem invCipher_snoc (k0 kN : Bytes) (ks : List Bytes) (c : Bytes) :
    invCipher (k0 :: (ks ++ [kN])) c =
      addRoundKey k0 (invSubBytes (invShiftRows (dmid ks.reverse (addRoundKey kN c)))) := by
  simp only [invCipher, List.reverse_cons, List.reverse_append, List.reverse_nil, List.nil_append,
    List.cons_append]
  exact decRounds_snoc _ _ _

/-- **FIPS-197: `InvCipher(Cipher(in, w), w) = in`** for every list of 16-byte round keys -/
theorem invCipher_cipher (rks : List Bytes) (b : Bytes) (hk : ∀ k ∈ rks, k.length = 16)
    (hb : b.length = 16) : invCipher rks (cipher rks b) = b := by
  cases rks with
  | nil => rfl
  | cons k0 ks =>
    have hk0 : k0.length = 16 := hk k0 (by simp)
    rcases List.eq_nil_or_concat ks with rfl | ⟨ks', kN, rfl⟩
    · exact addRoundKey_cancel k0 b hk0 hb
    · rw [List.concat_eq_append, cipher_snoc, invCipher_snoc,
        addRoundKey_cancel kN _ (hk kN (by simp)) (shiftRows_length _),
        mid_undo ks' _ (fun k h => hk k (by simp [h])) (addRoundKey_length k0 b hk0 hb)]
      exact addRoundKey_cancel k0 b hk0 hb

end MgProof.C12
