import MgProof.C12.Lemmas
/-!
# C12 — the per-byte stream loops are the block-wise definitions of SP 800-38A

Inside a block every loop xors with one key-stream block; a mode is a record `StreamMode`, and
`run_eq_blocks` goes from one block to any message.
-/
namespace MgProof.C12
open MgModel.C12

theorem drop_getD (l : Bytes) (k : Nat) (h : k < l.length) : l.drop k = l.getD k 0 :: l.drop (k+1) := by
  rw [List.drop_eq_getElem_cons h]; simp [List.getD, h]

section
variable {σ : Type} (step : σ → Byte → σ × Byte) (bs : Nat) (ks : Bytes) (fb : Byte → Byte → Byte)
  (mk : Bytes → σ)
  (hstep : ∀ d x, 0 < d.length → d.length < bs →
    step (mk d) x = (mk (d ++ [fb x (x ^^^ ks.getD d.length 0)]), x ^^^ ks.getD d.length 0))
  (hks : ks.length = bs)
include hstep hks

/-- Inside a block the three loops do the same: byte `k` of the input is xored with byte `k` of a
key-stream block `ks` fixed at offset 0. What else they hold is a function `mk` of the feedback bytes
`fb x out` so far: CFB writes them over `iv`, OFB and CTR only count them. -/
theorem run_tail : ∀ (p d : Bytes), 0 < d.length → d.length + p.length ≤ bs →
    run step (mk d) p =
      (xorBytes p (ks.drop d.length), mk (d ++ List.zipWith fb p (xorBytes p (ks.drop d.length)))) := by
  intro p
  induction p with
  | nil => intro d _ _; simp [run, xorBytes]
  | cons x p ih =>
    intro d h0 hlen
    simp only [List.length_cons] at hlen
    simp only [run, hstep d x h0 (by omega)]
    rw [drop_getD ks d.length (by omega), ih _ (by simp) (by simp; omega)]
    simp [xorBytes]

theorem run_block (s0 : σ) (h0 : ∀ x, step s0 x = (mk [fb x (x ^^^ ks.getD 0 0)], x ^^^ ks.getD 0 0))
    (p : Bytes) (hp0 : p ≠ []) (hp : p.length ≤ bs) :
    run step s0 p = (xorBytes p ks, mk (List.zipWith fb p (xorBytes p ks))) := by
  cases p with
  | nil => exact absurd rfl hp0
  | cons x p =>
    simp only [List.length_cons] at hp
    -- on the right only, `ks` as `ks.getD 0 0 :: ks.drop 1`, which is what `run_tail` gives from offset 1
    have hd := drop_getD ks 0 (by omega)
    rw [List.drop_zero] at hd
    simp only [run, h0]
    rw [run_tail step bs ks fb mk hstep hks p _ (by simp) (by simp; omega)]
    conv => rhs; rw [hd]
    simp [xorBytes]

end

/-- a stream mode as SP 800-38A gives it: the key-stream block that belongs to a chaining value, and
the chaining value after a block, from the block's input and output -/
structure StreamMode (χ : Type) where
  ks : χ → Bytes
  next : χ → Bytes → Bytes → χ

def StreamMode.blocks {χ : Type} (m : StreamMode χ) : χ → List Bytes → List Bytes
  | _, [] => []
  | c, p :: ps => xorBytes p (m.ks c) :: m.blocks (m.next c p (xorBytes p (m.ks c))) ps

/-- `start c s`: the loop is at a block start with chaining value `c` -/
theorem run_eq_blocks {σ χ : Type} (m : StreamMode χ) (step : σ → Byte → σ × Byte) (bs : Nat)
    (hbs : 0 < bs) (start : χ → σ → Prop)
    (hblock : ∀ c s p, start c s → p ≠ [] → p.length ≤ bs →
      (run step s p).1 = xorBytes p (m.ks c) ∧
      (p.length = bs → start (m.next c p (xorBytes p (m.ks c))) (run step s p).2))
    (msg : Bytes) : ∀ c s, start c s → (run step s msg).1 = (m.blocks c (chunks bs msg)).flatten := by
  refine stream_induction bs hbs
    (fun msg => ∀ c s, start c s → (run step s msg).1 = (m.blocks c (chunks bs msg)).flatten) ?_ ?_ msg
  · intro l hl c s hs
    by_cases h0 : l = []
    · subst h0; rfl
    · rw [(hblock c s l hs h0 hl).1, chunks_short bs l h0 hl]
      simp [StreamMode.blocks]
  · intro a rest ha ih c s hs
    obtain ⟨h1, h2⟩ := hblock c s a hs (by intro h; subst h; simp at ha; omega) (by omega)
    rw [run_append, chunks_cons bs hbs a rest ha, StreamMode.blocks, List.flatten_cons, h1,
      ih _ _ (h2 ha)]

theorem incLE_length : ∀ b : Bytes, (incLE b).length = b.length
  | [] => rfl
  | b :: bs => by
    simp only [incLE]
    split <;> simp [incLE_length bs]

theorem getD_append_drop (d g : Bytes) :
    (d ++ g.drop d.length)[d.length]?.getD 0#8 = g[d.length]?.getD 0#8 := by
  simp [List.getElem?_append_right]

theorem set_append_drop (d g : Bytes) (v : Byte) (h : d.length < g.length) :
    (d ++ g.drop d.length).set d.length v = d ++ [v] ++ g.drop (d.length + 1) := by
  rw [List.set_append_right _ _ (Nat.le_refl _), Nat.sub_self, List.drop_eq_getElem_cons h]
  simp only [List.set_cons_zero, List.append_assoc, List.singleton_append]

theorem zipWith_left {α β} : ∀ (a : List α) (b : List β), a.length ≤ b.length →
    List.zipWith (fun x _ => x) a b = a
  | [], _, _ => by simp
  | _ :: _, [], h => by simp at h
  | x :: a, y :: b, h => by simp [zipWith_left a b (by simpa using h)]

theorem zipWith_right {α β} : ∀ (a : List α) (b : List β), b.length ≤ a.length →
    List.zipWith (fun _ y => y) a b = b
  | _, [], _ => by simp
  | [], _ :: _, h => by simp at h
  | x :: a, y :: b, h => by simp [zipWith_right a b (by simpa using h)]

/-- §6.4: the chaining value is the last key-stream block -/
def ofbMode (F : Bytes → Bytes) : StreamMode Bytes := ⟨F, fun i _ _ => F i⟩

/-- §6.5 over the library's counter: incremented before it is enciphered -/
def ctrMode (F : Bytes → Bytes) : StreamMode Bytes := ⟨fun n => F (incLE n), fun n _ _ => incLE n⟩

/-- §6.3, s = b: the chaining value is the ciphertext block, the output when encrypting, the input
when decrypting -/
def cfbMode (F : Bytes → Bytes) (enc : Bool) : StreamMode Bytes := ⟨F, fun _ p out => if enc then out else p⟩

theorem ofb_eq_blocks (F : Bytes → Bytes) (bs : Nat) (hbs : 0 < bs)
    (hF : ∀ b, b.length = bs → (F b).length = bs) (msg iv : Bytes) (hiv : iv.length = bs) :
    (ofbLoop F bs ⟨iv, 0⟩ msg).1 = ((ofbMode F).blocks iv (chunks bs msg)).flatten := by
  rw [ofbLoop_eq_run]
  refine run_eq_blocks (ofbMode F) _ bs hbs (fun iv s => s = ⟨iv, 0⟩ ∧ iv.length = bs) ?_ msg iv _ ⟨rfl, hiv⟩
  rintro iv _ p ⟨rfl, hiv⟩ hp0 hp
  rw [run_block (ofbByte F bs) bs (F iv) (fun _ o => o) (fun d => ⟨F iv, d.length % bs⟩)
    (fun d x h0 h => by simp [ofbByte, Nat.mod_eq_of_lt h, Nat.ne_of_gt h0]) (hF iv hiv) ⟨iv, 0⟩
    (fun x => by simp [ofbByte]) p hp0 hp]
  exact ⟨rfl, fun h => ⟨by simp [xorBytes_length, hF iv hiv, h, ofbMode], hF iv hiv⟩⟩

theorem ctr_eq_blocks (F : Bytes → Bytes) (bs : Nat) (hbs : 0 < bs)
    (hF : ∀ b, b.length = bs → (F b).length = bs) (msg n sb : Bytes) (hn : n.length = bs) :
    (ctrLoop F bs ⟨n, 0, sb⟩ msg).1 = ((ctrMode F).blocks n (chunks bs msg)).flatten := by
  rw [ctrLoop_eq_run]
  refine run_eq_blocks (ctrMode F) _ bs hbs (fun n s => s.nonce = n ∧ s.off = 0 ∧ n.length = bs) ?_
    msg n _ ⟨rfl, rfl, hn⟩
  rintro _ ⟨n, _, sb⟩ p ⟨rfl, rfl, hn⟩ hp0 hp
  have hn' : (incLE n).length = bs := by rw [incLE_length, hn]
  rw [run_block (ctrByte F bs) bs (F (incLE n)) (fun _ o => o)
    (fun d => ⟨incLE n, d.length % bs, F (incLE n)⟩)
    (fun d x h0 h => by simp [ctrByte, Nat.mod_eq_of_lt h, Nat.ne_of_gt h0]) (hF _ hn') ⟨n, 0, sb⟩
    (fun x => by simp [ctrByte]) p hp0 hp]
  exact ⟨rfl, fun h => ⟨rfl, by simp [xorBytes_length, hF _ hn', h], hn'⟩⟩

theorem cfb_eq_blocks (F : Bytes → Bytes) (bs : Nat) (hbs : 0 < bs) (enc : Bool)
    (hF : ∀ b, b.length = bs → (F b).length = bs) (msg iv : Bytes) (hiv : iv.length = bs) :
    (cfbLoop F bs enc ⟨iv, 0⟩ msg).1 = ((cfbMode F enc).blocks iv (chunks bs msg)).flatten := by
  rw [cfbLoop_eq_run]
  refine run_eq_blocks (cfbMode F enc) _ bs hbs (fun iv s => s = ⟨iv, 0⟩ ∧ iv.length = bs) ?_ msg iv _ ⟨rfl, hiv⟩
  rintro iv _ p ⟨rfl, hiv⟩ hp0 hp
  have hg := hF iv hiv
  -- `iv` holds the feedback bytes so far, then what is left of the key-stream block
  rw [run_block (cfbByte F bs enc) bs (F iv) (fun x o => if enc then o else x)
    (fun d => ⟨d ++ (F iv).drop d.length, d.length % bs⟩)
    (fun d x h0 h => by
      have hd : d.length < (F iv).length := by omega
      simp [cfbByte, Nat.mod_eq_of_lt h, Nat.ne_of_gt h0, getD_append_drop d (F iv), set_append_drop d _ _ hd])
    hg ⟨iv, 0⟩
    (fun x => by
      have e := set_append_drop [] (F iv) (if enc then x ^^^ (F iv).getD 0 0 else x) (by simp; omega)
      simp at e
      simp [cfbByte, e]) p hp0 hp]
  refine ⟨rfl, fun h => ?_⟩
  have e : List.zipWith (fun x o => if enc then o else x) p (xorBytes p (F iv)) =
      (cfbMode F enc).next iv p (xorBytes p (F iv)) := by
    cases enc
    · exact zipWith_left _ _ (by simp [xorBytes_length, hg, h])
    · exact zipWith_right _ _ (by simp [xorBytes_length, hg, h])
  have hl : ((cfbMode F enc).next iv p (xorBytes p (F iv))).length = bs := by
    rw [← e]; simp [xorBytes_length, hg, h]
  refine ⟨?_, hl⟩
  rw [e, List.drop_of_length_le (by omega), List.append_nil, hl, Nat.mod_self]
  rfl

/-! ## the definitions of SP 800-38A §6.3–6.5 are these modes -/

theorem specOfb_eq_blocks (F : Bytes → Bytes) : ∀ (ps : List Bytes) (i : Bytes),
    Spec.ofb F i ps = (ofbMode F).blocks i ps
  | [], _ => rfl
  | p :: ps, i => by simp only [Spec.ofb, StreamMode.blocks, specOfb_eq_blocks F ps]; rfl

theorem specCtr_eq_blocks (F : Bytes → Bytes) : ∀ (ps : List Bytes) (n : Bytes),
    Spec.ctr F n ps = (ctrMode F).blocks n ps
  | [], _ => rfl
  | p :: ps, n => by simp only [Spec.ctr, StreamMode.blocks, specCtr_eq_blocks F ps]; rfl

theorem specCfbEnc_eq_blocks (F : Bytes → Bytes) : ∀ (ps : List Bytes) (i : Bytes),
    Spec.cfbEnc F i ps = (cfbMode F true).blocks i ps
  | [], _ => rfl
  | p :: ps, i => by simp only [Spec.cfbEnc, StreamMode.blocks, specCfbEnc_eq_blocks F ps]; rfl

theorem specCfbDec_eq_blocks (F : Bytes → Bytes) : ∀ (ps : List Bytes) (i : Bytes),
    Spec.cfbDec F i ps = (cfbMode F false).blocks i ps
  | [], _ => rfl
  | p :: ps, i => by simp only [Spec.cfbDec, StreamMode.blocks, specCfbDec_eq_blocks F ps]; rfl

theorem ofb_eq_spec (F : Bytes → Bytes) (bs : Nat) (hbs : 0 < bs)
    (hF : ∀ b, b.length = bs → (F b).length = bs) (msg : Bytes) : ∀ iv : Bytes, iv.length = bs →
    (ofbLoop F bs ⟨iv, 0⟩ msg).1 = (Spec.ofb F iv (chunks bs msg)).flatten :=
  fun iv hiv => by rw [specOfb_eq_blocks]; exact ofb_eq_blocks F bs hbs hF msg iv hiv

theorem ctr_eq_spec (F : Bytes → Bytes) (bs : Nat) (hbs : 0 < bs)
    (hF : ∀ b, b.length = bs → (F b).length = bs) (msg : Bytes) :
    ∀ n sb : Bytes, n.length = bs →
    (ctrLoop F bs ⟨n, 0, sb⟩ msg).1 = (Spec.ctr F n (chunks bs msg)).flatten :=
  fun n sb hn => by rw [specCtr_eq_blocks]; exact ctr_eq_blocks F bs hbs hF msg n sb hn

theorem cfbEnc_eq_spec (F : Bytes → Bytes) (bs : Nat) (hbs : 0 < bs)
    (hF : ∀ b, b.length = bs → (F b).length = bs) (msg : Bytes) : ∀ iv : Bytes, iv.length = bs →
    (cfbLoop F bs true ⟨iv, 0⟩ msg).1 = (Spec.cfbEnc F iv (chunks bs msg)).flatten :=
  fun iv hiv => by rw [specCfbEnc_eq_blocks]; exact cfb_eq_blocks F bs hbs true hF msg iv hiv

theorem cfbDec_eq_spec (F : Bytes → Bytes) (bs : Nat) (hbs : 0 < bs)
    (hF : ∀ b, b.length = bs → (F b).length = bs) (msg : Bytes) : ∀ iv : Bytes, iv.length = bs →
    (cfbLoop F bs false ⟨iv, 0⟩ msg).1 = (Spec.cfbDec F iv (chunks bs msg)).flatten :=
  fun iv hiv => by rw [specCfbDec_eq_blocks]; exact cfb_eq_blocks F bs hbs false hF msg iv hiv

end MgProof.C12
