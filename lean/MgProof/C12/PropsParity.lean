import MgModel.C12.Parity
import MgProof.C12.LemmasDes
import MgProof.C12.LemmasTable
/-!
# C12 — DES key-byte parity: theorems (muggle/c/crypt/parity.c)

The quantifier is a finite table (all 256 values of an `unsigned char`): the tables are compared
with the file's generator (`tables_eq_gen`), and what the theorems need of the generator is decided
by one kernel evaluation over the 256 bytes (`parityGen_sweep`; `decide +kernel`, no
`native_decide`). The tables are regenerated from the C text on every run (tie A,
checks/C12/gentables.py); `muggle_parity_*` are compared with the model on all 256 bytes by the
correspondence run (tie B, op `parity`).
-/
namespace MgProof.C12.Parity
open MgModel.C12.Parity MgModel.C12.Tables

/-- **the committed tables are exactly what the file's own generator computes**
    (`muggle_parity_gen(1)` / `muggle_parity_gen(0)`), entry by entry -/
theorem tables_eq_gen :
    oddParity = (List.range 256).map (parityGen 1) ∧ evenParity = (List.range 256).map (parityGen 0) := by
  decide +kernel

/-- both tables have one entry per `unsigned char`: the look-ups never leave the table -/
theorem tables_length : oddParity.length = 256 ∧ evenParity.length = 256 := by
  simp [tables_eq_gen]

/-- the generator ends in a cast to `unsigned char` -/
theorem parityGen_lt (odd b : Nat) : parityGen odd b < 256 := Nat.mod_lt _ (by decide)

theorem setOdd_eq {b : Nat} (hb : b < 256) : setOdd b = some (parityGen 1 b) := by
  rw [setOdd, tables_eq_gen.1, getElem?_map_range _ hb]

theorem setEven_eq {b : Nat} (hb : b < 256) : setEven b = some (parityGen 0 b) := by
  rw [setEven, tables_eq_gen.2, getElem?_map_range _ hb]

theorem checkOdd_eq {b : Nat} (hb : b < 256) :
    checkOdd b = some (if b = parityGen 1 b then 1 else 0) := by
  rw [checkOdd, tables_eq_gen.1, getElem?_map_range _ hb, Option.map_some]

theorem checkEven_eq {b : Nat} (hb : b < 256) :
    checkEven b = some (if b = parityGen 0 b then 1 else 0) := by
  rw [checkEven, tables_eq_gen.2, getElem?_map_range _ hb, Option.map_some]

/-- `parityGen 1` / `parityGen 0` give odd / even parity, keep bits 7..1, and leave alone exactly
the bytes that already have that parity -/
theorem parityGen_sweep : ∀ b, b < 256 →
    (popcount8 (parityGen 1 b) % 2 = 1 ∧ parityGen 1 b / 2 = b / 2) ∧
    (popcount8 (parityGen 0 b) % 2 = 0 ∧ parityGen 0 b / 2 = b / 2) ∧
    (b = parityGen 1 b ↔ popcount8 b % 2 = 1) ∧ (b = parityGen 0 b ↔ popcount8 b % 2 = 0) :=
  forall_lt (by decide +kernel)

/-- **set_odd** (and **set_even** below): defined on every byte; the result is a byte with an odd
    (even) number of set bits that differs from the argument at most in its lowest bit -/
theorem setOdd_spec (b : Nat) (hb : b < 256) :
    ∃ v, setOdd b = some v ∧ v < 256 ∧ popcount8 v % 2 = 1 ∧ v / 2 = b / 2 :=
  ⟨_, setOdd_eq hb, parityGen_lt 1 b, (parityGen_sweep b hb).1⟩

theorem setEven_spec (b : Nat) (hb : b < 256) :
    ∃ v, setEven b = some v ∧ v < 256 ∧ popcount8 v % 2 = 0 ∧ v / 2 = b / 2 :=
  ⟨_, setEven_eq hb, parityGen_lt 0 b, (parityGen_sweep b hb).2.1⟩

/-- **check_odd** (**check_even**) answers 1 exactly on the bytes with an odd (even) number of set
    bits, 0 otherwise -/
theorem checkOdd_iff (b : Nat) (hb : b < 256) :
    checkOdd b = some (if popcount8 b % 2 = 1 then 1 else 0) := by
  obtain ⟨_, _, fixOdd, _⟩ := parityGen_sweep b hb
  rw [checkOdd_eq hb]; simp only [fixOdd]

theorem checkEven_iff (b : Nat) (hb : b < 256) :
    checkEven b = some (if popcount8 b % 2 = 0 then 1 else 0) := by
  obtain ⟨_, _, _, fixEven⟩ := parityGen_sweep b hb
  rw [checkEven_eq hb]; simp only [fixEven]

/-- **set then check**: what `set_odd` returns passes `check_odd` and fails `check_even`
    (and symmetrically), and setting is idempotent -/
theorem set_then_check (b : Nat) (hb : b < 256) :
    (setOdd b).bind checkOdd = some 1 ∧ (setOdd b).bind checkEven = some 0 ∧
    (setEven b).bind checkEven = some 1 ∧ (setEven b).bind checkOdd = some 0 ∧
    (setOdd b).bind setOdd = setOdd b ∧ (setEven b).bind setEven = setEven b := by
  -- a result has its parity: the generator of that parity leaves it alone, the other changes it
  obtain ⟨⟨ho, _⟩, ⟨he, _⟩, _, _⟩ := parityGen_sweep b hb
  obtain ⟨_, _, o1, o0⟩ := parityGen_sweep _ (parityGen_lt 1 b)
  obtain ⟨_, _, e1, e0⟩ := parityGen_sweep _ (parityGen_lt 0 b)
  have h1 := o1.mpr ho
  have h2 : parityGen 1 b ≠ parityGen 0 (parityGen 1 b) := fun h => by have := o0.mp h; omega
  have h3 := e0.mpr he
  have h4 : parityGen 0 b ≠ parityGen 1 (parityGen 0 b) := fun h => by have := e1.mp h; omega
  simp [setOdd_eq hb, setEven_eq hb, checkOdd_eq (parityGen_lt _ _), checkEven_eq (parityGen_lt _ _),
    setOdd_eq (parityGen_lt _ _), setEven_eq (parityGen_lt _ _), ← h1, ← h3, h2, h4]

/-- **exactly one of the two checks holds** for every byte -/
theorem check_exclusive (b : Nat) (hb : b < 256) :
    ∃ o e, checkOdd b = some o ∧ checkEven b = some e ∧ o + e = 1 := by
  refine ⟨_, _, checkOdd_iff b hb, checkEven_iff b hb, ?_⟩
  split <;> split <;> omega

/-- the error branch is explicit: an index beyond the table is an out-of-bounds read, not a value -/
theorem out_of_table (b : Nat) (hb : 256 ≤ b) : setOdd b = none ∧ setEven b = none ∧ checkOdd b = none ∧ checkEven b = none := by
  have ⟨h1, h2⟩ := tables_length
  simp [setOdd, setEven, checkOdd, checkEven, h1, h2, hb]

/-- non-vacuity: the weak DES key byte 0x01 has odd parity, 0x00 does not; 0xFE is odd, 0xFF even -/
example : checkOdd 0x01 = some 1 ∧ checkOdd 0x00 = some 0 ∧ checkOdd 0xFE = some 1 ∧ checkEven 0xFF = some 1 := by
  decide

/-! ## The parity bit of a DES key byte is not key material (FIPS 46-3: PC-1 never selects bits 8, 16, .., 64)

Links the parity unit to the DES specification model (`MgModel/C12/Des.lean`, the one the
compiled DES core is compared with on every run): whatever `muggle_parity_set_odd/_even` does to
the key bytes, every round key — hence every DES/3DES result — is unchanged. -/
section KeyBits
open MgModel.C12 MgModel.C12.Des

theorem pc1_positions : ∀ p ∈ desPC1, p % 8 ≠ 0 := by decide

theorem getLsbD_of_ushiftRight_eq {a b : Byte} (h : a >>> 1 = b >>> 1) (i : Nat) (hi : 1 ≤ i) :
    a.getLsbD i = b.getLsbD i := by
  have := congrArg (·.getLsbD (i - 1)) h
  simpa [BitVec.getLsbD_ushiftRight, show 1 + (i - 1) = i by omega] using this

/-- bit `p` of a key is bit `8 - p % 8` of a byte, and `p % 8 ≠ 0` for every `p` PC-1 selects -/
theorem pc1_eq_of_shift_eq {k k' : Bytes}
    (h : k'.map (fun x : Byte => x >>> 1) = k.map (fun x : Byte => x >>> 1)) :
    permute desPC1 (bytesToBits k') = permute desPC1 (bytesToBits k) := by
  have hb : ∀ i, k'.getD i 0 >>> 1 = k.getD i 0 >>> 1 := by
    intro i
    have := congrArg (·[i]?.getD 0) h
    revert this
    simp only [List.getElem?_map, List.getD_eq_getElem?_getD]
    cases k'[i]? <;> cases k[i]? <;> simp
  refine permute_congr fun p hp => ?_
  have h2 := pc1_positions p hp
  rw [bytesToBits_getD, bytesToBits_getD]
  exact getLsbD_of_ushiftRight_eq (hb _) _ (by omega)

theorem keySchedule_eq_of_shift_eq {k k' : Bytes}
    (h : k'.map (fun x : Byte => x >>> 1) = k.map (fun x : Byte => x >>> 1)) : keySchedule k' = keySchedule k := by
  unfold keySchedule; rw [pc1_eq_of_shift_eq h]

/-- **Round keys ignore the parity bits**: two 8-byte keys that agree in bits 7..1 of every byte
    (`>>> 1`) have the same sixteen round keys — for every key, not a sample. (`hl` is not needed:
    `keySchedule_eq_of_shift_eq`.) -/
theorem keySchedule_ignores_parity (k k' : Bytes) (hl : k.length = 8)
    (h : k'.map (fun x : Byte => x >>> 1) = k.map (fun x : Byte => x >>> 1)) : keySchedule k' = keySchedule k :=
  keySchedule_eq_of_shift_eq h

/-- **DES results ignore the parity bits of the key**, both directions, every block -/
theorem des_ignores_key_parity (k k' : Bytes) (hl : k.length = 8)
    (h : k'.map (fun x : Byte => x >>> 1) = k.map (fun x : Byte => x >>> 1)) (b : Bytes) :
    encryptBlock k' b = encryptBlock k b ∧ decryptBlock k' b = decryptBlock k b := by
  simp [encryptBlock, decryptBlock, keySchedule_ignores_parity k k' hl h]

/-- what `muggle_parity_set_odd` / `_set_even` return keeps bits 7..1 of the byte, i.e. satisfies
    the per-byte hypothesis of `des_ignores_key_parity` -/
theorem set_keeps_key_bits (b : BitVec 8) :
    (∃ v, setOdd b.toNat = some v ∧ BitVec.ofNat 8 v >>> 1 = b >>> 1) ∧
    (∃ v, setEven b.toNat = some v ∧ BitVec.ofNat 8 v >>> 1 = b >>> 1) := by
  obtain ⟨v, hv, hlt, _, hdiv⟩ := setOdd_spec b.toNat b.isLt
  obtain ⟨w, hw, hlt', _, hdiv'⟩ := setEven_spec b.toNat b.isLt
  refine ⟨⟨v, hv, ?_⟩, ⟨w, hw, ?_⟩⟩ <;> apply BitVec.eq_of_toNat_eq <;>
    simp [BitVec.toNat_ushiftRight, Nat.shiftRight_eq_div_pow, Nat.mod_eq_of_lt, *]

/-- non-vacuity: the textbook key `133457799BBCDFF1` is `123456789ABCDEF0` with odd parity set -/
example : ([0x13,0x34,0x57,0x79,0x9b,0xbc,0xdf,0xf1] : Bytes).map (fun x : Byte => x >>> 1) =
    ([0x12,0x34,0x56,0x78,0x9a,0xbc,0xde,0xf0] : Bytes).map (fun x : Byte => x >>> 1) := by decide

end KeyBits

end MgProof.C12.Parity
