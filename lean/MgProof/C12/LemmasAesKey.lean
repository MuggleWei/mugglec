import MgProof.C12.LemmasAes
/-!
# C12 — every round key of the AES key expansion has 16 bytes; `Cipher` and `InvCipher` keep 16 bytes
-/
namespace MgProof.C12
open MgModel.C12 MgModel.C12.Aes

theorem getD_len4 (ws : List Bytes) (h : ∀ w ∈ ws, w.length = 4) (i : Nat) (hi : i < ws.length) :
    (ws.getD i []).length = 4 := by
  have : ws.getD i [] = ws[i] := by simp [List.getD, hi]
  rw [this]; exact h _ (List.getElem_mem hi)

theorem rotWord_length (w : Bytes) : (rotWord w).length = w.length := by
  cases w <;> simp [rotWord]

theorem expandAux_inv (nk : Nat) (hnk : 0 < nk) : ∀ (fuel : Nat) (ws : List Bytes),
    (∀ w ∈ ws, w.length = 4) → nk ≤ ws.length →
    (∀ w ∈ expandAux nk fuel ws, w.length = 4) ∧ (expandAux nk fuel ws).length = ws.length + fuel := by
  intro fuel
  induction fuel with
  | zero => intro ws h _; exact ⟨h, rfl⟩
  | succ f ih =>
    intro ws h hlen
    simp only [expandAux]
    have hprev := getD_len4 ws h (ws.length - 1) (by omega)
    have hold := getD_len4 ws h (ws.length - nk) (by omega)
    have hnew : ∀ temp : Bytes, temp.length = 4 →
        ∀ w ∈ ws ++ [xorBytes (ws.getD (ws.length - nk) []) temp], w.length = 4 := by
      intro temp ht w hw
      rcases List.mem_append.mp hw with hw | hw
      · exact h w hw
      · have hw' : w = xorBytes (ws.getD (ws.length - nk) []) temp := by simpa using hw
        rw [hw', xorBytes_length, hold, ht]; rfl
    have key : ∀ temp : Bytes, temp.length = 4 →
        (∀ w ∈ expandAux nk f (ws ++ [xorBytes (ws.getD (ws.length - nk) []) temp]), w.length = 4) ∧
        (expandAux nk f (ws ++ [xorBytes (ws.getD (ws.length - nk) []) temp])).length = ws.length + (f + 1) := by
      intro temp ht
      have := ih _ (hnew temp ht) (by simp; omega)
      refine ⟨this.1, ?_⟩
      rw [this.2]; simp; omega
    split
    · exact key _ (by rw [xorBytes_length]; simp only [subWord, List.length_map, rotWord_length, hprev]; simp [rcon])
    · split
      · exact key _ (by simp only [subWord, List.length_map, hprev])
      · exact key _ hprev

theorem keyExpansion_len (key : Bytes) (hk : key.length = 16 ∨ key.length = 24 ∨ key.length = 32) :
    (∀ k ∈ keyExpansion key, k.length = 16) := by
  have hk4 : key.length % 4 = 0 := by omega
  have hw : ∀ w ∈ chunks 4 key, w.length = 4 := chunks_all_len 4 (by omega) key hk4
  have hcnt : (chunks 4 key).length = key.length / 4 := by
    have h2 := flatten_length 4 _ hw
    rw [chunks_flatten 4 (by omega) key hk4] at h2; omega
  unfold keyExpansion
  dsimp only
  obtain ⟨h4, hlen⟩ := expandAux_inv (key.length / 4) (by omega)
    (4 * (rounds (key.length / 4) + 1) - key.length / 4) (chunks 4 key) hw (by omega)
  refine chunks_all_len 16 (by omega) _ ?_
  generalize expandAux (key.length / 4) _ (chunks 4 key) = ws at h4 hlen
  rw [flatten_length 4 ws h4, hlen, hcnt]
  unfold rounds
  omega

/-- the last round ends in `AddRoundKey ∘ ShiftRows`, and `ShiftRows` returns 16 bytes whatever it is given -/
theorem encRounds_length : ∀ (ks : List Bytes) (s : Bytes), (∀ k ∈ ks, k.length = 16) →
    s.length = 16 → (encRounds ks s).length = 16 := by
  intro ks s hk hs
  rcases List.eq_nil_or_concat ks with rfl | ⟨ks', kN, rfl⟩
  · exact hs
  · rw [List.concat_eq_append, encRounds_snoc]
    exact addRoundKey_length kN _ (hk kN (by simp)) (shiftRows_length _)

theorem cipher_length (rks : List Bytes) (b : Bytes) (hk : ∀ k ∈ rks, k.length = 16)
    (hb : b.length = 16) : (cipher rks b).length = 16 := by
  cases rks with
  | nil => exact hb
  | cons k0 ks =>
    exact encRounds_length ks _ (fun q hq => hk q (by simp [hq]))
      (addRoundKey_length k0 b (hk k0 (by simp)) hb)

theorem decRounds_length : ∀ (ks : List Bytes) (s : Bytes), (∀ k ∈ ks, k.length = 16) →
    s.length = 16 → (decRounds ks s).length = 16 := by
  intro ks s hk hs
  rcases List.eq_nil_or_concat ks with rfl | ⟨ks', k0, rfl⟩
  · exact hs
  · rw [List.concat_eq_append, decRounds_snoc]
    exact addRoundKey_length k0 _ (hk k0 (by simp)) (by rw [invSubBytes_length, invShiftRows_length])

theorem invCipher_length (rks : List Bytes) (b : Bytes) (hk : ∀ k ∈ rks, k.length = 16)
    (hb : b.length = 16) : (invCipher rks b).length = 16 := by
  unfold invCipher
  have hr : ∀ k ∈ rks.reverse, k.length = 16 := fun k h => hk k (List.mem_reverse.mp h)
  generalize rks.reverse = l at hr
  cases l with
  | nil => exact hb
  | cons kN ks =>
    exact decRounds_length ks _ (fun q hq => hr q (by simp [hq]))
      (addRoundKey_length kN b (hr kN (by simp)) hb)

end MgProof.C12
