import MgProof.C12.Lemmas
import MgProof.C12.LemmasStream
/-!
# C12 — the API functions: parameter checks, and well-formedness of the caller-held state
-/
namespace MgProof.C12
open MgModel.C12

/-- what the theorems assume of a context: block functions that keep the block length,
with `D` a left inverse of `E`, wired as the three `set_key` functions wire them: `blkF` is `D`
only in a decrypting ECB / CBC context, CFB / OFB / CTR run `E` in both directions (a DES context
has one function for both fields, hence the guards by the mode) -/
structure Std (cx : Cx) (E D : Bytes → Bytes) : Prop where
  bs_pos : 0 < cx.bs
  blk : cx.mode ≤ 1 → cx.blkF = (match cx.dir with | .enc => E | .dec => D)
  str : 2 ≤ cx.mode → cx.strF = E
  lenE : ∀ b, b.length = cx.bs → (E b).length = cx.bs
  lenD : ∀ b, b.length = cx.bs → (D b).length = cx.bs
  inv : ∀ b, b.length = cx.bs → D (E b) = b

theorem Std.len_blkF {cx : Cx} {E D : Bytes → Bytes} (h : Std cx E D) (hm : cx.mode ≤ 1) :
    ∀ b, b.length = cx.bs → (cx.blkF b).length = cx.bs := by
  rw [h.blk hm]
  cases cx.dir
  · exact h.lenD
  · exact h.lenE

/-- mode numbers 0, 1 are ECB, CBC: they check the length, the others the offset -/
theorem checks_valid (cx : Cx) (fn : Fn) (len off : Nat) :
    runChecks (cx.call fn len off) (checksOf fn) =
      if cx.mode = fn.modeNum ∧ (fn.modeNum ≤ 1 → len % cx.bs = 0) ∧ (2 ≤ fn.modeNum → off < cx.bs)
      then .ok () else .error .invalidParam := by
  -- the outcome depends on the call through three Booleans only
  have key : ∀ m l o : Bool, runChecks ⟨fun _ => false, m, l, o⟩ (checksOf fn) =
      if m ∧ (fn.modeNum ≤ 1 → l) ∧ (2 ≤ fn.modeNum → o) then .ok () else .error .invalidParam := by
    intro m l o; cases fn <;> cases m <;> cases l <;> cases o <;> rfl
  simpa [Cx.call] using key (decide (cx.mode = fn.modeNum)) (decide (len % cx.bs = 0)) (decide (off < cx.bs))

theorem deref_of_nullDeref {c : Call} : ∀ {l : List Chk},
    runChecks c l = .error .nullDeref → ∃ p, Chk.deref p ∈ l
  | [], h => by cases h
  | k :: l, h => by
    have ih := deref_of_nullDeref (c := c) (l := l)
    -- only a `deref` line yields `nullDeref`; any other line fails with another code or passes `h` on to `ih`
    cases k <;> simp only [runChecks] at h <;> split at h <;> simp_all

theorem rejected_of_notNull {c : Call} {p : Param} (hn : c.isNull p = true) : ∀ {l : List Chk},
    Chk.notNull p ∈ l → (∀ q, Chk.deref q ∉ l) →
    runChecks c l = .error .nullParam ∨ runChecks c l = .error .invalidParam
  | [], h, _ => by cases h
  | k :: l, h, hd => by
    have ih := rejected_of_notNull hn (l := l)
    cases k with
    | deref q => exact absurd List.mem_cons_self (hd q)
    | notNull q =>
      by_cases hq : c.isNull q
      · simp [runChecks, hq]
      · have : p ≠ q := fun e => hq (e ▸ hn)
        simp_all [runChecks]
    -- `mode`, `len`, `offLt`: the line fails with `invalidParam` or leaves the rest of the list to `ih`
    | _ => simp only [runChecks]; split <;> simp_all

theorem ecb_ok (cx : Cx) (input : Bytes) (hm : cx.mode = 0) (hl : input.length % cx.bs = 0) :
    ecb cx input = .ok (ecbLoop cx.blkF cx.bs input) := by
  simp [ecb, checks_valid, Fn.modeNum, hm, hl, bind, Except.bind, pure, Except.pure]

/-- what a successful `cbc` call computes: (output, iv') -/
def cbcRun (cx : Cx) (iv input : Bytes) : Bytes × Bytes :=
  match cx.dir with
  | .enc => cbcEncBlocks cx.blkF iv (chunks cx.bs input)
  | .dec => cbcDecBlocks cx.blkF iv (chunks cx.bs input)

theorem cbc_ok (cx : Cx) (iv input : Bytes) (hm : cx.mode = 1) (hl : input.length % cx.bs = 0)
    (hiv : iv.length = cx.bs) : cbc cx iv input = .ok (cbcRun cx iv input) := by
  simp only [cbc, checks_valid, Fn.modeNum, hm, hl, needLen, hiv, bind, Except.bind, pure, Except.pure,
    if_true, cbcRun]
  cases cx.dir <;> rfl

theorem cbcRun_append (cx : Cx) (hbs : 0 < cx.bs) (iv a b : Bytes) (ha : a.length % cx.bs = 0) :
    cbcRun cx iv (a ++ b) =
      ((cbcRun cx iv a).1 ++ (cbcRun cx (cbcRun cx iv a).2 b).1, (cbcRun cx (cbcRun cx iv a).2 b).2) := by
  simp only [cbcRun, chunks_append cx.bs hbs a b ha]
  cases cx.dir
  · exact cbcDecBlocks_append ..
  · exact cbcEncBlocks_append ..

theorem cbcRun_iv_length (cx : Cx) (hbs : 0 < cx.bs) (hF : ∀ b, b.length = cx.bs → (cx.blkF b).length = cx.bs)
    (iv a : Bytes) (hiv : iv.length = cx.bs) (ha : a.length % cx.bs = 0) :
    (cbcRun cx iv a).2.length = cx.bs := by
  have hbl := chunks_all_len cx.bs hbs a ha
  simp only [cbcRun]
  cases cx.dir
  · exact cbcDecBlocks_iv_length _ _ _ _ hiv hbl
  · exact cbcEncBlocks_iv_length _ _ hF _ _ hiv hbl

theorem cfb_ok (cx : Cx) (s : IvState) (input : Bytes) (hm : cx.mode = 2) (ho : s.off < cx.bs)
    (hiv : s.iv.length = cx.bs) :
    cfb cx s input = .ok (cfbLoop cx.strF cx.bs (cx.dir == .enc) s input) := by
  simp [cfb, checks_valid, Fn.modeNum, hm, ho, needLen, hiv, bind, Except.bind, pure, Except.pure]

theorem ofb_ok (cx : Cx) (s : IvState) (input : Bytes) (hm : cx.mode = 3) (ho : s.off < cx.bs)
    (hiv : s.iv.length = cx.bs) :
    ofb cx s input = .ok (ofbLoop cx.strF cx.bs s input) := by
  simp [ofb, checks_valid, Fn.modeNum, hm, ho, needLen, hiv, bind, Except.bind, pure, Except.pure]

theorem ctr_ok (cx : Cx) (s : CtrState) (input : Bytes) (hm : cx.mode = 4) (ho : s.off < cx.bs)
    (hn : s.nonce.length = cx.bs) (hsb : s.sb.length = cx.bs) :
    ctr cx s input = .ok (ctrLoop cx.strF cx.bs s input) := by
  simp [ctr, checks_valid, Fn.modeNum, hm, ho, needLen, hn, hsb, bind, Except.bind, pure, Except.pure]

section
variable {cx : Cx} {E D : Bytes → Bytes} (h : Std cx E D)
include h

theorem Std.ecb_eq (input : Bytes) (hm : cx.mode = 0) (hl : input.length % cx.bs = 0) :
    ecb cx input = .ok (ecbLoop (match cx.dir with | .enc => E | .dec => D) cx.bs input) := by
  rw [ecb_ok cx input hm hl, h.blk (by omega)]

theorem Std.cbc_eq (iv input : Bytes) (hm : cx.mode = 1) (hl : input.length % cx.bs = 0)
    (hiv : iv.length = cx.bs) :
    cbc cx iv input = .ok (match cx.dir with
      | .enc => cbcEncBlocks E iv (chunks cx.bs input)
      | .dec => cbcDecBlocks D iv (chunks cx.bs input)) := by
  rw [cbc_ok cx iv input hm hl hiv, cbcRun, h.blk (by omega)]
  cases cx.dir <;> rfl

theorem Std.cfb_eq (s : IvState) (input : Bytes) (hm : cx.mode = 2) (ho : s.off < cx.bs)
    (hiv : s.iv.length = cx.bs) :
    cfb cx s input = .ok (cfbLoop E cx.bs (cx.dir == .enc) s input) := by
  rw [cfb_ok cx s input hm ho hiv, h.str (by omega)]

theorem Std.ofb_eq (s : IvState) (input : Bytes) (hm : cx.mode = 3) (ho : s.off < cx.bs)
    (hiv : s.iv.length = cx.bs) : ofb cx s input = .ok (ofbLoop E cx.bs s input) := by
  rw [ofb_ok cx s input hm ho hiv, h.str (by omega)]

theorem Std.ctr_eq (s : CtrState) (input : Bytes) (hm : cx.mode = 4) (ho : s.off < cx.bs)
    (hn : s.nonce.length = cx.bs) (hsb : s.sb.length = cx.bs) :
    ctr cx s input = .ok (ctrLoop E cx.bs s input) := by
  rw [ctr_ok cx s input hm ho hn hsb, h.str (by omega)]

end

theorem ite_length {c : Prop} [Decidable c] {a b : Bytes} {n : Nat} (ha : a.length = n)
    (hb : b.length = n) : (if c then a else b).length = n := by
  split <;> assumption

theorem cfbLoop_inv (F : Bytes → Bytes) (bs : Nat) (hbs : 0 < bs) (enc : Bool)
    (hF : ∀ b, b.length = bs → (F b).length = bs) (xs : Bytes) : ∀ s : IvState,
    s.iv.length = bs → s.off < bs →
    (cfbLoop F bs enc s xs).2.iv.length = bs ∧ (cfbLoop F bs enc s xs).2.off < bs := by
  intro s h1 h2
  rw [cfbLoop_eq_run]
  refine run_invariant _ (I := fun s => s.iv.length = bs ∧ s.off < bs) ?_ xs s ⟨h1, h2⟩
  intro s x ⟨h1, _⟩
  refine ⟨?_, Nat.mod_lt _ hbs⟩
  simp only [cfbByte, List.length_set]
  exact ite_length (hF _ h1) h1

theorem ofbLoop_inv (F : Bytes → Bytes) (bs : Nat) (hbs : 0 < bs)
    (hF : ∀ b, b.length = bs → (F b).length = bs) (xs : Bytes) : ∀ s : IvState,
    s.iv.length = bs → s.off < bs →
    (ofbLoop F bs s xs).2.iv.length = bs ∧ (ofbLoop F bs s xs).2.off < bs := by
  intro s h1 h2
  rw [ofbLoop_eq_run]
  refine run_invariant _ (I := fun s => s.iv.length = bs ∧ s.off < bs) ?_ xs s ⟨h1, h2⟩
  intro s x ⟨h1, _⟩
  refine ⟨?_, Nat.mod_lt _ hbs⟩
  simp only [ofbByte]
  exact ite_length (hF _ h1) h1

theorem ctrLoop_inv (F : Bytes → Bytes) (bs : Nat) (hbs : 0 < bs)
    (hF : ∀ b, b.length = bs → (F b).length = bs) (xs : Bytes) : ∀ s : CtrState,
    s.nonce.length = bs → s.sb.length = bs → s.off < bs →
    (ctrLoop F bs s xs).2.nonce.length = bs ∧ (ctrLoop F bs s xs).2.sb.length = bs ∧
      (ctrLoop F bs s xs).2.off < bs := by
  intro s h1 h2 h3
  rw [ctrLoop_eq_run]
  refine run_invariant _
    (I := fun s => s.nonce.length = bs ∧ s.sb.length = bs ∧ s.off < bs) ?_ xs s ⟨h1, h2, h3⟩
  intro s x ⟨h1, h2, _⟩
  have hn : (if s.off = 0 then incLE s.nonce else s.nonce).length = bs :=
    ite_length (by rw [incLE_length]; exact h1) h1
  refine ⟨hn, ?_, Nat.mod_lt _ hbs⟩
  simp only [ctrByte]
  exact ite_length (hF _ hn) h2

end MgProof.C12
