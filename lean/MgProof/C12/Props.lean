import MgModel.C12.Ciphers
import MgProof.C12.LemmasApi
import MgProof.C12.LemmasAesKey
import MgProof.C12.LemmasExtra
/-!
# C12 — property theorems (AES / DES / Triple-DES in ECB, CBC, CFB, OFB, CTR)

Statement (properties.jsonl): for every key, IV or nonce, message and length,
AES-128/192/256, DES and Triple-DES in the five modes produce exactly the output defined
by FIPS-197 / FIPS 46-3 with SP 800-38A chaining (CTR over the library's incrementing
128/64-bit counter), and decryption inverts encryption.  For the streaming modes, feeding
a message in any sequence of chunks while carrying the IV/offset state between calls
gives the same bytes as a single call; lengths that are not a block multiple in ECB/CBC
and other invalid parameters are rejected.

Part A holds for ANY context that is *standard* (`Std`) for a pair of block functions `E`, `D`;
Part B shows that the three set-key functions produce such contexts for the FIPS block functions;
Part C puts the two together for two cipher × mode pairs; the examples at the end meet the hypotheses.

* NOT a theorem (see DESIGN.md §3 C12 and the manifest): that the optimised primitives in
  `crypt/openssl/*.c` compute `Aes.cipher` / `Des.cryptBlock`; this is what the
  correspondence runs and the standards' known-answer vectors check.
-/
namespace MgProof.C12
open MgModel.C12

/-! ## Part A.1 — every mode computes the SP 800-38A definition -/

/-- **ECB = SP 800-38A §6.1**: a whole number of blocks, each through the forward cipher
(encrypting context) or the inverse cipher (decrypting context). -/
theorem ecb_standard {cx : Cx} {E D : Bytes → Bytes} (h : Std cx E D) (input : Bytes)
    (hm : cx.mode = 0) (hl : input.length % cx.bs = 0) :
    ecb cx input = .ok (Spec.ecb (match cx.dir with | .enc => E | .dec => D)
      (chunks cx.bs input)).flatten := by
  rw [h.ecb_eq input hm hl]; rfl

/-- **CBC = SP 800-38A §6.2**, both directions. -/
theorem cbc_standard {cx : Cx} {E D : Bytes → Bytes} (h : Std cx E D) (iv input : Bytes)
    (hm : cx.mode = 1) (hl : input.length % cx.bs = 0) (hiv : iv.length = cx.bs) :
    (cbc cx iv input).map Prod.fst = .ok (match cx.dir with
      | .enc => (Spec.cbcEnc E iv (chunks cx.bs input)).flatten
      | .dec => (Spec.cbcDec D iv (chunks cx.bs input)).flatten) := by
  rw [h.cbc_eq iv input hm hl hiv]
  cases cx.dir
  · exact congrArg Except.ok (cbcDec_eq_spec D _ iv)
  · exact congrArg Except.ok (cbcEnc_eq_spec E _ iv)

/-- **CBC: the updated `iv`** after a successful call: the last ciphertext block (output when
encrypting, input when decrypting), the caller's `iv` if there was no block. -/
theorem cbc_final_iv {cx : Cx} {E D : Bytes → Bytes} (h : Std cx E D) (iv input : Bytes)
    (hm : cx.mode = 1) (hl : input.length % cx.bs = 0) (hiv : iv.length = cx.bs) :
    (cbc cx iv input).map Prod.snd = .ok (match cx.dir with
      | .enc => (Spec.cbcEnc E iv (chunks cx.bs input)).getLastD iv
      | .dec => (chunks cx.bs input).getLastD iv) := by
  rw [h.cbc_eq iv input hm hl hiv]
  cases cx.dir
  · exact congrArg Except.ok (cbcDec_final_iv D _ iv)
  · exact congrArg Except.ok (cbcEnc_final_iv E _ iv)

/-- **CFB (s = b) = SP 800-38A §6.3**, both directions, EVERY message length (the last
segment may be partial). -/
theorem cfb_standard {cx : Cx} {E D : Bytes → Bytes} (h : Std cx E D) (iv input : Bytes)
    (hm : cx.mode = 2) (hiv : iv.length = cx.bs) :
    (cfb cx ⟨iv, 0⟩ input).map Prod.fst = .ok (match cx.dir with
      | .enc => (Spec.cfbEnc E iv (chunks cx.bs input)).flatten
      | .dec => (Spec.cfbDec E iv (chunks cx.bs input)).flatten) := by
  rw [h.cfb_eq ⟨iv, 0⟩ input hm h.bs_pos hiv]
  cases cx.dir
  · exact congrArg Except.ok (cfbDec_eq_spec E cx.bs h.bs_pos h.lenE input iv hiv)
  · exact congrArg Except.ok (cfbEnc_eq_spec E cx.bs h.bs_pos h.lenE input iv hiv)

/-- **OFB = SP 800-38A §6.4**, every message length, either direction of the context. -/
theorem ofb_standard {cx : Cx} {E D : Bytes → Bytes} (h : Std cx E D) (iv input : Bytes)
    (hm : cx.mode = 3) (hiv : iv.length = cx.bs) :
    (ofb cx ⟨iv, 0⟩ input).map Prod.fst = .ok (Spec.ofb E iv (chunks cx.bs input)).flatten := by
  rw [h.ofb_eq ⟨iv, 0⟩ input hm h.bs_pos hiv]
  exact congrArg Except.ok (ofb_eq_spec E cx.bs h.bs_pos h.lenE input iv hiv)

/-- **CTR = SP 800-38A §6.5** over the library's counter blocks `T_j = LE(nonce) + j`
(little-endian `8·bs`-bit increment, pre-incremented, wrapping), every message length,
whatever the caller left in `stream_block`. That `incLE` is this increment: `incLE_value`. -/
theorem ctr_standard {cx : Cx} {E D : Bytes → Bytes} (h : Std cx E D) (nonce sb input : Bytes)
    (hm : cx.mode = 4) (hn : nonce.length = cx.bs) (hsb : sb.length = cx.bs) :
    (ctr cx ⟨nonce, 0, sb⟩ input).map Prod.fst =
      .ok (Spec.ctr E nonce (chunks cx.bs input)).flatten := by
  rw [h.ctr_eq ⟨nonce, 0, sb⟩ input hm h.bs_pos hn hsb]
  exact congrArg Except.ok (ctr_eq_spec E cx.bs h.bs_pos h.lenE input nonce sb hn)

/-! ### the counter of CTR -/

theorem leVal_lt : ∀ xs : Bytes, leVal xs < 2 ^ (8 * xs.length)
  | [] => by simp [leVal]
  | y :: ys => by
    have := y.isLt
    have := leVal_lt ys
    simp only [leVal, List.length_cons, Nat.mul_add, Nat.pow_add]
    omega

/-- the counter the CTR loop uses really is "+1 modulo 2^(8·bs), little endian" -/
theorem incLE_value : ∀ b : Bytes, leVal (incLE b) = (leVal b + 1) % 2 ^ (8 * b.length)
  | [] => by simp [incLE, leVal]
  | x :: xs => by
    have hx := x.isLt
    have hv := leVal_lt xs
    have hp : 2 ^ (8 * (xs.length + 1)) = 256 * 2 ^ (8 * xs.length) := by
      rw [Nat.mul_add, Nat.pow_add]; omega
    simp only [incLE, List.length_cons, hp]
    split
    · rename_i h
      subst h
      simp only [leVal, incLE_value xs]
      have : (0xff#8).toNat = 255 := rfl
      have z : (0x00#8).toNat = 0 := rfl
      rw [this, z]
      have e : 255 + 256 * leVal xs + 1 = 256 * (leVal xs + 1) := by omega
      rw [e, Nat.mul_mod_mul_left]; omega
    · rename_i h
      have hne : x.toNat ≠ 255 := by
        intro h'; apply h
        apply BitVec.eq_of_toNat_eq; simpa using h'
      have hlt : x.toNat + 1 < 256 := by omega
      have h1 : (x + 1).toNat = x.toNat + 1 := by
        simp [BitVec.toNat_add, Nat.mod_eq_of_lt hlt]
      simp only [leVal, h1]
      rw [Nat.mod_eq_of_lt (by omega)]; omega

/-! ## Part A.2 — decryption inverts encryption -/

/-- two contexts for the same key and mode, one encrypting, one decrypting -/
structure Pair (cxe cxd : Cx) (E D : Bytes → Bytes) : Prop where
  e : Std cxe E D
  d : Std cxd E D
  bs : cxd.bs = cxe.bs
  mode : cxd.mode = cxe.mode
  de : cxe.dir = .enc
  dd : cxd.dir = .dec

/-- **ECB: decrypt ∘ encrypt = id** on every whole number of blocks. -/
theorem ecb_roundtrip {cxe cxd : Cx} {E D : Bytes → Bytes} (p : Pair cxe cxd E D) (m : Bytes)
    (hm : cxe.mode = 0) (hl : m.length % cxe.bs = 0) :
    ∃ c, ecb cxe m = .ok c ∧ ecb cxd c = .ok m := by
  have he := p.e.ecb_eq m hm hl
  rw [p.de] at he
  have hlen := ecbLoop_length E cxe.bs p.e.bs_pos p.e.lenE m hl
  refine ⟨ecbLoop E cxe.bs m, he, ?_⟩
  rw [p.d.ecb_eq _ (p.mode ▸ hm) (by rw [p.bs, hlen]; exact hl), p.dd, p.bs]
  exact congrArg Except.ok (ecbLoop_roundtrip E D cxe.bs p.e.bs_pos p.e.lenE p.e.inv m hl)

/-- **CBC: decrypt ∘ encrypt = id** on every whole number of blocks, every IV. -/
theorem cbc_roundtrip {cxe cxd : Cx} {E D : Bytes → Bytes} (p : Pair cxe cxd E D) (iv m : Bytes)
    (hm : cxe.mode = 1) (hl : m.length % cxe.bs = 0) (hiv : iv.length = cxe.bs) :
    ∃ c ive ivd, cbc cxe iv m = .ok (c, ive) ∧ cbc cxd iv c = .ok (m, ivd) := by
  obtain ⟨hcl, hrt⟩ := cbcBlocks_roundtrip E D cxe.bs p.e.bs_pos p.e.lenE p.e.inv m iv hiv hl
  have he := p.e.cbc_eq iv m hm hl hiv
  rw [p.de] at he
  refine ⟨_, _, (cbcEncBlocks E iv (chunks cxe.bs m)).2, he, ?_⟩
  rw [p.d.cbc_eq iv _ (p.mode ▸ hm) (p.bs ▸ hcl) (p.bs ▸ hiv), p.dd, p.bs]
  exact congrArg Except.ok hrt

/-- **CFB: decrypt ∘ encrypt = id for every length, from every carried state**, and both
sides end in the same caller-held state (so they stay in step over further calls). -/
theorem cfb_roundtrip {cxe cxd : Cx} {E D : Bytes → Bytes} (p : Pair cxe cxd E D) (s : IvState)
    (m : Bytes) (hm : cxe.mode = 2) (ho : s.off < cxe.bs) (hiv : s.iv.length = cxe.bs) :
    ∃ c s', cfb cxe s m = .ok (c, s') ∧ cfb cxd s c = .ok (m, s') := by
  refine ⟨_, _, p.e.cfb_eq s m hm ho hiv, ?_⟩
  rw [p.d.cfb_eq s _ (p.mode ▸ hm) (p.bs ▸ ho) (p.bs ▸ hiv), p.bs, p.de, p.dd]
  exact congrArg Except.ok (cfbLoop_roundtrip E cxe.bs m s)

/-- **OFB: applying the function twice from the same state = id**, every length, every state. -/
theorem ofb_roundtrip {cxe cxd : Cx} {E D : Bytes → Bytes} (p : Pair cxe cxd E D) (s : IvState)
    (m : Bytes) (hm : cxe.mode = 3) (ho : s.off < cxe.bs) (hiv : s.iv.length = cxe.bs) :
    ∃ c s', ofb cxe s m = .ok (c, s') ∧ ofb cxd s c = .ok (m, s') := by
  refine ⟨_, _, p.e.ofb_eq s m hm ho hiv, ?_⟩
  rw [p.d.ofb_eq s _ (p.mode ▸ hm) (p.bs ▸ ho) (p.bs ▸ hiv), p.bs]
  exact congrArg Except.ok (ofbLoop_roundtrip E cxe.bs m s)

/-- **CTR: applying the function twice from the same state = id**, every length, every state. -/
theorem ctr_roundtrip {cxe cxd : Cx} {E D : Bytes → Bytes} (p : Pair cxe cxd E D) (s : CtrState)
    (m : Bytes) (hm : cxe.mode = 4) (ho : s.off < cxe.bs) (hn : s.nonce.length = cxe.bs)
    (hsb : s.sb.length = cxe.bs) :
    ∃ c s', ctr cxe s m = .ok (c, s') ∧ ctr cxd s c = .ok (m, s') := by
  refine ⟨_, _, p.e.ctr_eq s m hm ho hn hsb, ?_⟩
  rw [p.d.ctr_eq s _ (p.mode ▸ hm) (p.bs ▸ ho) (p.bs ▸ hn) (p.bs ▸ hsb), p.bs]
  exact congrArg Except.ok (ctrLoop_roundtrip E cxe.bs m s)

/-! ## Part A.3 — any sequence of chunks = one call -/

/-- feeding a list of chunks to a stream-mode function, carrying the state; it stops at the first error, as
a caller that checks every return code -/
def feed {σ : Type} (call : σ → Bytes → Except Err (Bytes × σ)) : σ → List Bytes → Except Err (Bytes × σ)
  | s, [] => .ok ([], s)
  | s, p :: ps =>
    match call s p with
    | .error e => .error e
    | .ok (o1, s1) =>
      match feed call s1 ps with
      | .error e => .error e
      | .ok (o2, s2) => .ok (o1 ++ o2, s2)

/-- feeding chunks = one call, for a call that on states `I` and chunks `Q` (`True` for the stream
modes, whole blocks for CBC) returns the result of a loop which splits over `++` and keeps `I` -/
theorem feed_eq_call {σ : Type} {call : σ → Bytes → Except Err (Bytes × σ)}
    {loop : σ → Bytes → Bytes × σ} {I : σ → Prop} {Q : Bytes → Prop}
    (hcall : ∀ s x, I s → Q x → call s x = .ok (loop s x))
    (hI : ∀ s x, I s → Q x → I (loop s x).2)
    (hnil : ∀ s, loop s [] = ([], s)) (hQnil : Q [])
    (happ : ∀ s x y, Q x → loop s (x ++ y) =
      ((loop s x).1 ++ (loop (loop s x).2 y).1, (loop (loop s x).2 y).2))
    (hQapp : ∀ x y, Q x → Q y → Q (x ++ y)) :
    ∀ parts : List Bytes, (∀ p ∈ parts, Q p) → ∀ s, I s → feed call s parts = call s parts.flatten
  | [], _, s, hs => by rw [List.flatten_nil, hcall s [] hs hQnil, hnil]; rfl
  | p :: ps, hp, s, hs => by
    have hQ : ∀ l : List Bytes, (∀ q ∈ l, Q q) → Q l.flatten := by
      intro l
      induction l with
      | nil => intro _; exact hQnil
      | cons q l ih =>
        intro hq
        exact hQapp _ _ (hq q (by simp)) (ih fun r hr => hq r (by simp [hr]))
    have hp0 := hp p (by simp)
    have hps : ∀ q ∈ ps, Q q := fun q hq => hp q (by simp [hq])
    have hs1 := hI s p hs hp0
    rw [List.flatten_cons, hcall s _ hs (hQapp _ _ hp0 (hQ ps hps)), happ s p _ hp0]
    simp only [feed]
    rw [hcall s p hs hp0]
    dsimp only
    rw [feed_eq_call hcall hI hnil hQnil happ hQapp ps hps _ hs1, hcall _ _ hs1 (hQ ps hps)]

/-- **CFB chunking**: every partition of the message into chunks (of any sizes, empty ones
included), fed call by call with the carried `iv` / `iv_offset`, gives the bytes AND the
final state of a single call — from every starting state the function accepts, in both directions. -/
theorem cfb_chunking {cx : Cx} {E D : Bytes → Bytes} (h : Std cx E D) (hm : cx.mode = 2)
    (parts : List Bytes) : ∀ s : IvState, s.off < cx.bs → s.iv.length = cx.bs →
    feed (cfb cx) s parts = cfb cx s parts.flatten := by
  intro s ho hiv
  exact feed_eq_call (I := fun s => s.iv.length = cx.bs ∧ s.off < cx.bs) (Q := fun _ => True)
    (fun s x hs _ => h.cfb_eq s x hm hs.2 hs.1)
    (fun s x hs _ => cfbLoop_inv E cx.bs h.bs_pos _ h.lenE x s hs.1 hs.2)
    (fun _ => rfl) trivial (fun s x y _ => cfbLoop_append _ _ _ x y s) (fun _ _ _ _ => trivial)
    parts (fun _ _ => trivial) s ⟨hiv, ho⟩

/-- **OFB chunking**. -/
theorem ofb_chunking {cx : Cx} {E D : Bytes → Bytes} (h : Std cx E D) (hm : cx.mode = 3)
    (parts : List Bytes) : ∀ s : IvState, s.off < cx.bs → s.iv.length = cx.bs →
    feed (ofb cx) s parts = ofb cx s parts.flatten := by
  intro s ho hiv
  exact feed_eq_call (I := fun s => s.iv.length = cx.bs ∧ s.off < cx.bs) (Q := fun _ => True)
    (fun s x hs _ => h.ofb_eq s x hm hs.2 hs.1)
    (fun s x hs _ => ofbLoop_inv E cx.bs h.bs_pos h.lenE x s hs.1 hs.2)
    (fun _ => rfl) trivial (fun s x y _ => ofbLoop_append _ _ x y s) (fun _ _ _ _ => trivial)
    parts (fun _ _ => trivial) s ⟨hiv, ho⟩

/-- **CTR chunking**: with the carried `nonce` / `nonce_offset` / `stream_block`. -/
theorem ctr_chunking {cx : Cx} {E D : Bytes → Bytes} (h : Std cx E D) (hm : cx.mode = 4)
    (parts : List Bytes) : ∀ s : CtrState, s.off < cx.bs → s.nonce.length = cx.bs →
    s.sb.length = cx.bs → feed (ctr cx) s parts = ctr cx s parts.flatten := by
  intro s ho hn hsb
  exact feed_eq_call
    (I := fun s => s.nonce.length = cx.bs ∧ s.sb.length = cx.bs ∧ s.off < cx.bs) (Q := fun _ => True)
    (fun s x hs _ => h.ctr_eq s x hm hs.2.2 hs.1 hs.2.1)
    (fun s x hs _ => ctrLoop_inv E cx.bs h.bs_pos h.lenE x s hs.1 hs.2.1 hs.2.2)
    (fun _ => rfl) trivial (fun s x y _ => ctrLoop_append _ _ x y s) (fun _ _ _ _ => trivial)
    parts (fun _ _ => trivial) s ⟨hn, hsb, ho⟩

/-- **ECB chunking**, two chunks: chunks that are whole numbers of blocks. -/
theorem ecb_chunking {cx : Cx} {E D : Bytes → Bytes} (h : Std cx E D) (hm : cx.mode = 0)
    (a b : Bytes) (ha : a.length % cx.bs = 0) (hb : b.length % cx.bs = 0) :
    ∃ oa ob, ecb cx a = .ok oa ∧ ecb cx b = .ok ob ∧ ecb cx (a ++ b) = .ok (oa ++ ob) := by
  refine ⟨_, _, ecb_ok cx a hm ha, ecb_ok cx b hm hb, ?_⟩
  rw [ecb_ok cx (a ++ b) hm (length_append_mod ha hb),
    ecbLoop_append _ _ h.bs_pos a b ha]

/-- **CBC: any sequence of whole-block chunks = one call**, carrying the `iv`. -/
theorem cbc_chunking_list {cx : Cx} {E D : Bytes → Bytes} (h : Std cx E D) (hm : cx.mode = 1)
    (parts : List Bytes) (hp : ∀ p ∈ parts, p.length % cx.bs = 0) : ∀ iv : Bytes, iv.length = cx.bs →
    feed (fun iv p => cbc cx iv p) iv parts = cbc cx iv parts.flatten := by
  intro iv hiv
  exact feed_eq_call (call := fun iv p => cbc cx iv p) (I := fun iv => iv.length = cx.bs)
    (Q := fun p => p.length % cx.bs = 0)
    (fun iv p hiv hp => cbc_ok cx iv p hm hp hiv)
    (fun iv p hiv hp => cbcRun_iv_length cx h.bs_pos (h.len_blkF (by omega)) iv p hiv hp)
    (fun iv => by cases hd : cx.dir <;> simp [cbcRun, hd, chunks_nil, cbcEncBlocks, cbcDecBlocks])
    (Nat.zero_mod _) (fun iv x y hx => cbcRun_append cx h.bs_pos iv x y hx)
    (fun _ _ => length_append_mod) parts hp iv hiv

/-- **CBC chunking**, two chunks: the case `[a, b]` of `cbc_chunking_list`. -/
theorem cbc_chunking {cx : Cx} {E D : Bytes → Bytes} (h : Std cx E D) (hm : cx.mode = 1)
    (iv a b : Bytes) (hiv : iv.length = cx.bs) (ha : a.length % cx.bs = 0)
    (hb : b.length % cx.bs = 0) :
    ∃ oa iva ob ivb, cbc cx iv a = .ok (oa, iva) ∧ cbc cx iva b = .ok (ob, ivb) ∧
      cbc cx iv (a ++ b) = .ok (oa ++ ob, ivb) := by
  have hiva := cbcRun_iv_length cx h.bs_pos (h.len_blkF (by omega)) iv a hiv ha
  have h1 := cbc_ok cx iv a hm ha hiv
  have h2 := cbc_ok cx _ b hm hb hiva
  have hl := cbc_chunking_list h hm [a, b] (by simp [ha, hb]) iv hiv
  simp only [feed, h1, h2, List.flatten_cons, List.flatten_nil, List.append_nil] at hl
  exact ⟨_, _, _, _, h1, h2, hl.symm⟩

/-! ## Part A.4 — invalid parameters are rejected -/

/-- **ECB / CBC reject a length that is not a block multiple** (`MUGGLE_ERR_INVALID_PARAM`),
for every context, IV and message. -/
theorem ecb_rejects_length (cx : Cx) (input : Bytes) (hl : input.length % cx.bs ≠ 0) :
    ecb cx input = .error .invalidParam := by
  simp [ecb, checks_valid, Fn.modeNum, hl, bind, Except.bind]

theorem cbc_rejects_length (cx : Cx) (iv input : Bytes) (hl : input.length % cx.bs ≠ 0) :
    cbc cx iv input = .error .invalidParam := by
  simp [cbc, checks_valid, Fn.modeNum, hl, bind, Except.bind]

/-- **an offset outside the block is rejected** by CFB / OFB / CTR. -/
theorem stream_rejects_offset (cx : Cx) (iv sb input : Bytes) (off : Nat) (ho : cx.bs ≤ off) :
    cfb cx ⟨iv, off⟩ input = .error .invalidParam ∧ ofb cx ⟨iv, off⟩ input = .error .invalidParam ∧
    ctr cx ⟨iv, off, sb⟩ input = .error .invalidParam := by
  have : ¬ off < cx.bs := by omega
  simp [cfb, ofb, ctr, checks_valid, Fn.modeNum, this, bind, Except.bind]

/-- **a context set up for one mode is rejected by the functions of the other modes**. -/
theorem rejects_wrong_mode (cx : Cx) (iv sb input : Bytes) (off : Nat) :
    (cx.mode ≠ 0 → ecb cx input = .error .invalidParam) ∧
    (cx.mode ≠ 1 → cbc cx iv input = .error .invalidParam) ∧
    (cx.mode ≠ 2 → cfb cx ⟨iv, off⟩ input = .error .invalidParam) ∧
    (cx.mode ≠ 3 → ofb cx ⟨iv, off⟩ input = .error .invalidParam) ∧
    (cx.mode ≠ 4 → ctr cx ⟨iv, off, sb⟩ input = .error .invalidParam) := by
  refine ⟨?_, ?_, ?_, ?_, ?_⟩ <;> intro h <;>
    simp [ecb, cbc, cfb, ofb, ctr, checks_valid, Fn.modeNum, h, bind, Except.bind]

/-- the pointer parameters a mode function takes -/
def paramsOf : Fn → List Param
  | .ecb => [.ctx, .input, .output]
  | .cbc => [.ctx, .input, .iv, .output]
  | .cfb => [.ctx, .input, .iv, .off, .output]
  | .ofb => [.ctx, .input, .iv, .off, .output]
  | .ctr => [.ctx, .input, .iv, .off, .sb, .output]

/-- **NULL pointers are rejected, never dereferenced** (the checks of aes.c, des.c and tdes.c):
whatever else is wrong with the call, if one of the function's pointer parameters is NULL the call
returns an error code and does not crash: every parameter in `paramsOf fn` has a `notNull` line in
`checksOf fn`, and no list has a `deref` line. -/
theorem null_rejected (fn : Fn) (p : Param) (hp : p ∈ paramsOf fn) (c : Call) (hn : c.isNull p = true) :
    runChecks c (checksOf fn) = .error .nullParam ∨ runChecks c (checksOf fn) = .error .invalidParam := by
  apply rejected_of_notNull hn <;> cases fn <;> simp_all [paramsOf, checksOf]

/-- `deref_of_nullDeref`, and no list of `checksOf` has a `deref` line -/
theorem never_null_deref (fn : Fn) (c : Call) : runChecks c (checksOf fn) ≠ .error .nullDeref := by
  intro h
  obtain ⟨p, hp⟩ := deref_of_nullDeref h
  cases fn <;> simp [checksOf] at hp

/-- **negation witness**: with the check lists of an aes.c that lacks the three NULL checks
(`checksOfAesPinned`), `muggle_aes_cfb128` with `iv_offset == NULL` dereferences it (and so -ofb-,
-ctr- with `nonce`); the calls are corpus/C12/aes-cfb-null-iv_offset.ops,
aes-ofb-null-iv_offset.ops, aes-ctr-null-nonce.ops. -/
theorem pinned_aes_null_deref :
    runChecks { isNull := fun q => q == .off, modeOk := true, lenOk := true, offOk := true }
      (checksOfAesPinned .cfb) = .error .nullDeref ∧
    runChecks { isNull := fun q => q == .off, modeOk := true, lenOk := true, offOk := true }
      (checksOfAesPinned .ofb) = .error .nullDeref ∧
    runChecks { isNull := fun q => q == .iv, modeOk := true, lenOk := true, offOk := true }
      (checksOfAesPinned .ctr) = .error .nullDeref := ⟨rfl, rfl, rfl⟩

/-! ## Part B — the three set-key functions yield standard contexts for the FIPS ciphers -/

theorem dirOfNat_eq_none {op : Int} (h0 : op ≠ 0) (h1 : op ≠ 1) : dirOfNat op = none := by
  unfold dirOfNat; split <;> simp_all

/-- **FIPS-197: `InvCipher(Cipher(b, KeyExpansion(key)), KeyExpansion(key)) = b`** for every
16-, 24- or 32-byte key and every 16-byte block. -/
theorem aes_decrypt_encrypt (key b : Bytes) (hk : key.length = 16 ∨ key.length = 24 ∨ key.length = 32)
    (hb : b.length = 16) : Aes.decryptBlock key (Aes.encryptBlock key b) = b :=
  invCipher_cipher _ b (keyExpansion_len key hk) hb

theorem aesSetKey_ok {op mode bits : Int} {key : Bytes} {cx : Cx} (h : aesSetKey op mode bits key = .ok cx) :
    ∃ dir, dirOfNat op = some dir ∧ 0 ≤ mode ∧ mode < 5 ∧ (bits = 128 ∨ bits = 192 ∨ bits = 256) ∧
      bits.toNat / 8 ≤ key.length ∧
      cx = { bs := 16, dir := dir, mode := mode.toNat,
             blkF := (match dir with
               | .enc => Aes.cipher (Aes.keyExpansion (key.take (bits.toNat / 8)))
               | .dec => Aes.invCipher (Aes.keyExpansion (key.take (bits.toNat / 8)))),
             strF := Aes.cipher (Aes.keyExpansion (key.take (bits.toNat / 8))) } := by
  unfold aesSetKey at h
  split at h
  · cases h
  · rename_i dir hd
    split at h
    · cases h
    · split at h
      · cases h
      · split at h
        · cases h
        · rename_i h1 h2 h3
          injection h with h
          exact ⟨dir, hd, by omega, by omega, by omega, by omega, h.symm⟩

theorem aes_context {op mode bits : Int} {key : Bytes} {cx : Cx}
    (h : aesSetKey op mode bits key = .ok cx) :
    cx.bs = 16 ∧ cx.mode = mode.toNat ∧ dirOfNat op = some cx.dir ∧
      Std cx (Aes.encryptBlock (key.take (bits.toNat / 8))) (Aes.decryptBlock (key.take (bits.toNat / 8))) := by
  obtain ⟨dir, hd, _, _, hb, hl, rfl⟩ := aesSetKey_ok h
  have hk : (key.take (bits.toNat / 8)).length = 16 ∨ (key.take (bits.toNat / 8)).length = 24 ∨
      (key.take (bits.toNat / 8)).length = 32 := by
    rw [List.length_take, Nat.min_eq_left hl]
    rcases hb with rfl | rfl | rfl <;> decide
  have hks := keyExpansion_len _ hk
  refine ⟨rfl, rfl, hd, ⟨Nat.zero_lt_succ 15, ?_, ?_, ?_, ?_, ?_⟩⟩
  · intro _; cases dir <;> rfl
  · intro _; rfl
  · intro b hb'; exact cipher_length _ b hks hb'
  · intro b hb'; exact invCipher_length _ b hks hb'
  · intro b hb'; exact aes_decrypt_encrypt _ b hk hb'

/-- **`muggle_aes_set_key` yields a standard context** for `E = Cipher`, `D = InvCipher` under
the FIPS-197 key expansion of the first `bits/8` key bytes — for every key. -/
theorem aes_context_standard {op mode bits : Int} {key : Bytes} {cx : Cx}
    (h : aesSetKey op mode bits key = .ok cx) :
    cx.bs = 16 ∧ Std cx (Aes.encryptBlock (key.take (bits.toNat / 8)))
      (Aes.decryptBlock (key.take (bits.toNat / 8))) :=
  ⟨(aes_context h).1, (aes_context h).2.2.2⟩

theorem desSetKey_ok {op mode : Int} {key : Bytes} {cx : Cx} (h : desSetKey op mode key = .ok cx) :
    ∃ dir, dirOfNat op = some dir ∧ key.length = 8 ∧ 0 ≤ mode ∧ mode < 5 ∧
      cx = { bs := 8, dir := dir, mode := mode.toNat,
             blkF := Des.cryptBlock (desSchedule dir mode.toNat key),
             strF := Des.cryptBlock (desSchedule dir mode.toNat key) } := by
  unfold desSetKey at h
  split at h
  · cases h
  · rename_i dir hd
    split at h
    · cases h
    · split at h
      · cases h
      · rename_i h1 h2
        injection h with h
        exact ⟨dir, hd, by simpa using h1, by omega, by omega, h.symm⟩

theorem des_context {op mode : Int} {key : Bytes} {cx : Cx}
    (h : desSetKey op mode key = .ok cx) :
    cx.bs = 8 ∧ cx.mode = mode.toNat ∧ dirOfNat op = some cx.dir ∧
      Std cx (Des.encryptBlock key) (Des.decryptBlock key) := by
  obtain ⟨dir, hd, _, _, _, rfl⟩ := desSetKey_ok h
  refine ⟨rfl, rfl, hd, ⟨Nat.zero_lt_succ 7, ?_, ?_, ?_, ?_, ?_⟩⟩
  · intro hm
    have hm' : mode.toNat ≤ 1 := hm
    cases dir <;> simp [desSchedule, hm'] <;> rfl
  · intro hm
    have hm' : ¬ mode.toNat ≤ 1 := by have : 2 ≤ mode.toNat := hm; omega
    simp [desSchedule, hm']; rfl
  · intro b _; exact encryptBlock_length key b
  · intro b _; exact decryptBlock_length key b
  · intro b hb; exact des_decrypt_encrypt key b hb

/-- **`muggle_des_set_key` yields a standard context** for FIPS 46-3 enciphering /
deciphering under the key: the schedule is reversed exactly for a decrypting ECB / CBC
context, and CFB / OFB / CTR contexts get the enciphering schedule in both directions. -/
theorem des_context_standard {op mode : Int} {key : Bytes} {cx : Cx}
    (h : desSetKey op mode key = .ok cx) :
    cx.bs = 8 ∧ Std cx (Des.encryptBlock key) (Des.decryptBlock key) :=
  ⟨(des_context h).1, (des_context h).2.2.2⟩

theorem tdesSetKey_ok {op mode : Int} {k1 k2 k3 : Bytes} {cx : Cx}
    (h : tdesSetKey op mode k1 k2 k3 = .ok cx) :
    ∃ dir, dirOfNat op = some dir ∧ 0 ≤ mode ∧ mode < 5 ∧
      cx = (let F := if mode ≤ 1 then
                match dir with
                | .enc => tdesCrypt (desSchedule .enc 0 k1) (desSchedule .dec 0 k2) (desSchedule .enc 0 k3)
                | .dec => tdesCrypt (desSchedule .dec 0 k3) (desSchedule .enc 0 k2) (desSchedule .dec 0 k1)
              else tdesCrypt (desSchedule .enc 0 k1) (desSchedule .dec 0 k2) (desSchedule .enc 0 k3)
            { bs := 8, dir := dir, mode := mode.toNat, blkF := F, strF := F }) := by
  unfold tdesSetKey at h
  split at h
  · cases h
  · rename_i dir hd
    split at h
    · cases h
    · split at h
      · cases h
      · rename_i h1 h2
        injection h with h
        exact ⟨dir, hd, by omega, by omega, h.symm⟩

theorem tdes_context {op mode : Int} {k1 k2 k3 : Bytes} {cx : Cx}
    (h : tdesSetKey op mode k1 k2 k3 = .ok cx) :
    cx.bs = 8 ∧ cx.mode = mode.toNat ∧ dirOfNat op = some cx.dir ∧
      Std cx (Des.tdesEncryptBlock k1 k2 k3) (Des.tdesDecryptBlock k1 k2 k3) := by
  obtain ⟨dir, hd, h0, _, rfl⟩ := tdesSetKey_ok h
  have hE : tdesCrypt (desSchedule .enc 0 k1) (desSchedule .dec 0 k2) (desSchedule .enc 0 k3) =
      Des.tdesEncryptBlock k1 k2 k3 := rfl
  have hD : tdesCrypt (desSchedule .dec 0 k3) (desSchedule .enc 0 k2) (desSchedule .dec 0 k1) =
      Des.tdesDecryptBlock k1 k2 k3 := rfl
  refine ⟨rfl, rfl, hd, ⟨Nat.zero_lt_succ 7, ?_, ?_, ?_, ?_, ?_⟩⟩
  · intro hm
    have hm' : mode ≤ 1 := by have : mode.toNat ≤ 1 := hm; omega
    cases dir <;> simp [hm', hE, hD]
  · intro hm
    have hm' : ¬ mode ≤ 1 := by have : 2 ≤ mode.toNat := hm; omega
    simp [hm', hE]
  · intro b _; exact encryptBlock_length _ _
  · intro b _; exact decryptBlock_length _ _
  · intro b hb; exact tdes_decrypt_encrypt k1 k2 k3 b hb

/-- **`muggle_tdes_set_key` yields a standard context** for TDEA (EDE) encryption
`E_K3(D_K2(E_K1(·)))` and its inverse `D_K1(E_K2(D_K3(·)))`, for all three keys. -/
theorem tdes_context_standard {op mode : Int} {k1 k2 k3 : Bytes} {cx : Cx}
    (h : tdesSetKey op mode k1 k2 k3 = .ok cx) :
    cx.bs = 8 ∧ Std cx (Des.tdesEncryptBlock k1 k2 k3) (Des.tdesDecryptBlock k1 k2 k3) :=
  ⟨(tdes_context h).1, (tdes_context h).2.2.2⟩

/-- `muggle_aes_set_key`: an operation other than 0/1, a mode outside 0..4, or a key size
other than 128/192/256 bits is rejected. -/
theorem aes_setkey_rejects (op mode bits : Int) (key : Bytes) :
    ((op ≠ 0 ∧ op ≠ 1) → aesSetKey op mode bits key = .error .invalidParam) ∧
    ((op = 0 ∨ op = 1) → (mode < 0 ∨ 5 ≤ mode) → aesSetKey op mode bits key = .error .invalidParam) ∧
    ((op = 0 ∨ op = 1) → (0 ≤ mode ∧ mode < 5) → (bits ≠ 128 ∧ bits ≠ 192 ∧ bits ≠ 256) →
      aesSetKey op mode bits key = .error .keySize) := by
  refine ⟨?_, ?_, ?_⟩
  · intro ⟨h0, h1⟩
    simp [aesSetKey, dirOfNat_eq_none h0 h1]
  · intro ho hm
    rcases ho with rfl | rfl <;> simp [aesSetKey, dirOfNat] <;> omega
  · intro ho hm hb
    have h1 : ¬ (mode < 0 ∨ mode ≥ 5) := by omega
    have h2 : ¬ (bits = 128 ∨ bits = 192 ∨ bits = 256) := by omega
    rcases ho with rfl | rfl <;> simp [aesSetKey, dirOfNat, h1, h2]

/-- `muggle_des_set_key` / `muggle_tdes_set_key`: bad operation or mode is rejected. -/
theorem des_setkey_rejects (op mode : Int) (key k1 k2 k3 : Bytes) (hk : key.length = 8)
    (h1 : k1.length = 8) (h2 : k2.length = 8) (h3 : k3.length = 8) :
    ((op ≠ 0 ∧ op ≠ 1) → desSetKey op mode key = .error .invalidParam ∧
        tdesSetKey op mode k1 k2 k3 = .error .invalidParam) ∧
    ((op = 0 ∨ op = 1) → (mode < 0 ∨ 5 ≤ mode) → desSetKey op mode key = .error .invalidParam ∧
        tdesSetKey op mode k1 k2 k3 = .error .invalidParam) := by
  refine ⟨?_, ?_⟩
  · intro ⟨h0, h1'⟩
    simp [desSetKey, tdesSetKey, dirOfNat_eq_none h0 h1']
  · intro ho hm
    have hm' : mode < 0 ∨ mode ≥ 5 := by omega
    rcases ho with rfl | rfl <;> simp [desSetKey, tdesSetKey, dirOfNat, hk, h1, h2, h3, hm']

theorem aes_pair {mode bits : Int} {key : Bytes} {cxe cxd : Cx}
    (he : aesSetKey 1 mode bits key = .ok cxe) (hd : aesSetKey 0 mode bits key = .ok cxd) :
    Pair cxe cxd (Aes.encryptBlock (key.take (bits.toNat / 8))) (Aes.decryptBlock (key.take (bits.toNat / 8))) := by
  obtain ⟨be, me, de, se⟩ := aes_context he
  obtain ⟨bd, md, dd, sd⟩ := aes_context hd
  exact ⟨se, sd, bd.trans be.symm, md.trans me.symm, (Option.some.inj de).symm, (Option.some.inj dd).symm⟩

theorem des_pair {mode : Int} {key : Bytes} {cxe cxd : Cx}
    (he : desSetKey 1 mode key = .ok cxe) (hd : desSetKey 0 mode key = .ok cxd) :
    Pair cxe cxd (Des.encryptBlock key) (Des.decryptBlock key) := by
  obtain ⟨be, me, de, se⟩ := des_context he
  obtain ⟨bd, md, dd, sd⟩ := des_context hd
  exact ⟨se, sd, bd.trans be.symm, md.trans me.symm, (Option.some.inj de).symm, (Option.some.inj dd).symm⟩

theorem tdes_pair {mode : Int} {k1 k2 k3 : Bytes} {cxe cxd : Cx}
    (he : tdesSetKey 1 mode k1 k2 k3 = .ok cxe) (hd : tdesSetKey 0 mode k1 k2 k3 = .ok cxd) :
    Pair cxe cxd (Des.tdesEncryptBlock k1 k2 k3) (Des.tdesDecryptBlock k1 k2 k3) := by
  obtain ⟨be, me, de, se⟩ := tdes_context he
  obtain ⟨bd, md, dd, sd⟩ := tdes_context hd
  exact ⟨se, sd, bd.trans be.symm, md.trans me.symm, (Option.some.inj de).symm, (Option.some.inj dd).symm⟩

/-! ## Part C — end to end, from `set_key` to the standards: A ∘ B at two of the fifteen cipher × mode pairs -/

theorem aesSetKey_succeeds (op mode bits : Int) (key : Bytes) (ho : op = 0 ∨ op = 1)
    (hm : 0 ≤ mode ∧ mode < 5) (hb : bits = 128 ∨ bits = 192 ∨ bits = 256)
    (hk : bits.toNat / 8 ≤ key.length) : ∃ cx, aesSetKey op mode bits key = .ok cx := by
  have h1 : ¬ (mode < 0 ∨ mode ≥ 5) := by omega
  have h2 : ¬ key.length < bits.toNat / 8 := by omega
  rcases ho with rfl | rfl <;> simp [aesSetKey, dirOfNat, h1, hb, h2]

theorem desSetKey_succeeds (op mode : Int) (key : Bytes) (ho : op = 0 ∨ op = 1)
    (hm : 0 ≤ mode ∧ mode < 5) (hk : key.length = 8) : ∃ cx, desSetKey op mode key = .ok cx := by
  have h1 : ¬ (mode < 0 ∨ mode ≥ 5) := by omega
  rcases ho with rfl | rfl <;> simp [desSetKey, dirOfNat, h1, hk]

theorem tdesSetKey_succeeds (op mode : Int) (k1 k2 k3 : Bytes) (ho : op = 0 ∨ op = 1)
    (hm : 0 ≤ mode ∧ mode < 5) (h1 : k1.length = 8) (h2 : k2.length = 8) (h3 : k3.length = 8) :
    ∃ cx, tdesSetKey op mode k1 k2 k3 = .ok cx := by
  have h : ¬ (mode < 0 ∨ mode ≥ 5) := by omega
  rcases ho with rfl | rfl <;> simp [tdesSetKey, dirOfNat, h, h1, h2, h3]

/-- **AES-CBC, end to end**: for every key size, key, IV and whole-block message the
encrypting context produces exactly SP 800-38A CBC over the FIPS-197 cipher, and the
decrypting context maps that ciphertext back to the message. -/
theorem aes_cbc_end_to_end (bits : Int) (key iv m : Bytes)
    (hb : bits = 128 ∨ bits = 192 ∨ bits = 256) (hk : key.length = bits.toNat / 8)
    (hiv : iv.length = 16) (hm : m.length % 16 = 0) :
    ∃ cxe cxd c, aesSetKey 1 1 bits key = .ok cxe ∧ aesSetKey 0 1 bits key = .ok cxd ∧
      c = (Spec.cbcEnc (Aes.encryptBlock key) iv (chunks 16 m)).flatten ∧
      (cbc cxe iv m).map Prod.fst = .ok c ∧ (cbc cxd iv c).map Prod.fst = .ok m := by
  obtain ⟨cxe, he⟩ := aesSetKey_succeeds 1 1 bits key (by omega) (by omega) hb (by omega)
  obtain ⟨cxd, hd⟩ := aesSetKey_succeeds 0 1 bits key (by omega) (by omega) hb (by omega)
  have htake : key.take (bits.toNat / 8) = key := List.take_of_length_le (by omega)
  have p := aes_pair he hd
  rw [htake] at p
  obtain ⟨hbs, hmode, _⟩ := aes_context he
  have hstd := cbc_standard p.e iv m hmode (hbs ▸ hm) (hbs ▸ hiv)
  obtain ⟨c, ive, ivd, h1, h2⟩ := cbc_roundtrip p iv m hmode (hbs ▸ hm) (hbs ▸ hiv)
  refine ⟨cxe, cxd, c, he, hd, ?_, ?_, ?_⟩
  · rw [h1, p.de, hbs] at hstd
    simpa [Except.map] using hstd
  · rw [h1]; rfl
  · rw [h2]; rfl

/-- **Triple-DES CFB, end to end, chunked**: for all three keys, every IV, every message
of every length and every way of cutting it into chunks, feeding the chunks to the
encrypting context gives SP 800-38A CFB-64 over TDEA, and the decrypting context fed the
whole ciphertext in one call returns the message. -/
theorem tdes_cfb_end_to_end (k1 k2 k3 iv : Bytes) (parts : List Bytes)
    (h1 : k1.length = 8) (h2 : k2.length = 8) (h3 : k3.length = 8) (hiv : iv.length = 8) :
    ∃ cxe cxd c s', tdesSetKey 1 2 k1 k2 k3 = .ok cxe ∧ tdesSetKey 0 2 k1 k2 k3 = .ok cxd ∧
      c = (Spec.cfbEnc (Des.tdesEncryptBlock k1 k2 k3) iv (chunks 8 parts.flatten)).flatten ∧
      feed (cfb cxe) ⟨iv, 0⟩ parts = .ok (c, s') ∧ cfb cxd ⟨iv, 0⟩ c = .ok (parts.flatten, s') := by
  obtain ⟨cxe, he⟩ := tdesSetKey_succeeds 1 2 k1 k2 k3 (by omega) (by omega) h1 h2 h3
  obtain ⟨cxd, hd⟩ := tdesSetKey_succeeds 0 2 k1 k2 k3 (by omega) (by omega) h1 h2 h3
  have p := tdes_pair he hd
  obtain ⟨hbs, hmode, _⟩ := tdes_context he
  have hchunk := cfb_chunking p.e hmode parts ⟨iv, 0⟩ (hbs ▸ Nat.zero_lt_succ 7) (hbs ▸ hiv)
  have hstd := cfb_standard p.e iv parts.flatten hmode (hbs ▸ hiv)
  obtain ⟨c, s', hc1, hc2⟩ := cfb_roundtrip p ⟨iv, 0⟩ parts.flatten hmode (hbs ▸ Nat.zero_lt_succ 7)
    (hbs ▸ hiv)
  refine ⟨cxe, cxd, c, s', he, hd, ?_, ?_, hc2⟩
  · rw [hc1, p.de, hbs] at hstd
    simpa [Except.map] using hstd
  · rw [hchunk, hc1]

/-! ## non-vacuity: concrete contexts satisfy the hypotheses used above -/

/-- a standard AES-256 CTR context exists (all-zero key) -/
example : ∃ cx, aesSetKey 1 4 256 (List.replicate 32 0) = .ok cx ∧ cx.bs = 16 ∧ cx.mode = 4 ∧
    Std cx (Aes.encryptBlock (List.replicate 32 0)) (Aes.decryptBlock (List.replicate 32 0)) := by
  obtain ⟨cx, h⟩ := aesSetKey_succeeds 1 4 256 (List.replicate 32 0) (by omega) (by omega) (by omega)
    (by decide)
  obtain ⟨hbs, hmode, _, hs⟩ := aes_context h
  exact ⟨cx, h, hbs, hmode, by simpa using hs⟩

/-- a DES pair (weak key 0101..01, CBC) exists -/
example : ∃ cxe cxd, desSetKey 1 1 (List.replicate 8 1) = .ok cxe ∧ desSetKey 0 1 (List.replicate 8 1) = .ok cxd ∧
    Pair cxe cxd (Des.encryptBlock (List.replicate 8 1)) (Des.decryptBlock (List.replicate 8 1)) := by
  obtain ⟨cxe, he⟩ := desSetKey_succeeds 1 1 (List.replicate 8 1) (by omega) (by omega) (by decide)
  obtain ⟨cxd, hd⟩ := desSetKey_succeeds 0 1 (List.replicate 8 1) (by omega) (by omega) (by decide)
  exact ⟨cxe, cxd, he, hd, des_pair he hd⟩

/-- a chunk list to read the chunking theorems on: 21 bytes, an empty chunk, no cut at a block boundary -/
example : (([[1, 2, 3], [], List.replicate 18 7] : List Bytes).flatten.length = 21) := by decide

/-- the counter wraps: incrementing the all-ones 64-bit nonce gives zero -/
example : incLE (List.replicate 8 0xff#8) = List.replicate 8 0x00#8 := by decide

end MgProof.C12
