import MgModel.C12.Basic
/-!
# C12 — facts about finite tables: from one evaluation to a statement about every entry
-/
namespace MgProof.C12
open MgModel.C12

theorem forall_lt {n : Nat} {P : Nat → Prop} [DecidablePred P]
    (h : (List.range n).all (fun i => decide (P i)) = true) (i : Nat) (hi : i < n) : P i :=
  of_decide_eq_true (List.all_eq_true.mp h i (List.mem_range.mpr hi))

theorem forall_byte {P : Byte → Prop} [DecidablePred P]
    (h : (List.range 256).all (fun n => decide (P (BitVec.ofNat 8 n))) = true) (b : Byte) : P b := by
  simpa using forall_lt h b.toNat b.isLt

theorem getElem?_map_range {α} (f : Nat → α) {n i : Nat} (hi : i < n) :
    ((List.range n).map f)[i]? = some (f i) := by
  simp [hi]

/-- a table of bytes as one number, entry `i` in bits `8i .. 8i+7`: an entry is then one shift for the
kernel, where a list is walked -/
def pack : List Nat → Nat
  | [] => 0
  | v :: l => v + 256 * pack l

theorem pack_getD : ∀ (l : List Nat), (∀ v ∈ l, v < 256) → ∀ i, (pack l >>> (8 * i)) % 256 = l.getD i 0
  | [], _, i => by simp [pack]
  | v :: l, h, 0 => by
    have := h v (by simp)
    simp [pack]; omega
  | v :: l, h, i + 1 => by
    have hv := h v (by simp)
    have ih := pack_getD l (fun w hw => h w (by simp [hw])) i
    have e : (v + 256 * pack l) >>> (8 * (i + 1)) = pack l >>> (8 * i) := by
      rw [show 8 * (i + 1) = 8 + 8 * i by omega, Nat.shiftRight_add]
      congr 1
      rw [Nat.shiftRight_eq_div_pow]; omega
    simp only [pack, e, ih]
    simp

theorem ofNat_getD_eq_pack (t : List Nat) (ht : ∀ v ∈ t, v < 256) (i : Nat) :
    BitVec.ofNat 8 (t.getD i 0) = BitVec.ofNat 8 (pack t >>> (8 * i)) := by
  rw [← pack_getD t ht]; apply BitVec.eq_of_toNat_eq; simp

end MgProof.C12
