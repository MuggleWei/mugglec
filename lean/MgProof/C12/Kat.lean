import MgProof.C12.LemmasAesKey
import MgProof.C12.LemmasAesEval
import MgProof.C12.LemmasDesEval
/-!
# C12 — known-answer vectors of the standards, evaluated by the kernel

These are TESTS (finitely many inputs), not part of the property theorems: they pin the
Lean transcription of FIPS-197 / FIPS 46-3 in `MgModel/C12/{Aes,Des}.lean` to the
standards' published examples.  (`decide +kernel` = evaluation by the kernel alone, no
`native_decide`; what is evaluated are the equal forms of `LemmasAesEval` / `LemmasDesEval`.)
-/
namespace MgProof.C12.Kat
open MgModel.C12

def hexb (s : String) : Bytes := (bytesOfHex s).getD []

/-- a literal is `String.ofList` of its characters: parsing these spares the kernel `String.toList` -/
theorem hexb_ofList (l : List Char) :
    hexb (String.ofList l) = (if String.ofList l = "-" then some [] else bytesOfHexChars l).getD [] := by
  simp [hexb, bytesOfHex]

/-- FIPS-197 Appendix C.1 (AES-128) -/
theorem kat_aes128 : Aes.encryptBlock (hexb "000102030405060708090a0b0c0d0e0f")
    (hexb "00112233445566778899aabbccddeeff") = hexb "69c4e0d86a7b0430d8cdb78070b4c55a" := by
  rw [encryptBlock_eq_fast, hexb_ofList, hexb_ofList, hexb_ofList]; decide +kernel

/-- FIPS-197 Appendix C.2 (AES-192) -/
theorem kat_aes192 : Aes.encryptBlock (hexb "000102030405060708090a0b0c0d0e0f1011121314151617")
    (hexb "00112233445566778899aabbccddeeff") = hexb "dda97ca4864cdfe06eaf70a0ec0d7191" := by
  rw [encryptBlock_eq_fast, hexb_ofList, hexb_ofList, hexb_ofList]; decide +kernel

/-- FIPS-197 Appendix C.3 (AES-256) -/
theorem kat_aes256 :
    Aes.encryptBlock (hexb "000102030405060708090a0b0c0d0e0f101112131415161718191a1b1c1d1e1f")
    (hexb "00112233445566778899aabbccddeeff") = hexb "8ea2b7ca516745bfeafc49904b496089" := by
  rw [encryptBlock_eq_fast, hexb_ofList, hexb_ofList, hexb_ofList]; decide +kernel

/-- FIPS-197 Appendix C.1, inverse cipher (from `kat_aes128` and `invCipher_cipher`) -/
theorem kat_aes128_inv : Aes.decryptBlock (hexb "000102030405060708090a0b0c0d0e0f")
    (hexb "69c4e0d86a7b0430d8cdb78070b4c55a") = hexb "00112233445566778899aabbccddeeff" := by
  rw [← kat_aes128]
  exact invCipher_cipher _ _
    (keyExpansion_len _ (by rw [hexb_ofList]; decide +kernel))
    (by rw [hexb_ofList]; decide +kernel)

/-- FIPS-197 Appendix A.1: last round key of the AES-128 key expansion example -/
theorem kat_aes128_keyexp :
    (Aes.keyExpansion (hexb "2b7e151628aed2a6abf7158809cf4f3c")).getLast? =
      some (hexb "d014f9a8c9ee2589e13f0cc8b6630ca6") := by
  rw [keyExpansion_eq_fast, hexb_ofList, hexb_ofList]; decide +kernel

/-- the classic DES worked example (key 133457799BBCDFF1) -/
theorem kat_des : Des.encryptBlock (hexb "133457799bbcdff1") (hexb "0123456789abcdef")
    = hexb "85e813540f0ab405" := by
  simp only [Des.encryptBlock, keySchedule_eq_fast, cryptBlock_eq_fast]
  rw [hexb_ofList, hexb_ofList, hexb_ofList]; decide +kernel

/-- DES "Now is t" under 0123456789ABCDEF (FIPS 81 example) -/
theorem kat_des2 : Des.encryptBlock (hexb "0123456789abcdef") (hexb "4e6f772069732074")
    = hexb "3fa40e8a984d4815" := by
  simp only [Des.encryptBlock, keySchedule_eq_fast, cryptBlock_eq_fast]
  rw [hexb_ofList, hexb_ofList, hexb_ofList]; decide +kernel

/-- TDEA three-key sample (SP 800-67): "The quic" -/
theorem kat_tdes : Des.tdesEncryptBlock (hexb "0123456789abcdef") (hexb "23456789abcdef01")
    (hexb "456789abcdef0123") (hexb "5468652071756663") = hexb "a826fd8ce53b855f" := by
  simp only [Des.tdesEncryptBlock, Des.encryptBlock, Des.decryptBlock, keySchedule_eq_fast,
    cryptBlock_eq_fast]
  rw [hexb_ofList, hexb_ofList, hexb_ofList, hexb_ofList, hexb_ofList]; decide +kernel

end MgProof.C12.Kat
