import MgProof.C12.LemmasDesEval
import MgProof.C12.LemmasAes
/-!
# C12 — three facts that shrink the trusted part: the 3DES single-IP/FP shortcut of the
compiled code is sound, its SP tables are `P ∘ S_i`, and the AES S-box table is the algebraic
S-box of FIPS-197
-/
namespace MgProof.C12
open MgModel.C12 MgModel.C12.Des MgModel.C12.Tables

/-- **the inner `IP ∘ IP⁻¹` pairs of three chained DES operations cancel**: one initial
permutation, three 16-round cores, one final permutation compute `DES_K3 ∘ DES_K2 ∘ DES_K1`
(this is the shortcut `muggle_openssl_tdes_crypt` takes). -/
theorem tdes_single_ip_fp (ks1 ks2 ks3 : List Bits) (x : Bits) :
    permute desFP (core ks3 (core ks2 (core ks1 (permute desIP x)))) =
      cryptBits ks3 (cryptBits ks2 (cryptBits ks1 x)) := by
  have h1 := core_length ks1 _ (ip_length x)
  rw [cryptBits_eq_core ks3, cryptBits_eq_core ks2, cryptBits_eq_core ks1, ip_fp _ h1,
    ip_fp _ (core_length ks2 _ h1)]

/-! ## the combined S-box/P tables of the compiled DES core are `P ∘ S_i` of FIPS 46-3

Representation used by `openssl_des.c` for a 32-bit half block: FIPS bit `q` (1 = most
significant) sits at bit `(q + 2) mod 32` of the machine word (LSB-first numbering, then
`ROTATE(x, 29)`); the 6-bit table index holds the S-box input `b1..b6` LSB first. -/

/-- the machine word of a FIPS-numbered 32-bit string -/
def osslWord (x : Bits) : Nat :=
  ((List.range 32).map fun q => if x.getD q false then 2 ^ ((q + 3) % 32) else 0).sum

/-- `P(0..0 S_i(b1..b6) 0..0)`: the contribution of S-box `i` to `f(R, K)` -/
def spSpec (i idx : Nat) : Bits :=
  let inp := (List.range 6).map fun k => idx.testBit k
  let out := sboxOne (desSbox.getD i []) inp
  permute desP (List.replicate (4 * i) false ++ out ++ List.replicate (28 - 4 * i) false)

/-- the word of `P(0..0 n 0..0)`, `n` the output nibble of S-box `i` -/
def spWord (i n : Nat) : Nat :=
  osslWord (permute desP (List.replicate (4 * i) false ++ natBits 4 n ++ List.replicate (28 - 4 * i) false))

/-- the S-box entry for the index `idx` (`b1..b6`, LSB first) -/
def sEntry (i idx : Nat) : Nat :=
  (desSbox.getD i []).getD (16 * bitsVal [idx.testBit 0, idx.testBit 5] +
    bitsVal [idx.testBit 1, idx.testBit 2, idx.testBit 3, idx.testBit 4]) 0

theorem osslWord_spSpec (i idx : Nat) : osslWord (spSpec i idx) = spWord i (sEntry i idx) := rfl

/-- stated through the list of the sixteen words of a box so that the kernel (which caches by
term) computes 128 words, not 512 -/
theorem sptrans_nibbles : ∀ i, i < 8 → ∀ v, v < 64 → sEntry i v < 16 ∧
    (osslSPtrans.getD i []).getD v 0 = ((List.range 16).map (spWord i)).getD (sEntry i v) 0 := by
  unfold spWord osslWord
  simp only [permute_eq_fast, ← testBit_bitsNat]
  decide +kernel

/-- **`openssl_des_sptrans[i][v] = word(P(S_i(v)))`** for all 8 x 64 entries (tables of tie A) -/
theorem sptrans_is_P_after_S (i : Nat) (hi : i < 8) (v : Nat) (hv : v < 64) :
    (osslSPtrans.getD i []).getD v 0 = osslWord (spSpec i v) := by
  obtain ⟨hn, h⟩ := sptrans_nibbles i hi v hv
  rw [h, osslWord_spSpec, List.getD_eq_getElem?_getD, getElem?_map_range _ hn]; rfl

/-! ## the AES S-box table is the algebraic S-box of FIPS-197 §5.1.1 -/

open MgModel.C12.Aes

/-- `x^254` in GF(2^8) (the multiplicative inverse, 0 ↦ 0) by square and multiply -/
def gpow254 (x : Byte) : Byte :=
  let m (a b : Byte) : Byte := gmul a.toNat b
  let x2 := m x x; let x4 := m x2 x2; let x8 := m x4 x4; let x16 := m x8 x8
  let x32 := m x16 x16; let x64 := m x32 x32; let x128 := m x64 x64
  m x128 (m x64 (m x32 (m x16 (m x8 (m x4 x2)))))

/-- the affine transformation (5.1): `b'_i = b_i ⊕ b_{i+4} ⊕ b_{i+5} ⊕ b_{i+6} ⊕ b_{i+7} ⊕ c_i`, c = 0x63 -/
def affine (b : Byte) : Byte :=
  b ^^^ b.rotateLeft 1 ^^^ b.rotateLeft 2 ^^^ b.rotateLeft 3 ^^^ b.rotateLeft 4 ^^^ 0x63#8

/-! `xtime` and `gmul` on the numbers of the bytes: `BitVec` operations and `if a % 2 = 1` unfold through
several layers at each of the 256 · 14 · 8 steps `sbox_sweep` evaluates -/

def xtimeN (b : Nat) : Nat := (2 * b % 256) ^^^ (b / 128 * 27)

def gmulAuxN : Nat → Nat → Nat → Nat
  | 0, _, _ => 0
  | fuel + 1, a, b => (a % 2 * b) ^^^ gmulAuxN fuel (a / 2) (xtimeN b)

theorem xtime_toNat (b : Byte) : (xtime b).toNat = xtimeN b.toNat := by
  have hb := b.isLt
  have e : b.toNat / 128 * 27 = if 128 ≤ b.toNat then 27 else 0 := by split <;> omega
  rw [xtime, xtimeN, e, BitVec.toNat_xor, BitVec.toNat_shiftLeft, BitVec.msb_eq_decide, Nat.shiftLeft_eq,
    Nat.mul_comm]
  by_cases h : 128 ≤ b.toNat <;> simp [h]

theorem gmulAux_toNat (fuel : Nat) : ∀ (a : Nat) (b : Byte),
    (gmulAux fuel a b).toNat = gmulAuxN fuel a b.toNat := by
  induction fuel with
  | zero => intro a b; rfl
  | succ f ih =>
    intro a b
    rw [gmulAux, gmulAuxN, BitVec.toNat_xor, ih, xtime_toNat]
    rcases Nat.mod_two_eq_zero_or_one a with h | h <;> simp [h]

theorem gmul_eq (a : Nat) (b : Byte) : gmul a b = BitVec.ofNat 8 (gmulAuxN 8 a b.toNat) := by
  rw [← gmulAux_toNat, BitVec.ofNat_toNat, BitVec.setWidth_eq]; rfl

def pow254N (x : Nat) : Nat :=
  let m := gmulAuxN 8
  let x2 := m x x; let x4 := m x2 x2; let x8 := m x4 x4; let x16 := m x8 x8
  let x32 := m x16 x16; let x64 := m x32 x32; let x128 := m x64 x64
  m x128 (m x64 (m x32 (m x16 (m x8 (m x4 x2)))))

theorem gpow254_toNat (x : Byte) : (gpow254 x).toNat = pow254N x.toNat := by
  simp only [gpow254, pow254N, gmul, gmulAux_toNat]

theorem gpow254_eq (x : Byte) : gpow254 x = BitVec.ofNat 8 (pow254N x.toNat) := by
  rw [← gpow254_toNat, BitVec.ofNat_toNat, BitVec.setWidth_eq]

theorem sbox_sweep : ∀ n, n < 256 →
    fastSub (BitVec.ofNat 8 n) = affine (BitVec.ofNat 8 (pow254N n)) ∧
    (n ≠ 0 → gmulAuxN 8 n (pow254N n) = 1) :=
  forall_lt (by decide +kernel)

/-- **the transcribed S-box table (tie A) equals the algebraic definition of FIPS-197
§5.1.1** — multiplicative inverse in GF(2^8) followed by the affine map — on all 256 bytes. -/
theorem sbox_table_is_definition (x : Byte) :
    sub x = affine (gpow254 x) ∧ (x ≠ 0 → gmul x.toNat (gpow254 x) = 1) := by
  obtain ⟨h1, h2⟩ := sbox_sweep x.toNat x.isLt
  rw [BitVec.ofNat_toNat, BitVec.setWidth_eq] at h1
  refine ⟨by rw [sub_eq_fastSub, gpow254_eq, h1], fun hx => ?_⟩
  rw [gmul_eq, gpow254_toNat, h2 (fun h => hx (BitVec.eq_of_toNat_eq h))]
  rfl

end MgProof.C12
