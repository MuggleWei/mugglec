import MgProof.C12.LemmasDes
/-!
# C12 — DES in a form the kernel evaluates quickly

`Des.permute` walks the list for every selected bit; `fastPermute` reads the bit string as one number (`bitsNat`).
The two recursive functions that call `permute` are repeated over an arbitrary selection function, so
that `keySchedule` / `cryptBlock` can be evaluated at `fastPermute` (`Kat.lean`).
-/
namespace MgProof.C12
open MgModel.C12 MgModel.C12.Des MgModel.C12.Tables

def fastPermute (tbl : List Nat) (x : Bits) : Bits := tbl.map fun p => (bitsNat x).testBit (p - 1)

theorem permute_eq_fast : permute = fastPermute := by
  funext tbl x; simp only [permute, fastPermute, testBit_bitsNat]

/-- `ksAux` and `feistel` with the selection function as a parameter (suffix `W`) -/
def ksAuxW (P : List Nat → Bits → Bits) : List Nat → Bits → Bits → List Bits
  | [], _, _ => []
  | s :: ss, c, d => P desPC2 (rotl s c ++ rotl s d) :: ksAuxW P ss (rotl s c) (rotl s d)

def feistelW (P : List Nat → Bits → Bits) : List Bits → Bits × Bits → Bits × Bits
  | [], lr => lr
  | k :: ks, (l, r) => feistelW P ks (r, xorBits l (P desP (sboxes desSbox (xorBits (P desE r) k))))

theorem ksAuxW_permute : ∀ (ss : List Nat) (c d : Bits), ksAuxW permute ss c d = ksAux ss c d
  | [], _, _ => rfl
  | s :: ss, c, d => by rw [ksAuxW, ksAux, ksAuxW_permute ss]

theorem feistelW_permute : ∀ (ks : List Bits) (lr : Bits × Bits), feistelW permute ks lr = feistel ks lr
  | [], _ => rfl
  | _ :: ks, (_, _) => feistelW_permute ks _

def keyScheduleW (P : List Nat → Bits → Bits) (key : Bytes) : List Bits :=
  ksAuxW P desShifts ((P desPC1 (bytesToBits key)).take 28) ((P desPC1 (bytesToBits key)).drop 28)

def cryptBlockW (P : List Nat → Bits → Bits) (ks : List Bits) (b : Bytes) : Bytes :=
  let ip := P desIP (bytesToBits b)
  let lr := feistelW P ks (ip.take 32, ip.drop 32)
  bitsToBytes (P desFP (lr.2 ++ lr.1))

theorem keySchedule_eq_fast (key : Bytes) : keySchedule key = keyScheduleW fastPermute key := by
  rw [← permute_eq_fast, keyScheduleW, ksAuxW_permute]; rfl

theorem cryptBlock_eq_fast (ks : List Bits) (b : Bytes) : cryptBlock ks b = cryptBlockW fastPermute ks b := by
  rw [← permute_eq_fast, cryptBlockW, feistelW_permute]; rfl

end MgProof.C12

