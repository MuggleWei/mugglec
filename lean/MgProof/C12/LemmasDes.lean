import MgModel.C12.Des
import MgProof.C12.Lemmas
/-!
# C12 — DES / Triple-DES (FIPS 46-3): deciphering with the reversed key schedule
inverts enciphering, for every key schedule

Ingredients: `IP` and `IP⁻¹` are inverse tables (evaluated), the Feistel argument (of `f` only
the length of its result is used), and the bit/byte conversions being mutually inverse.
-/
namespace MgProof.C12
open MgModel.C12 MgModel.C12.Des MgModel.C12.Tables

theorem permute_length (t : List Nat) (x : Bits) : (permute t x).length = t.length := by
  simp [permute]

theorem permute_congr {t : List Nat} {x y : Bits}
    (h : ∀ p ∈ t, x.getD (p - 1) false = y.getD (p - 1) false) : permute t x = permute t y :=
  List.map_congr_left h

theorem permute_permute (t1 t2 : List Nat) (x : Bits)
    (h : ∀ p ∈ t1, 1 ≤ p ∧ p ≤ t2.length) :
    permute t1 (permute t2 x) = permute (t1.map fun p => t2.getD (p - 1) 0) x := by
  simp only [permute, List.map_map]
  apply List.map_congr_left
  intro p hp
  obtain ⟨h1, h2⟩ := h p hp
  have hlt : p - 1 < t2.length := by omega
  simp [List.getD, hlt]

theorem permute_id (x : Bits) : permute (List.range' 1 x.length) x = x := by
  apply List.ext_getElem
  · simp [permute]
  · intro i h1 h2
    simp [permute, List.getD, h2]

theorem ip_fp_tables :
    desFP.map (fun p => desIP.getD (p - 1) 0) = List.range' 1 64 ∧
    desIP.map (fun p => desFP.getD (p - 1) 0) = List.range' 1 64 ∧
    (∀ p ∈ desFP, 1 ≤ p ∧ p ≤ desIP.length) ∧ (∀ p ∈ desIP, 1 ≤ p ∧ p ≤ desFP.length) := by
  decide +kernel

theorem fp_ip (x : Bits) (h : x.length = 64) : permute desFP (permute desIP x) = x := by
  obtain ⟨fpip, _, inside, _⟩ := ip_fp_tables
  rw [permute_permute _ _ _ inside, fpip, ← h, permute_id]

theorem ip_fp (x : Bits) (h : x.length = 64) : permute desIP (permute desFP x) = x := by
  obtain ⟨_, ipfp, _, inside⟩ := ip_fp_tables
  rw [permute_permute _ _ _ inside, ipfp, ← h, permute_id]

theorem xorBits_length (a b : Bits) : (xorBits a b).length = min a.length b.length := by
  simp [xorBits]

theorem xorBits_cancel (a b : Bits) (h : a.length ≤ b.length) : xorBits (xorBits a b) b = a :=
  zipWith_cancel (fun x y => by cases x <;> cases y <;> rfl) a b h

theorem f_length (r k : Bits) : (f r k).length = 32 := by
  simp [f, permute_length]; decide

theorem feistel_append (a b : List Bits) : ∀ lr, feistel (a ++ b) lr = feistel b (feistel a lr) := by
  induction a with
  | nil => intro lr; rfl
  | cons k a ih => intro ⟨l, r⟩; simp [feistel, ih]

theorem feistel_length (ks : List Bits) : ∀ l r : Bits, l.length = 32 → r.length = 32 →
    (feistel ks (l, r)).1.length = 32 ∧ (feistel ks (l, r)).2.length = 32 := by
  induction ks with
  | nil => intro l r hl hr; exact ⟨hl, hr⟩
  | cons k ks ih =>
    intro l r hl hr
    simp only [feistel]
    exact ih r _ hr (by simp [xorBits_length, hl, f_length])

/-- the Feistel network run with the reversed keys on the swapped halves undoes itself; of the
round function `f` only `f_length` is used -/
theorem feistel_inverse (ks : List Bits) : ∀ l r : Bits, l.length = 32 → r.length = 32 →
    feistel ks.reverse ((feistel ks (l, r)).2, (feistel ks (l, r)).1) = (r, l) := by
  induction ks with
  | nil => intro l r _ _; rfl
  | cons k ks ih =>
    intro l r hl hr
    simp only [feistel, List.reverse_cons, feistel_append]
    rw [ih r (xorBits l (f r k)) hr (by simp [xorBits_length, hl, f_length])]
    rw [xorBits_cancel l (f r k) (by simp [hl, f_length])]

/-- 16 rounds and the final swap of the halves, on an already permuted block -/
def core (ks : List Bits) (y : Bits) : Bits :=
  let lr := feistel ks (y.take 32, y.drop 32)
  lr.2 ++ lr.1

theorem cryptBits_eq_core (ks : List Bits) (x : Bits) :
    cryptBits ks x = permute desFP (core ks (permute desIP x)) := by
  simp only [cryptBits, core]

theorem core_length (ks : List Bits) (y : Bits) (hy : y.length = 64) : (core ks y).length = 64 := by
  obtain ⟨h1, h2⟩ := feistel_length ks (y.take 32) (y.drop 32) (by simp [hy]) (by simp [hy])
  simp [core, h1, h2]

theorem ip_length (x : Bits) : (permute desIP x).length = 64 := by rw [permute_length]; decide

/-- the halves arrive swapped, and the Feistel network undoes itself -/
theorem core_inverse (ks : List Bits) (y : Bits) (hy : y.length = 64) :
    core ks.reverse (core ks y) = y := by
  have hl : (y.take 32).length = 32 := by simp [hy]
  have hr : (y.drop 32).length = 32 := by simp [hy]
  have h2 := (feistel_length ks _ _ hl hr).2
  simp only [core]
  rw [List.take_left' h2, List.drop_left' h2, feistel_inverse ks _ _ hl hr]
  exact List.take_append_drop 32 y

/-- **FIPS 46-3: deciphering = the same algorithm with K16..K1**, for every key schedule: the inner
`IP ∘ IP⁻¹` cancels and the core undoes itself -/
theorem cryptBits_inverse (ks : List Bits) (x : Bits) (hx : x.length = 64) :
    cryptBits ks.reverse (cryptBits ks x) = x := by
  rw [cryptBits_eq_core ks, cryptBits_eq_core, ip_fp _ (core_length ks _ (ip_length x)),
    core_inverse ks _ (ip_length x), fp_ip x hx]

theorem cryptBits_length (ks : List Bits) (x : Bits) : (cryptBits ks x).length = 64 := by
  simp only [cryptBits]
  rw [permute_length]; decide

theorem byteBits_length (b : Byte) : (byteBits b).length = 8 := by simp [byteBits]

theorem bytesToBits_cons (b : Byte) (bs : Bytes) :
    bytesToBits (b :: bs) = byteBits b ++ bytesToBits bs := by simp [bytesToBits]

theorem bytesToBits_length (bs : Bytes) : (bytesToBits bs).length = 8 * bs.length := by
  induction bs with
  | nil => rfl
  | cons b bs ih => rw [bytesToBits_cons, List.length_append, byteBits_length, ih]; simp; omega

theorem byteBits_getD (b : Byte) (j : Nat) (hj : j < 8) : (byteBits b).getD j false = b.getLsbD (7 - j) := by
  simp [byteBits, hj]

/-- bit `j` of a byte string (bit 0 = most significant bit of the first byte) -/
theorem bytesToBits_getD : ∀ (bs : Bytes) (j : Nat),
    (bytesToBits bs).getD j false = (bs.getD (j / 8) 0).getLsbD (7 - j % 8)
  | [], j => by simp [bytesToBits]
  | b :: bs, j => by
    rw [bytesToBits_cons, List.getD_eq_getElem?_getD]
    by_cases hj : j < 8
    · rw [List.getElem?_append_left (by simpa [byteBits_length] using hj), ← List.getD_eq_getElem?_getD,
        byteBits_getD b j hj]
      simp [Nat.div_eq_of_lt hj, Nat.mod_eq_of_lt hj]
    · rw [List.getElem?_append_right (by simpa [byteBits_length] using hj), byteBits_length,
        ← List.getD_eq_getElem?_getD, bytesToBits_getD bs (j - 8)]
      have h1 : j / 8 = (j - 8) / 8 + 1 := by omega
      have h2 : (j - 8) % 8 = j % 8 := by omega
      simp [h1, h2]

/-- a bit string as one number, bit `i` of the string at binary place `i` -/
def bitsNat : Bits → Nat
  | [] => 0
  | b :: l => b.toNat + 2 * bitsNat l

theorem testBit_bitsNat : ∀ (x : Bits) (i : Nat), (bitsNat x).testBit i = x.getD i false
  | [], i => by simp [bitsNat]
  | b :: l, 0 => by cases b <;> simp [bitsNat, Nat.testBit_zero]
  | b :: l, i + 1 => by
    have e : (b.toNat + 2 * bitsNat l) / 2 = bitsNat l := by cases b <;> simp <;> omega
    simp [bitsNat, Nat.testBit_succ, e, testBit_bitsNat l i]

theorem bitsNat_eq_foldr (l : Bits) : bitsNat l = l.foldr (fun b r => b.toNat + 2 * r) 0 := by
  induction l with
  | nil => rfl
  | cons b l ih => simp [bitsNat, ih]

/-- `bitsVal` reads the string most significant bit first: binary place `j` holds the bit `j` places
from the end -/
theorem testBit_bitsVal (l : Bits) (j : Nat) : (bitsVal l).testBit j = l.reverse.getD j false := by
  have e : bitsVal l = bitsNat l.reverse := by
    rw [bitsNat_eq_foldr, List.foldr_reverse, bitsVal]
    congr 1; funext acc b; cases b <;> simp <;> omega
  rw [e, testBit_bitsNat]

theorem ofNat_bitsVal_byteBits (b : Byte) : BitVec.ofNat 8 (bitsVal (byteBits b)) = b := by
  apply BitVec.eq_of_getLsbD_eq
  intro j hj
  rw [BitVec.getLsbD_ofNat, testBit_bitsVal]
  simp [hj, byteBits, List.getD_eq_getElem?_getD, show 7 - (7 - j) = j by omega]

theorem byteBits_ofNat_bitsVal (l : Bits) (h : l.length = 8) :
    byteBits (BitVec.ofNat 8 (bitsVal l)) = l := by
  apply List.ext_getElem (by simp [byteBits, h])
  intro i h1 h2
  have hr : l.reverse[7 - i]? = l[i]? := by
    rw [List.getElem?_reverse (by omega), h]; congr 1; omega
  simp [byteBits, BitVec.getLsbD_ofNat, testBit_bitsVal, List.getD_eq_getElem?_getD, hr, h2]
  omega

theorem bitsToBytesAux_cons (b : Byte) (rest : Bits) (fuel : Nat) :
    bitsToBytesAux (fuel + 1) (byteBits b ++ rest) = b :: bitsToBytesAux fuel rest := by
  have h8 := byteBits_length b
  have hne : byteBits b ++ rest ≠ [] := by
    intro h; have := congrArg List.length h; simp [h8] at this
  cases hb : byteBits b ++ rest with
  | nil => exact absurd hb hne
  | cons y ys =>
    simp only [bitsToBytesAux]
    rw [← hb, List.take_left' h8, List.drop_left' h8, ofNat_bitsVal_byteBits]

theorem bitsToBytesAux_nil (fuel : Nat) : bitsToBytesAux fuel [] = [] := by cases fuel <;> rfl

theorem bitsToBytes_bytesToBits (bs : Bytes) : bitsToBytes (bytesToBits bs) = bs := by
  have key : ∀ (bs : Bytes) (fuel : Nat), bs.length ≤ fuel →
      bitsToBytesAux fuel (bytesToBits bs) = bs := by
    intro bs
    induction bs with
    | nil => intro fuel _; simp [bytesToBits, bitsToBytesAux_nil]
    | cons b bs ih =>
      intro fuel h
      cases fuel with
      | zero => simp at h
      | succ f => rw [bytesToBits_cons, bitsToBytesAux_cons, ih f (by simpa using h)]
  exact key bs _ (by rw [bytesToBits_length]; omega)

theorem bytesToBits_bitsToBytesAux : ∀ (fuel : Nat) (x : Bits), x.length ≤ fuel → x.length % 8 = 0 →
    bytesToBits (bitsToBytesAux fuel x) = x := by
  intro fuel
  induction fuel with
  | zero =>
    intro x h _
    have : x = [] := by simpa using h
    subst this; rfl
  | succ f ih =>
    intro x h h8
    cases x with
    | nil => rfl
    | cons y ys =>
      simp only [List.length_cons] at h h8
      simp only [bitsToBytesAux]
      rw [bytesToBits_cons, ih _ (by simp; omega) (by simp; omega),
        byteBits_ofNat_bitsVal _ (by simp; omega), List.take_append_drop]

theorem bytesToBits_bitsToBytes (x : Bits) (h : x.length % 8 = 0) : bytesToBits (bitsToBytes x) = x :=
  bytesToBits_bitsToBytesAux _ x (Nat.le_refl _) h

theorem cryptBlock_inverse (ks : List Bits) (b : Bytes) (hb : b.length = 8) :
    cryptBlock ks.reverse (cryptBlock ks b) = b := by
  unfold cryptBlock
  rw [bytesToBits_bitsToBytes _ (by rw [cryptBits_length]),
    cryptBits_inverse ks _ (by rw [bytesToBits_length, hb]), bitsToBytes_bytesToBits]

theorem cryptBlock_length (ks : List Bits) (b : Bytes) : (cryptBlock ks b).length = 8 := by
  have h := congrArg List.length (bytesToBits_bitsToBytes (cryptBits ks (bytesToBits b))
    (by rw [cryptBits_length]))
  rw [bytesToBits_length, cryptBits_length] at h
  unfold cryptBlock
  omega

theorem encryptBlock_length (key b : Bytes) : (encryptBlock key b).length = 8 := cryptBlock_length _ _
theorem decryptBlock_length (key b : Bytes) : (decryptBlock key b).length = 8 := cryptBlock_length _ _

theorem des_decrypt_encrypt (key b : Bytes) (hb : b.length = 8) :
    decryptBlock key (encryptBlock key b) = b := cryptBlock_inverse _ b hb

theorem des_encrypt_decrypt (key b : Bytes) (hb : b.length = 8) :
    encryptBlock key (decryptBlock key b) = b := by
  have := cryptBlock_inverse (keySchedule key).reverse b hb
  rwa [List.reverse_reverse] at this

theorem tdes_decrypt_encrypt (k1 k2 k3 b : Bytes) (hb : b.length = 8) :
    tdesDecryptBlock k1 k2 k3 (tdesEncryptBlock k1 k2 k3 b) = b := by
  unfold tdesDecryptBlock tdesEncryptBlock
  rw [des_decrypt_encrypt k3 _ (decryptBlock_length _ _), des_encrypt_decrypt k2 _ (encryptBlock_length _ _),
    des_decrypt_encrypt k1 b hb]

theorem tdes_encrypt_decrypt (k1 k2 k3 b : Bytes) (hb : b.length = 8) :
    tdesEncryptBlock k1 k2 k3 (tdesDecryptBlock k1 k2 k3 b) = b := by
  unfold tdesDecryptBlock tdesEncryptBlock
  rw [des_encrypt_decrypt k1 _ (encryptBlock_length _ _), des_decrypt_encrypt k2 _ (decryptBlock_length _ _),
    des_encrypt_decrypt k3 b hb]

end MgProof.C12
