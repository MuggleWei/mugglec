import MgModel.C06.MemoryPool
/-!
# C06 — the reference model read as a relation

`Ref.step` is an acceptor written as one `match`; `RefStep` lists the six ways it accepts, so that
a theorem about accepted steps is a case analysis with the facts of each case at hand.
-/
namespace MgProof.C06
open MgModel.C06

/-- which operations the theorems speak about: frees of live blocks only (the API contract),
    and no wrap-around of the `uint32_t` sum `capacity + delta_cap` at an automatic growth -/
def Valid (r : Ref) : Op → Prop
  | .free b => b ∈ r.live
  | .alloc => r.used = r.cap → r.cap + r.growStep < U32
  | _ => True

/-- why `Valid r .alloc` holds of every pool below `2^31` blocks (`valid_alloc_of_small`) -/
theorem ref_growStep_le (r : Ref) : r.growStep ≤ r.cap := by
  unfold Ref.growStep; split <;> omega

theorem ref_ensure_cases (mal : Nat → Bool) (r : Ref) (n : Nat) :
    (n ≤ r.cap ∧ Ref.ensure mal r n = (r, true)) ∨
    (r.cap < n ∧ r.canGrow mal n = true ∧
      Ref.ensure mal r n = ({ r with slabs := r.slabs ++ [n - r.cap] }, true)) ∨
    (r.cap < n ∧ r.canGrow mal n = false ∧ Ref.ensure mal r n = (r, false)) := by
  unfold Ref.ensure
  by_cases h1 : n ≤ r.cap
  · exact .inl ⟨h1, if_pos h1⟩
  · rw [if_neg h1]
    cases h2 : r.canGrow mal n
    · exact .inr (.inr ⟨by omega, rfl, rfl⟩)
    · exact .inr (.inl ⟨by omega, rfl, rfl⟩)

theorem ref_cap_grown (r : Ref) (n : Nat) (h : r.cap < n) :
    Ref.cap { r with slabs := r.slabs ++ [n - r.cap] } = n := by
  simp only [Ref.cap, List.sum_append, List.sum_cons, List.sum_nil] at h ⊢
  omega

theorem ref_ensure_live (mal : Nat → Bool) (r : Ref) (n : Nat) :
    (Ref.ensure mal r n).1.live = r.live := by
  rcases ref_ensure_cases mal r n with h | h | h
  · rw [h.2]
  · rw [h.2.2]
  · rw [h.2.2]

theorem ref_ensure_const {mal : Nat → Bool} {r : Ref} (hc : r.flag % 2 = 1) (n : Nat) :
    Ref.ensure mal r n = (r, decide (n ≤ r.cap)) := by
  have hg : r.canGrow mal n = false := by simp [Ref.canGrow, hc]
  rcases ref_ensure_cases mal r n with h | h | h
  · rw [h.2, decide_eq_true h.1]
  · rw [hg] at h; cases h.2.1
  · rw [h.2.2, decide_eq_false (by omega)]

/-- the reference `alloc` before a block is taken: a full pool tries to grow by `growStep` -/
def preAlloc (mal : Nat → Bool) (r : Ref) : Ref × Bool :=
  if r.used = r.cap then r.ensure mal ((r.cap + r.growStep) % U32) else (r, true)

theorem preAlloc_live (mal : Nat → Bool) (r : Ref) : (preAlloc mal r).1.live = r.live := by
  unfold preAlloc; split
  · exact ref_ensure_live ..
  · rfl

theorem preAlloc_cap (mal : Nat → Bool) {r : Ref} (hv : Valid r .alloc) :
    (preAlloc mal r).1.cap = r.cap ∨
      (r.used = r.cap ∧ (preAlloc mal r).1.cap = r.cap + r.growStep) := by
  unfold preAlloc; split
  · next hfull =>
    rw [Nat.mod_eq_of_lt (hv hfull)]
    rcases ref_ensure_cases mal r (r.cap + r.growStep) with h | h | h
    · rw [h.2]; exact .inl rfl
    · rw [h.2.2]; exact .inr ⟨hfull, ref_cap_grown r _ h.1⟩
    · rw [h.2.2]; exact .inl rfl
  · exact .inl rfl

theorem preAlloc_const (mal : Nat → Bool) {r : Ref} (hc : r.flag % 2 = 1) (hv : Valid r .alloc)
    (hpos : 0 < r.growStep) : preAlloc mal r = (r, decide (r.used ≠ r.cap)) := by
  unfold preAlloc; split
  · next hfull =>
    rw [ref_ensure_const hc, Nat.mod_eq_of_lt (hv hfull), decide_eq_false (by omega),
      decide_eq_false (not_not_intro hfull)]
  · next hfull => rw [decide_eq_true hfull]

inductive RefStep (mal : Nat → Bool) (r : Ref) : Op → Res → Ref → Prop
  | refuse {r1} : preAlloc mal r = (r1, false) → RefStep mal r .alloc (.blk none) r1
  | alloc {r1 b} : preAlloc mal r = (r1, true) → r1.used < r1.cap → validB r1.slabs b = true →
      b ∉ r1.live → RefStep mal r .alloc (.blk (some b)) { r1 with live := r1.live ++ [b] }
  | free {b} : b ∈ r.live → RefStep mal r (.free b) .unit { r with live := r.live.erase b }
  | ensure (n) : RefStep mal r (.ensure n) (.bool (r.ensure mal n).2) (r.ensure mal n).1
  | setFlag (f) : RefStep mal r (.setFlag f) .unit { r with flag := f }
  | setMaxDelta (d) : RefStep mal r (.setMaxDelta d) .unit { r with maxDelta := d }

theorem refStep_iff {mal : Nat → Bool} {r r' : Ref} {op : Op} {res : Res} :
    Ref.step mal r op res = some r' ↔ RefStep mal r op res r' := by
  constructor
  · intro h
    unfold Ref.step at h
    -- one bullet per equation of `Ref.step`: alloc, free, ensure, setFlag, setMaxDelta, the rest
    split at h
    · next ob =>
      generalize he : (if r.used = r.cap then Ref.ensure mal r ((r.cap + r.growStep) % U32)
        else (r, true)) = e at h
      obtain ⟨r1, ok⟩ := e
      change preAlloc mal r = (r1, ok) at he
      cases ok <;> cases ob <;> simp only at h
      · cases h; exact .refuse he
      · cases h
      · cases h
      · split at h
        · next hc =>
          cases h
          simp only [Bool.and_eq_true, Bool.not_eq_true', decide_eq_true_eq] at hc
          exact .alloc he hc.1.1 hc.1.2 (by simpa using hc.2)
        · cases h
    · split at h
      · next hb => cases h; exact .free (by simpa using hb)
      · cases h
    · next n ok =>
      change (if (r.ensure mal n).2 = ok then some (r.ensure mal n).1 else none) = some r' at h
      split at h
      · next hok => cases h; cases hok; exact .ensure n
      · cases h
    · cases h; exact .setFlag _
    · cases h; exact .setMaxDelta _
    · cases h
  · intro h
    cases h with
    | refuse he => unfold preAlloc at he; simp only [Ref.step, he]
    | alloc he h1 h2 h3 => unfold preAlloc at he; simp [Ref.step, he, h1, h2, h3]
    | free hb => simp [Ref.step, hb]
    | ensure n => simp [Ref.step]
    | setFlag f => rfl
    | setMaxDelta d => rfl

end MgProof.C06
