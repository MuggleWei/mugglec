import MgProof.C06.RefModel
/-!
# C06 — vocabulary of the property theorems

`Reachable` is the quantifier "every sequence of valid operations from `init`"; the finite runs
serve statements and witnesses.
-/
namespace MgProof.C06
open MgModel.C06

/-- States reachable from `init` by valid operations; `r` is the reference state that has
    accepted every result so far. -/
inductive Reachable (E : Env) : Pool → Ref → Prop
  | init (c b : Nat) (p : Pool) (r : Ref) :
      init E c b = some p → Ref.init E.mal c b = some r → Reachable E p r
  | step (p : Pool) (r : Ref) (op : Op) (p' : Pool) (res : Res) (r' : Ref) :
      Reachable E p r → Valid r op → step E p op = .ok (p', res) →
      Ref.step E.mal r op res = some r' → Reachable E p' r'

def liveAfter (live : List BlockId) : Op → Res → List BlockId
  | .alloc, .blk (some b) => live ++ [b]
  | .free b, _ => live.erase b
  | _, _ => live

def allocN (E : Env) : Nat → Pool → Except Err (Pool × List (Option BlockId))
  | 0, p => .ok (p, [])
  | k+1, p =>
    match alloc E p with
    | .error e => .error e
    | .ok (q, b) =>
      match allocN E k q with
      | .error e => .error e
      | .ok (q', bs) => .ok (q', b :: bs)

def runOps (E : Env) (p : Pool) : List Op → Except Err (Pool × List Res)
  | [] => .ok (p, [])
  | op :: t =>
    match step E p op with
    | .error e => .error e
    | .ok (q, res) =>
      match runOps E q t with
      | .error e => .error e
      | .ok (q', rs) => .ok (q', res :: rs)

/-- decidable form of `Valid` -/
def validOp (r : Ref) : Op → Bool
  | .free b => r.live.contains b
  | .alloc => decide (r.used = r.cap → r.cap + r.growStep < U32)
  | _ => true

theorem validOp_sound {r : Ref} {op : Op} (h : validOp r op = true) : Valid r op := by
  cases op with
  | alloc => simp only [validOp, decide_eq_true_eq] at h; exact h
  | free b => simpa [validOp, Valid] using h
  | ensure n => trivial
  | setFlag f => trivial
  | setMaxDelta d => trivial

def runChecked (E : Env) : Pool → Ref → List Op → Option (Pool × Ref)
  | p, r, [] => some (p, r)
  | p, r, op :: t =>
    if validOp r op then
      match step E p op with
      | .ok (q, res) =>
        match Ref.step E.mal r op res with
        | some r' => runChecked E q r' t
        | none => none
      | .error _ => none
    else none

theorem runChecked_reachable {E : Env} {p : Pool} {r : Ref} (h : Reachable E p r) (ops : List Op)
    {p' : Pool} {r' : Ref} (hr : runChecked E p r ops = some (p', r')) : Reachable E p' r' := by
  induction ops generalizing p r with
  | nil => cases hr; exact h
  | cons op t ih =>
    simp only [runChecked] at hr
    split at hr
    · next hv =>
      split at hr
      · next q res hs =>
        split at hr
        · next r1 hr1 =>
          exact ih (Reachable.step p r op q res r1 h (validOp_sound hv) hs hr1) hr
        · cases hr
      · cases hr
    · cases hr

end MgProof.C06
