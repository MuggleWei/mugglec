import MgModel.C06.MemoryPool
/-!
# C06 — the pointer ring as a list, and the enumeration of all blocks

What reading, advancing and writing at a ring position (`wrapAdd`) do to `rot`; `allBlocks`, the
universe the invariant speaks about.
-/
namespace MgProof.C06
open MgModel.C06

theorem _root_.List.take_set_succ {α : Type} (l : List α) (k : Nat) (v : α) (h : k < l.length) :
    (l.set k v).take (k + 1) = l.take k ++ [v] := by
  rw [List.take_succ_eq_append_getElem (by simpa using h), List.take_set_of_le (Nat.le_refl k),
    List.getElem_set_self]

/-- the ring `l` read once around starting at position `m` -/
def rot {α} (l : List α) (m : Nat) : List α := l.drop m ++ l.take m

/-- position `m + k` on a ring of `c` slots (no `%`: the code only ever increments and resets) -/
def wrapAdd (m k c : Nat) : Nat := if m + k < c then m + k else m + k - c

theorem wrapAdd_cases (m k c : Nat) :
    (m + k < c ∧ wrapAdd m k c = m + k) ∨ (c ≤ m + k ∧ wrapAdd m k c = m + k - c) := by
  unfold wrapAdd; split <;> omega

theorem wrapAdd_eq_mod {m k c : Nat} (h : m + k < 2 * c) : wrapAdd m k c = (m + k) % c := by
  rcases wrapAdd_cases m k c with h' | h' <;> rw [h'.2]
  · rw [Nat.mod_eq_of_lt h'.1]
  · rw [Nat.mod_eq_sub_mod h'.1, Nat.mod_eq_of_lt (by omega)]

theorem wrapAdd_lt {m k c : Nat} (hm : m < c) (hk : k ≤ c) : wrapAdd m k c < c := by
  rw [wrapAdd_eq_mod (by omega)]; exact Nat.mod_lt _ (by omega)

theorem wrapAdd_wrapAdd {m i j c : Nat} (hm : m < c) (hij : i + j ≤ c) :
    wrapAdd (wrapAdd m i c) j c = wrapAdd m (i + j) c := by
  have := wrapAdd_lt hm (show i ≤ c by omega)
  rw [wrapAdd_eq_mod (by omega), wrapAdd_eq_mod (by omega), wrapAdd_eq_mod (by omega),
    Nat.mod_add_mod, Nat.add_assoc]

theorem wrapAdd_one {m c : Nat} (hm : m < c) :
    (if m + 1 = c then 0 else m + 1) = wrapAdd m 1 c := by
  unfold wrapAdd; split <;> split <;> omega

theorem wrapAdd_sub_self {m c : Nat} (hm : m < c) : wrapAdd m (c - m) c = 0 := by
  rw [wrapAdd_eq_mod (by omega), Nat.add_sub_cancel' (Nat.le_of_lt hm), Nat.mod_self]

theorem rot_length {α} (l : List α) (m : Nat) : (rot l m).length = l.length := by
  simp [rot]; omega

theorem rot_zero {α} (l : List α) : rot l 0 = l := by simp [rot]

theorem rot_full {α} (l : List α) : rot l l.length = l := by simp [rot]

theorem rot_wrapAdd_one {α} (l : List α) {m : Nat} (h : m < l.length) :
    rot l (wrapAdd m 1 l.length) = rot l (m + 1) := by
  rcases wrapAdd_cases m 1 l.length with h' | h' <;> rw [h'.2]
  rw [show m + 1 = l.length by omega, Nat.sub_self, rot_full, rot_zero]

theorem rot_head {α} (l : List α) (m : Nat) (h : m < l.length) :
    rot l m = l[m] :: (l.drop (m+1) ++ l.take m) := by
  unfold rot
  rw [List.drop_eq_getElem_cons h]; rfl

theorem rot_succ {α} (l : List α) (m : Nat) (h : m < l.length) :
    rot l (m+1) = l.drop (m+1) ++ l.take m ++ [l[m]] := by
  unfold rot
  rw [List.take_succ_eq_append_getElem h, List.append_assoc]

theorem rot_take_succ {α} (l : List α) {m k : Nat} (hm : m < l.length) (hk : k < l.length) :
    (rot l m).take (k + 1) = l[m] :: (rot l (m + 1)).take k := by
  rw [rot_head l m hm, rot_succ l m hm, List.take_succ_cons,
    List.take_append_of_le_length (l₂ := [l[m]])]
  simp only [List.length_append, List.length_drop, List.length_take]; omega

theorem rot_set {α} (l : List α) (m k : Nat) (b : α) (hm : m < l.length) (hk : k < l.length) :
    rot (l.set (wrapAdd m k l.length) b) m = (rot l m).set k b := by
  unfold rot
  rw [List.set_append, List.drop_set, List.take_set, List.length_drop]
  rcases wrapAdd_cases m k l.length with h | h <;> rw [h.2]
  · rw [if_neg (by omega), if_pos (by omega), Nat.add_sub_cancel_left,
      List.set_eq_of_length_le (l := l.take m) (by simp; omega)]
  · rw [if_pos (by omega), if_neg (by omega)]
    congr 2; omega

/-- the right side is verbatim what `slice_eq` leaves of the two `slice`s that copy a wrapping
    section, `(l.drop 0)` included: the `rw` in `sections_spec` needs it so -/
theorem rot_take_wrap {α} (l : List α) {m f : Nat} (hf : f ≤ m) :
    (rot l m).take (l.length - m + f) = (l.drop m).take (l.length - m) ++ (l.drop 0).take f := by
  unfold rot
  rw [← List.length_drop, List.take_length_add_append, List.take_take, Nat.min_eq_left hf,
    List.take_of_length_le (Nat.le_refl _), List.drop_zero]

theorem rot_take_of_le {α} (l : List α) {m k : Nat} (h : m + k ≤ l.length) :
    (rot l m).take k = (l.drop m).take k :=
  List.take_append_of_le_length (by simp; omega)

theorem length_newBlocks (s n : Nat) : (newBlocks s n).length = n := by simp [newBlocks]

theorem mem_newBlocks (s n : Nat) (b : BlockId) : b ∈ newBlocks s n ↔ b.1 = s ∧ b.2 < n := by
  simp only [newBlocks, List.mem_map, List.mem_range]
  constructor
  · rintro ⟨i, hi, rfl⟩; exact ⟨rfl, hi⟩
  · rintro ⟨h1, h2⟩; exact ⟨b.2, h2, by cases b; simp_all⟩

theorem nodup_newBlocks (s n : Nat) : (newBlocks s n).Nodup := by
  unfold newBlocks
  rw [List.nodup_iff_pairwise_ne, List.pairwise_map]
  have := List.nodup_iff_pairwise_ne.mp (List.nodup_range (n := n))
  exact this.imp (fun h h' => h (by simpa using h'))

/-- every block of the data buffers `slabs`, the first one being number `s` -/
def blocksFrom (s : Nat) : List Nat → List BlockId
  | [] => []
  | n :: t => newBlocks s n ++ blocksFrom (s+1) t

def allBlocks (slabs : List Nat) : List BlockId := blocksFrom 0 slabs

/-- the data buffers numbered from `s`, each giving its blocks -/
theorem blocksFrom_eq (s : Nat) (l : List Nat) :
    blocksFrom s l = (l.zipIdx s).flatMap fun x => newBlocks x.2 x.1 := by
  induction l generalizing s with
  | nil => rfl
  | cons n t ih => rw [blocksFrom, ih, List.zipIdx_cons, List.flatMap_cons]

theorem blocksFrom_append (s : Nat) (l : List Nat) (d : Nat) :
    blocksFrom s (l ++ [d]) = blocksFrom s l ++ newBlocks (s + l.length) d := by
  rw [blocksFrom_eq, blocksFrom_eq, List.zipIdx_append, List.flatMap_append]
  exact congrArg _ (List.append_nil _)

theorem length_blocksFrom (s : Nat) (l : List Nat) : (blocksFrom s l).length = l.sum := by
  rw [blocksFrom_eq, List.length_flatMap]
  simp only [length_newBlocks]
  exact congrArg _ (List.zipIdx_map_fst ..)

theorem mem_blocksFrom (s : Nat) (l : List Nat) (b : BlockId) :
    b ∈ blocksFrom s l ↔ s ≤ b.1 ∧ ∃ n, l[b.1 - s]? = some n ∧ b.2 < n := by
  rw [blocksFrom_eq, List.mem_flatMap]
  constructor
  · rintro ⟨⟨n, i⟩, hx, hb⟩
    obtain ⟨rfl, hlt⟩ := (mem_newBlocks ..).mp hb
    obtain ⟨h1, h2⟩ := List.mem_zipIdx_iff_le_and_getElem?_sub.mp hx
    exact ⟨h1, n, h2, hlt⟩
  · rintro ⟨h1, n, h2, hlt⟩
    exact ⟨(n, b.1), List.mem_zipIdx_iff_le_and_getElem?_sub.mpr ⟨h1, h2⟩,
      (mem_newBlocks ..).mpr ⟨rfl, hlt⟩⟩

theorem nodup_blocksFrom (s : Nat) (l : List Nat) : (blocksFrom s l).Nodup := by
  induction l generalizing s with
  | nil => simp [blocksFrom]
  | cons n t ih =>
    simp only [blocksFrom]
    rw [List.nodup_append]
    refine ⟨nodup_newBlocks s n, ih (s+1), ?_⟩
    intro a ha b hb hab
    rw [mem_newBlocks] at ha
    rw [mem_blocksFrom] at hb
    subst hab
    omega

theorem validB_iff (slabs : List Nat) (b : BlockId) :
    validB slabs b = true ↔ ∃ n, slabs[b.1]? = some n ∧ b.2 < n := by
  unfold validB
  cases slabs[b.1]? <;> simp

theorem mem_allBlocks (slabs : List Nat) (b : BlockId) :
    b ∈ allBlocks slabs ↔ validB slabs b = true := by
  rw [validB_iff, allBlocks, mem_blocksFrom]
  simp only [Nat.zero_le, true_and, Nat.sub_zero]

end MgProof.C06
