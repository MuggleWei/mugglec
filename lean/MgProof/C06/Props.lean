import MgProof.C06.Steps
import MgProof.C06.Reach
/-!
# C06 — property theorems (growable memory pool, `muggle/c/memory/memory_pool.c`)

Property text: *For every sequence of alloc, free and ensure-space calls on the growable
memory pool, the blocks currently allocated are pairwise disjoint, lie wholly inside
memory owned by the pool, and keep their address and contents across any number of
growths until freed, and the used/capacity counters equal a reference model's. A pool
flagged constant-size never grows and reports exhaustion instead, automatic growth never
exceeds the configured maximum step, and for every capacity and block size init either
fails or yields that many distinct usable blocks.*

Everything below is about the model `MgModel.C06` of the **repaired** source
(`E.fixEmpty = true`, `E.fixBytes = true`; patches in `/verif/fixes/C06-*.patch`), for any
allocator whose answer depends on the requested size only (`E.mal`), and unbounded: any
capacity, block size, number of operations. Block contents are not in the model: that clause is
left to the harness. The section before the last proves, by concrete witnesses, that the source
*as found* violates the property (`*_fails`).

Quantifier. `Reachable E p r` = the pool state `p` and the reference state `r` are reached from a
successful `init` by any finite sequence of operations that respects the API contract (`Valid`: a
block that is freed is live; the 32-bit sum `capacity + delta_cap` of an automatic growth does
not wrap, which capacity < 2^31 implies).
-/
namespace MgProof.C06
open MgModel.C06

/-! ## The refinement: every history is accepted by the reference model -/

/-- Clause "for every capacity and block size init either fails or …": `init` fails exactly
    when the reference `init` fails (block size 0, size not representable, `malloc` refuses),
    otherwise the invariant holds with no live block. -/
theorem init_refines {E : Env} (hB : E.fixBytes = true) (c b : Nat) :
    match init E c b, Ref.init E.mal c b with
    | some p, some r => Inv p r ∧ r.live = []
    | none, none => True
    | _, _ => False := by
  rcases init_cases hB c b with ⟨h1, h2⟩ | ⟨h1, h2, hinv⟩ <;> rw [h1, h2]
  · trivial
  · exact ⟨hinv, rfl⟩

theorem reachable_inv {E : Env} (hE : E.fixEmpty = true) (hB : E.fixBytes = true)
    {p : Pool} {r : Ref} (h : Reachable E p r) : Inv p r := by
  induction h with
  | init c b p r hp hr =>
    have := init_refines (E := E) hB c b
    rw [hp, hr] at this
    exact this.1
  | step p r op p' res r' _ hv hs hr ih =>
    obtain ⟨r'', h2, h3⟩ := step_sim hE hB ih hv hs
    rw [hr] at h2; cases h2
    exact h3

/-- Progress: every valid operation runs without error (no access outside the pointer ring, no
    failed assertion, no counter underflow) and its result is accepted by the reference model —
    so `Reachable` contains *all* valid histories. -/
theorem reachable_progress {E : Env} (hE : E.fixEmpty = true) (hB : E.fixBytes = true)
    {p : Pool} {r : Ref} (h : Reachable E p r) (op : Op) (hv : Valid r op) :
    ∃ p' res r', step E p op = .ok (p', res) ∧ Ref.step E.mal r op res = some r' ∧
      Reachable E p' r' := by
  obtain ⟨p', res, r', h1, h2, _⟩ := step_ok hE hB (reachable_inv hE hB h) op hv
  exact ⟨p', res, r', h1, h2, Reachable.step p r op p' res r' h hv h1 h2⟩

/-- The arithmetic hypothesis in `Valid r .alloc` is implied by `capacity < 2^31` (the
    automatic growth step never exceeds the capacity), i.e. by a pointer ring below 16 GiB. -/
theorem valid_alloc_of_small {r : Ref} (h : r.cap < 2147483648) : Valid r .alloc := by
  intro _
  have := ref_growStep_le r
  show r.cap + r.growStep < 4294967296
  omega

/-! ## Clause: counters equal the reference model's -/

/-- `used` is the number of live blocks, `capacity` the number of blocks of all data buffers. -/
theorem counters_eq_reference {E : Env} (hE : E.fixEmpty = true) (hB : E.fixBytes = true)
    {p : Pool} {r : Ref} (h : Reachable E p r) :
    p.used = r.used ∧ p.capacity = r.cap ∧ p.used ≤ p.capacity := by
  have hi := reachable_inv hE hB h
  exact ⟨(ref_used hi).symm, (ref_cap hi).symm, hi.used_le⟩

/-! ## Clause: live blocks are pairwise disjoint and wholly inside pool memory -/

/-- Live blocks are pairwise distinct, and each is block `i` of an existing data buffer `s`
    with `i` below that buffer's block count; its byte range `[i*bs, (i+1)*bs)` lies inside
    the `bytes` requested from `malloc` for that buffer. -/
theorem live_distinct_inside {E : Env} (hE : E.fixEmpty = true) (hB : E.fixBytes = true)
    {p : Pool} {r : Ref} (h : Reachable E p r) :
    r.live.Nodup ∧ ∀ b ∈ r.live, ∃ n bytes, p.slabs[b.1]? = some n ∧ b.2 < n ∧
      p.slabBytes[b.1]? = some bytes ∧ (b.2 + 1) * p.blockSize ≤ bytes := by
  have hi := reachable_inv hE hB h
  refine ⟨(nodup_parts hi).2.1, fun b hb => ?_⟩
  obtain ⟨n, hs, hlt⟩ := (validB_iff ..).mp ((valid_iff hi b).mpr (.inr hb))
  refine ⟨n, p.blockSize * n, hs, hlt, ?_, ?_⟩
  · rw [hi.bytes]; simp [hs]
  · rw [Nat.mul_comm]; exact Nat.mul_le_mul_left _ hlt

/-- Every block of every data buffer is either live or available in the ring, never both,
    and at most once: no block is lost or duplicated by any growth. -/
theorem every_block_accounted {E : Env} (hE : E.fixEmpty = true) (hB : E.fixBytes = true)
    {p : Pool} {r : Ref} (h : Reachable E p r) (b : BlockId) :
    (validB p.slabs b = true ↔ (b ∈ r.live ∨ b ∈ avail p)) ∧ ¬ (b ∈ r.live ∧ b ∈ avail p) ∧
    (avail p).Nodup ∧ (avail p).length = p.capacity - p.used := by
  have hi := reachable_inv hE hB h
  have hnd := nodup_parts hi
  exact ⟨(valid_iff hi b).trans Or.comm, fun hh => hnd.2.2 b hh.2 hh.1, hnd.1, avail_length hi⟩

/-- Address form. Let `base s` be the address `malloc` returned for data buffer `s`; assume
    what `malloc` guarantees: the buffers (with the sizes requested) do not overlap. Then the
    byte ranges `[addr b, addr b + blockSize)` of two different live blocks do not overlap. -/
theorem live_ranges_disjoint {E : Env} (hE : E.fixEmpty = true) (hB : E.fixBytes = true)
    {p : Pool} {r : Ref} (h : Reachable E p r) (base : Nat → Nat)
    (hmalloc : ∀ s s' n n', s ≠ s' → p.slabBytes[s]? = some n → p.slabBytes[s']? = some n' →
        base s + n ≤ base s' ∨ base s' + n' ≤ base s)
    (b b' : BlockId) (hb : b ∈ r.live) (hb' : b' ∈ r.live) (hne : b ≠ b') :
    (base b.1 + b.2 * p.blockSize) + p.blockSize ≤ base b'.1 + b'.2 * p.blockSize ∨
    (base b'.1 + b'.2 * p.blockSize) + p.blockSize ≤ base b.1 + b.2 * p.blockSize := by
  obtain ⟨_, hin⟩ := live_distinct_inside hE hB h
  obtain ⟨n, bytes, _, _, hsb, hle⟩ := hin b hb
  obtain ⟨n', bytes', _, _, hsb', hle'⟩ := hin b' hb'
  rw [Nat.add_mul, Nat.one_mul] at hle hle'
  by_cases hs : b.1 = b'.1
  · -- same data buffer: different indices
    have hi : b.2 ≠ b'.2 := fun h2 => hne (Prod.ext hs h2)
    rw [hs]
    rcases Nat.lt_or_gt_of_ne hi with hlt | hlt
    · left
      have := Nat.mul_le_mul_right p.blockSize (Nat.succ_le_of_lt hlt)
      rw [Nat.succ_mul] at this; omega
    · right
      have := Nat.mul_le_mul_right p.blockSize (Nat.succ_le_of_lt hlt)
      rw [Nat.succ_mul] at this; omega
  · rcases hmalloc b.1 b'.1 bytes bytes' hs hsb hsb' with hd | hd
    · left; omega
    · right; omega

/-- What `alloc` returns is never a live block, and is a block of the pool (this is the
    ownership monitor as a theorem): stated on the reference acceptor, which every reachable
    step satisfies by `reachable_progress`. -/
theorem alloc_returns_fresh {mal : Nat → Bool} {r r' : Ref} {b : BlockId}
    (h : Ref.step mal r .alloc (.blk (some b)) = some r') :
    b ∉ r.live ∧ validB r'.slabs b = true ∧ r'.live = r.live ++ [b] := by
  cases refStep_iff.mp h with
  | alloc he _ hval hnl =>
    have hlive := preAlloc_live mal r
    rw [he] at hlive
    exact ⟨hlive ▸ hnl, hval, by rw [← hlive]⟩

/-! ## Clause: blocks keep their address across growth until freed -/

theorem map_eq_ok {α β} {f : α → β} {x : Except Err α} {y : β} (h : x.map f = .ok y) :
    ∃ a, x = .ok a ∧ f a = y := by
  cases x with
  | error e => cases h
  | ok a => exact ⟨a, rfl, Except.ok.inj h⟩

/-- No operation (of any source variant) removes, renumbers or resizes a data buffer. With
    block identity = (buffer, index) this is address stability. (That the *base address* of a
    buffer does not change is a fact about `malloc`/the copied `memory_pool_data_bufs` array
    and is checked by the harness on every run.) -/
theorem buffers_only_grow {E : Env} {p p' : Pool} {op : Op} {res : Res}
    (h : step E p op = .ok (p', res)) :
    p.slabs <+: p'.slabs ∧ p.slabBytes <+: p'.slabBytes := by
  cases op with
  | alloc =>
    obtain ⟨⟨q, b⟩, ha, hq⟩ := map_eq_ok h
    cases hq; exact alloc_frame ha
  | free b =>
    obtain ⟨q, hf, hq⟩ := map_eq_ok h
    cases hq; exact frame_of_eq (free_frame hf).1 (free_frame hf).2
  | ensure n =>
    obtain ⟨⟨q, b⟩, he, hq⟩ := map_eq_ok h
    cases hq; exact ⟨(ensureSpace_frame he).1, (ensureSpace_frame he).2.1⟩
  | setFlag f => cases h; exact frame_of_eq rfl rfl
  | setMaxDelta d => cases h; exact frame_of_eq rfl rfl

/-- The live list changes only by the operation's own effect; in particular `ensure_space` and
    the growth inside `alloc` keep every live block live. -/
theorem live_changes_only_by_alloc_free {mal : Nat → Bool} {r r' : Ref} {op : Op} {res : Res}
    (h : Ref.step mal r op res = some r') :
    r'.live = liveAfter r.live op res := by
  have hpre := preAlloc_live mal r
  cases refStep_iff.mp h with
  | refuse he => rw [he] at hpre; exact hpre
  | alloc he => rw [he] at hpre; exact congrArg (· ++ [_]) hpre
  | free => rfl
  | ensure n => exact ref_ensure_live mal r n
  | setFlag => rfl
  | setMaxDelta => rfl

/-- Growth in one statement: after `ensure_space n` the invariant holds again **with the same
    live list**. Any cursor layout, any fullness (including `used = 0` and `used = capacity`). -/
theorem growth_keeps_live {E : Env} (hE : E.fixEmpty = true) (hB : E.fixBytes = true)
    {p : Pool} {r : Ref} (h : Reachable E p r) (n : Nat) :
    ∃ p' ok r', ensureSpace E p n = .ok (p', ok) ∧ Inv p' r' ∧ r'.live = r.live ∧
      p.slabs <+: p'.slabs ∧ p.slabBytes <+: p'.slabBytes ∧ p'.used = p.used ∧
      (ok = true → n ≤ p'.capacity) ∧ (ok = false → p' = p) := by
  obtain ⟨p', h1, h2, h4, h5⟩ := ensure_ok hE hB (reachable_inv hE hB h) n
  have hf := ensureSpace_frame h1
  exact ⟨p', _, _, h1, h2, ref_ensure_live E.mal r n, hf.1, hf.2.1, hf.2.2.1, h4, h5⟩

/-! ## Clause: a constant-size pool never grows and reports exhaustion instead -/

/-- While `MUGGLE_MEMORY_POOL_CONSTANT_SIZE` is set, no operation changes the capacity, and
    `alloc` returns NULL exactly when the pool is full. -/
theorem const_never_grows {E : Env} (hE : E.fixEmpty = true) (hB : E.fixBytes = true)
    {p : Pool} {r : Ref} (h : Reachable E p r) (hc : p.flag % 2 = 1)
    (op : Op) (hv : Valid r op) {p' : Pool} {res : Res} (hs : step E p op = .ok (p', res)) :
    p'.capacity = p.capacity ∧
      (op = .alloc → (res = .blk none ↔ p.used = p.capacity)) := by
  have hi := reachable_inv hE hB h
  obtain ⟨r', h2, hi'⟩ := step_sim hE hB hi hv hs
  rw [← ref_cap hi', ← ref_cap hi, ← ref_used hi]
  have hrc : r.flag % 2 = 1 := hi.flag ▸ hc
  have hpos : 0 < r.growStep := growStep_eq hi ▸ growStep_pos hi
  -- what remains speaks of the reference model only
  cases refStep_iff.mp h2 with
  | refuse he =>
    rw [preAlloc_const E.mal hrc hv hpos, Prod.mk.injEq, decide_eq_false_iff_not,
      Decidable.not_not] at he
    obtain ⟨rfl, hfull⟩ := he
    exact ⟨rfl, fun _ => ⟨fun _ => hfull, fun _ => rfl⟩⟩
  | alloc he =>
    rw [preAlloc_const E.mal hrc hv hpos, Prod.mk.injEq, decide_eq_true_eq] at he
    obtain ⟨rfl, hne⟩ := he
    exact ⟨rfl, fun _ => ⟨nofun, fun hfull => absurd hfull hne⟩⟩
  | ensure n => rw [ref_ensure_const hrc]; exact ⟨rfl, nofun⟩
  | free | setFlag | setMaxDelta => exact ⟨rfl, nofun⟩

/-! ## Clause: automatic growth never exceeds the configured maximum step -/

/-- An `alloc` leaves the capacity alone or — only when the pool is full — adds exactly
    `growStep = min(capacity, max_delta_cap)` blocks (`capacity` when `max_delta_cap = 0`). -/
theorem auto_growth_bounded {E : Env} (hE : E.fixEmpty = true) (hB : E.fixBytes = true)
    {p : Pool} {r : Ref} (h : Reachable E p r) (hv : Valid r .alloc)
    {p' : Pool} {res : Res} (hs : step E p .alloc = .ok (p', res)) :
    (p'.capacity = p.capacity ∨
      (p.used = p.capacity ∧ p'.capacity = p.capacity + growStep p)) ∧
    growStep p ≤ p.capacity ∧ (0 < p.maxDelta → growStep p ≤ p.maxDelta) := by
  have hi := reachable_inv hE hB h
  refine ⟨?_, growStep_le p⟩
  obtain ⟨r', h2, hi'⟩ := step_sim hE hB hi hv hs
  rw [← ref_cap hi', ← ref_cap hi, ← ref_used hi, ← growStep_eq hi]
  have hcap := preAlloc_cap E.mal hv
  cases refStep_iff.mp h2 with
  | refuse he => rw [he] at hcap; exact hcap
  | alloc he => rw [he] at hcap; exact hcap

/-! ## Clause: init either fails or yields that many distinct usable blocks -/

/-- From a state with at least `k` blocks not in use, `k` allocations succeed without any
    growth and return `k` pairwise different blocks of the pool, none of which was live. -/
theorem allocN_fresh {E : Env} (k : Nat) {p : Pool} {r : Ref} (h : Inv p r)
    (hroom : p.used + k ≤ p.capacity) :
    ∃ (q : Pool) (bs : List BlockId), allocN E k p = .ok (q, bs.map some) ∧ bs.length = k ∧
      bs.Nodup ∧ (∀ b ∈ bs, validB p.slabs b = true ∧ b ∉ r.live) ∧
      q.capacity = p.capacity ∧ q.slabs = p.slabs ∧ q.slabBytes = p.slabBytes ∧
      Inv q { r with live := r.live ++ bs } := by
  induction k generalizing p r with
  | zero => exact ⟨p, [], rfl, rfl, List.nodup_nil, nofun, rfl, rfl, rfl, by simpa using h⟩
  | succ k ih =>
    obtain ⟨b, htk, hval, hnl, hinv⟩ := take_ok h (by omega)
    have hal : alloc E p = .ok (took p, some b) := by rw [alloc, if_neg (by omega), htk]
    obtain ⟨q, bs, h1, h2, h3, h4, h5, hs, hsb, h6⟩ :=
      ih (p := took p) (r := { r with live := r.live ++ [b] }) hinv
        (by show p.used + 1 + k ≤ p.capacity; omega)
    refine ⟨q, b :: bs, by simp [allocN, hal, h1], by simp [h2],
      List.nodup_cons.mpr ⟨fun hb => (h4 b hb).2 (by simp), h3⟩,
      List.forall_mem_cons.mpr ⟨⟨hval, hnl⟩, fun x hx => ⟨(h4 x hx).1, fun hl => (h4 x hx).2 ?_⟩⟩,
      h5, hs, hsb, by simpa [List.append_assoc] using h6⟩
    exact List.mem_append_left _ hl

/-- `init c b` either fails or yields a pool from which `c` (8 when `c = 0`) allocations
    succeed without growth and return that many pairwise distinct blocks, each wholly inside
    the single data buffer of `b * c` bytes that was requested. -/
theorem init_yields_blocks {E : Env} (hB : E.fixBytes = true) (c b : Nat) (p : Pool)
    (hp : init E c b = some p) :
    let cap := if c = 0 then 8 else c
    p.capacity = cap ∧ p.used = 0 ∧ p.slabBytes = [b * cap] ∧ p.blockSize = b ∧
    ∃ (q : Pool) (bs : List BlockId), allocN E cap p = .ok (q, bs.map some) ∧ bs.length = cap ∧ bs.Nodup ∧
      (∀ x ∈ bs, x.1 = 0 ∧ (x.2 + 1) * b ≤ b * cap) ∧ q.capacity = cap ∧ q.used = cap := by
  intro cap
  rcases init_cases hB c b with ⟨h1, _⟩ | ⟨h1, -, hinv⟩ <;> rw [h1] at hp <;> cases hp
  obtain ⟨q, bs, h1, h2, h3, h4, h5, -, -, h8⟩ :=
    allocN_fresh (E := E) cap hinv (Nat.le_of_eq (Nat.zero_add cap))
  refine ⟨rfl, rfl, rfl, rfl, q, bs, h1, h2, h3, fun x hx => ?_, h5, ?_⟩
  · -- a valid block of the single data buffer `[cap]`
    have hx' : x ∈ newBlocks 0 cap := by
      simpa [allBlocks, blocksFrom] using (mem_allBlocks [cap] x).mpr (h4 x hx).1
    obtain ⟨hx0, hlt⟩ := (mem_newBlocks ..).mp hx'
    exact ⟨hx0, Nat.mul_comm b cap ▸ Nat.mul_le_mul_right b hlt⟩
  · rw [h8.used_eq]; exact h2

/-! ## The source as found violates the property (negation witnesses)

The three statements below are about `Env.orig`, the model of `memory_pool.c` as found
(`variant orig` in the driver); the second halves of the first two show what the repaired source
(`Env.fixed`) does on the same history. The same histories are `corpus/C06/empty-grow-double-handout.ops`,
`init-bytes-wrap.ops`, `ensure-bytes-wrap.ops`; on the unpatched
tree the harness gives the same answers, plus the monitor flags `DUP` / `OOB`. -/

/-- As found, growing a pool with nothing in use breaks it: after
    `init(2,8); ensure_space(4); a = alloc(); free(a); alloc() x4` block `(1,0)` is returned
    by the 2nd and by the 4th of the last four allocs — it is handed out twice while live
    (and `(0,0)` is never handed out). The repaired source returns four different blocks. -/
theorem ensure_space_empty_fails :
    let ops := [Op.ensure 4, .alloc, .free (1, 0), .alloc, .alloc, .alloc, .alloc]
    (∃ p q, init (Env.orig fun _ => true) 2 8 = some p ∧
      runOps (Env.orig fun _ => true) p ops =
        .ok (q, [.bool true, .blk (some (1, 0)), .unit, .blk (some (1, 1)), .blk (some (1, 0)),
                 .blk (some (0, 1)), .blk (some (1, 0))])) ∧
    (∃ p q, init (Env.fixed fun _ => true) 2 8 = some p ∧
      runOps (Env.fixed fun _ => true) p [Op.ensure 4, .alloc, .free (0, 0), .alloc, .alloc,
          .alloc, .alloc] =
        .ok (q, [.bool true, .blk (some (0, 0)), .unit, .blk (some (0, 1)), .blk (some (1, 0)),
                 .blk (some (1, 1)), .blk (some (0, 0))])) := by
  intro ops
  exact ⟨⟨_, _, rfl, rfl⟩, ⟨_, _, rfl, rfl⟩⟩

/-- As found, `init(2, 2^31)` "succeeds" with a data buffer of `(2 * 2^31) mod 2^32 = 0`
    bytes: neither of its two blocks lies inside it. The repaired source requests `2^32`
    bytes (and fails if `malloc` does). -/
theorem init_overflow_fails :
    (∃ p, init (Env.orig fun _ => true) 2 2147483648 = some p ∧ p.slabBytes = [0] ∧
      p.capacity = 2 ∧ ¬ ((0 + 1) * p.blockSize ≤ 0)) ∧
    (∃ p, init (Env.fixed fun _ => true) 2 2147483648 = some p ∧ p.slabBytes = [4294967296]) ∧
    init (Env.fixed fun n => decide (n ≤ 67108864)) 2 2147483648 = none := by
  refine ⟨⟨_, rfl, rfl, rfl, by decide⟩, ⟨_, rfl, rfl⟩, by decide⟩

/-- As found, `init(1, 2^20); ensure_space(4097)` reports success and a capacity of 4097
    with a new data buffer of `(4096 * 2^20) mod 2^32 = 0` bytes. -/
theorem ensure_overflow_fails :
    ∃ p q, init (Env.orig fun _ => true) 1 1048576 = some p ∧
      ensureSpace (Env.orig fun _ => true) p 4097 = .ok (q, true) ∧
      q.capacity = 4097 ∧ q.slabs = [1, 4096] ∧ q.slabBytes = [1048576, 0] := by
  refine ⟨_, _, rfl, rfl, rfl, rfl, rfl⟩

/-! ## Non-vacuity -/

/-- `Reachable` and `Valid` are satisfiable: capacity 2; two allocations, a free, an explicit
    growth with one block live (cursors apart), two allocations up to full, an automatic
    growth — capacity 6 with 4 live blocks. -/
example : ∃ p r, Reachable (Env.fixed fun _ => true) p r ∧ p.capacity = 6 ∧ r.live.length = 4 := by
  have h0 : Reachable (Env.fixed fun _ => true) (initPool 2 8) (initRef 2 8) :=
    Reachable.init 2 8 _ _ (by decide) (by decide)
  have hr : runChecked (Env.fixed fun _ => true) (initPool 2 8) (initRef 2 8)
      [.alloc, .alloc, .free (0, 0), .ensure 3, .alloc, .alloc, .alloc] = some
        ({ ptrBuf := [(0, 1), (0, 0), (1, 0), (2, 0), (2, 1), (2, 2)], allocIdx := 4, freeIdx := 0,
           capacity := 6, used := 4, blockSize := 8, slabs := [2, 1, 3], slabBytes := [16, 8, 24],
           flag := 0, maxDelta := 524288 },
         { live := [(0, 1), (0, 0), (1, 0), (2, 0)], slabs := [2, 1, 3], blockSize := 8, flag := 0,
           maxDelta := 524288 }) := by decide
  exact ⟨_, _, runChecked_reachable h0 _ hr, rfl, rfl⟩

end MgProof.C06
