import MgProof.C06.Lemmas
import MgProof.C06.RefModel
/-!
# C06 — the invariant and its preservation by every operation of the (repaired) pool

`Inv p r` ties the pool `p` to the reference state `r`. Its heart is `perm`: the pointers available
in the ring together with the live blocks are all blocks of all data buffers, each once. `fi`: the
free cursor is the alloc cursor advanced by the number of available pointers, so the two coincide
both when the pool is full and when nothing is in use (the case the `used == 0` repair is about).

Each operation is described by what it does to `avail`; preservation is then list permutation and
cursor arithmetic.
-/
namespace MgProof.C06
open MgModel.C06

/-- the pointers available for allocation: `capacity - used` ring entries from `alloc_index` -/
def avail (p : Pool) : List BlockId := (rot p.ptrBuf p.allocIdx).take (p.capacity - p.used)

structure Inv (p : Pool) (r : Ref) : Prop where
  len : p.ptrBuf.length = p.capacity
  used_le : p.used ≤ p.capacity
  ai : p.allocIdx < p.capacity
  fi : p.freeIdx = wrapAdd p.allocIdx (p.capacity - p.used) p.capacity
  perm : (avail p ++ r.live).Perm (allBlocks p.slabs)
  used_eq : p.used = r.live.length
  slabs : r.slabs = p.slabs
  bs : r.blockSize = p.blockSize
  bs_pos : 0 < p.blockSize
  flag : r.flag = p.flag
  md : r.maxDelta = p.maxDelta
  bytes : p.slabBytes = p.slabs.map (p.blockSize * ·)

/-- `fi` without subtraction, for `omega`: the `used` stale slots lie between the free and the alloc
    cursor, in the first case around the end of the ring -/
theorem fi_sum {p r} (h : Inv p r) :
    p.freeIdx + p.used = p.allocIdx + p.capacity ∨ p.freeIdx + p.used = p.allocIdx := by
  have := h.used_le
  rw [h.fi]
  rcases wrapAdd_cases p.allocIdx (p.capacity - p.used) p.capacity with h' | h' <;> omega

theorem fi_lt {p r} (h : Inv p r) : p.freeIdx < p.capacity :=
  h.fi ▸ wrapAdd_lt h.ai (Nat.sub_le ..)

theorem avail_length {p r} (h : Inv p r) : (avail p).length = p.capacity - p.used := by
  simp [avail, rot_length, h.len]

theorem cap_eq {p r} (h : Inv p r) : p.capacity = p.slabs.sum := by
  have h1 := h.perm.length_eq
  rw [List.length_append, avail_length h, ← h.used_eq, allBlocks, length_blocksFrom] at h1
  have := h.used_le
  omega

theorem ref_cap {p r} (h : Inv p r) : r.cap = p.capacity := by
  rw [Ref.cap, h.slabs, cap_eq h]

theorem ref_used {p r} (h : Inv p r) : r.used = p.used := h.used_eq.symm

theorem growStep_eq {p r} (h : Inv p r) : r.growStep = growStep p := by
  simp [Ref.growStep, growStep, ref_cap h, h.md]

theorem growStep_pos {p r} (h : Inv p r) : 0 < growStep p := by
  have := h.ai  -- `allocIdx < capacity`: the pool is not empty
  unfold growStep; split <;> omega

theorem growStep_le (p : Pool) :
    growStep p ≤ p.capacity ∧ (0 < p.maxDelta → growStep p ≤ p.maxDelta) := by
  unfold growStep; split <;> omega

theorem valid_iff {p r} (h : Inv p r) (b : BlockId) :
    validB p.slabs b = true ↔ b ∈ avail p ∨ b ∈ r.live := by
  rw [← mem_allBlocks, ← h.perm.mem_iff, List.mem_append]

theorem nodup_parts {p r} (h : Inv p r) :
    (avail p).Nodup ∧ r.live.Nodup ∧ ∀ b, b ∈ avail p → b ∉ r.live := by
  have := (h.perm.nodup_iff).mpr (nodup_blocksFrom 0 p.slabs)
  rw [List.nodup_append] at this
  exact ⟨this.1, this.2.1, fun b hb hl => this.2.2 b hb b hl rfl⟩

/-! ## `alloc` with room, and `free` -/

/-- the pool `take` returns; the model's `if allocIdx + 1 = capacity then 0 else allocIdx + 1` is
    `wrapAdd allocIdx 1 capacity` (`wrapAdd_one`), and likewise for `free_index` in `freed` -/
def took (p : Pool) : Pool :=
  { p with used := p.used + 1, allocIdx := wrapAdd p.allocIdx 1 p.capacity }

def freed (p : Pool) (b : BlockId) : Pool :=
  { p with ptrBuf := p.ptrBuf.set p.freeIdx b, freeIdx := wrapAdd p.freeIdx 1 p.capacity,
           used := p.used - 1 }

theorem avail_took {p r} (h : Inv p r) (hlt : p.used < p.capacity) :
    ∃ b, p.ptrBuf[p.allocIdx]? = some b ∧ avail p = b :: avail (took p) := by
  have hl := h.len
  have hm : p.allocIdx < p.ptrBuf.length := hl ▸ h.ai
  refine ⟨p.ptrBuf[p.allocIdx], List.getElem?_eq_getElem hm, ?_⟩
  show _ = _ :: (rot p.ptrBuf (wrapAdd p.allocIdx 1 p.capacity)).take (p.capacity - (p.used + 1))
  rw [← hl, rot_wrapAdd_one _ hm, ← rot_take_succ _ hm (by omega), avail]
  congr 1; omega

theorem avail_freed {p r} (h : Inv p r) (hpos : 0 < p.used) (b : BlockId) :
    avail (freed p b) = avail p ++ [b] := by
  have hl := h.len
  have hu := h.used_le
  have hai := h.ai
  show ((rot (p.ptrBuf.set p.freeIdx b) p.allocIdx).take (p.capacity - (p.used - 1))) = _
  rw [h.fi, ← hl, rot_set _ _ _ _ (by omega) (by omega),
    show p.ptrBuf.length - (p.used - 1) = (p.ptrBuf.length - p.used) + 1 by omega,
    List.take_set_succ _ _ _ (by rw [rot_length]; omega), avail, hl]

theorem take_ok {p r} (h : Inv p r) (hlt : p.used < p.capacity) :
    ∃ b, take p = .ok (took p, some b) ∧ validB p.slabs b = true ∧ b ∉ r.live ∧
      Inv (took p) { r with live := r.live ++ [b] } := by
  obtain ⟨b, hb, hav⟩ := avail_took h hlt
  have hmem : b ∈ avail p := by simp [hav]
  refine ⟨b, by simp [take, hb, took, wrapAdd_one h.ai], (valid_iff h b).mpr (.inl hmem),
    (nodup_parts h).2.2 b hmem,
    { h with used_le := hlt, ai := wrapAdd_lt h.ai (by omega), fi := ?_, perm := ?_,
             used_eq := ?_ }⟩
  · show p.freeIdx
      = wrapAdd (wrapAdd p.allocIdx 1 p.capacity) (p.capacity - (p.used + 1)) p.capacity
    rw [wrapAdd_wrapAdd h.ai (by omega), h.fi]
    congr 1; omega
  · show (avail (took p) ++ (r.live ++ [b])).Perm (allBlocks p.slabs)
    have := h.perm
    rw [hav] at this
    rw [← List.append_assoc]
    exact (List.perm_append_singleton b _).trans this
  · show p.used + 1 = (r.live ++ [b]).length
    rw [List.length_append, h.used_eq]; rfl

theorem free_ok {p r} (h : Inv p r) (b : BlockId) (hb : b ∈ r.live) :
    free p b = .ok (freed p b) ∧ Inv (freed p b) { r with live := r.live.erase b } := by
  have hpos : 0 < p.used := h.used_eq ▸ List.length_pos_of_mem hb
  have hu := h.used_le
  refine ⟨?_, { h with len := ?_, used_le := ?_, fi := ?_, perm := ?_, used_eq := ?_ }⟩
  · simp [free, Nat.ne_of_gt hpos, h.len, fi_lt h, freed, wrapAdd_one (fi_lt h)]
  · show (p.ptrBuf.set p.freeIdx b).length = p.capacity
    rw [List.length_set, h.len]
  · show p.used - 1 ≤ p.capacity; omega
  · show wrapAdd p.freeIdx 1 p.capacity = wrapAdd p.allocIdx (p.capacity - (p.used - 1)) p.capacity
    rw [h.fi, wrapAdd_wrapAdd h.ai (by omega)]
    congr 1; omega
  · show (avail (freed p b) ++ r.live.erase b).Perm (allBlocks p.slabs)
    rw [avail_freed h hpos, List.append_assoc]
    exact ((List.perm_cons_erase hb).symm.append_left _).trans h.perm
  · show p.used - 1 = (r.live.erase b).length
    rw [List.length_erase_of_mem hb, h.used_eq]

/-! ## `ensure_space` as a computation, for every variant of the source (no invariant; `slabRequest_fixed` alone
assumes `fixBytes`) -/

theorem usub_eq {a b : Nat} (h : b ≤ a) : usub a b = .ok (a - b) := if_pos h

theorem slice_eq {l : List BlockId} {s n : Nat} (h : s + n ≤ l.length) :
    slice l s n = .ok ((l.drop s).take n) := if_pos h

/-- the pool after a growth to `n` blocks; `fr`, `al` are the copied sections -/
def grown (p : Pool) (fr al : List BlockId) (n bytes : Nat) : Pool :=
  { p with ptrBuf := fr ++ al ++ newBlocks p.slabs.length (n - p.capacity),
           freeIdx := 0, allocIdx := fr.length, capacity := n,
           slabs := p.slabs ++ [n - p.capacity], slabBytes := p.slabBytes ++ [bytes] }

def relinearise (E : Env) (p : Pool) (n bytes : Nat) : Except Err (Pool × Bool) := do
  let (fr, al) ← sections E p
  if fr.length + al.length ≠ p.capacity then .error .oob else return (grown p fr al n bytes, true)

/-- `ensureSpace` with its chain of early exits read as one guard -/
theorem ensureSpace_eq (E : Env) (p : Pool) (n : Nat) :
    ensureSpace E p n =
      if n ≤ p.capacity then .ok (p, true)
      else match slabRequest E p.blockSize (n - p.capacity) with
        | none => .ok (p, false)
        | some bytes =>
          if !p.isConst && E.mal (PTR * (p.slabs.length + 1)) && E.mal bytes && E.mal (PTR * n)
          then relinearise E p n bytes else .ok (p, false) := by
  unfold ensureSpace relinearise
  dsimp only
  by_cases hn : n ≤ p.capacity
  · rw [if_pos hn, if_pos hn]
  · rw [if_neg hn, if_neg hn]
    cases slabRequest E p.blockSize (n - p.capacity) with
    | none => exact ite_self _
    | some bytes =>
      dsimp only
      cases p.isConst
      · cases E.mal (PTR * (p.slabs.length + 1))
        · rfl
        · cases E.mal bytes
          · rfl
          · cases E.mal (PTR * n) <;> rfl
      · rfl

theorem slabRequest_fixed {E : Env} (hB : E.fixBytes = true) (bs n : Nat) :
    slabRequest E bs n = if n ≤ SIZE_MAX / bs then some (bs * n) else none := by
  unfold slabRequest
  rw [if_pos hB]
  -- the model tests `n > SIZE_MAX / bs`, the statement its negation
  by_cases h : n ≤ SIZE_MAX / bs
  · rw [if_pos h, if_neg (Nat.not_lt.mpr h)]
  · rw [if_neg h, if_pos (Nat.lt_of_not_le h)]

theorem frame_of_eq {p p' : Pool} (h1 : p'.slabs = p.slabs) (h2 : p'.slabBytes = p.slabBytes) :
    p.slabs <+: p'.slabs ∧ p.slabBytes <+: p'.slabBytes := by
  rw [h1, h2]; exact ⟨List.prefix_refl _, List.prefix_refl _⟩

theorem ensureSpace_frame {E : Env} {p p' : Pool} {n : Nat} {ok : Bool}
    (h : ensureSpace E p n = .ok (p', ok)) :
    p.slabs <+: p'.slabs ∧ p.slabBytes <+: p'.slabBytes ∧ p'.used = p.used ∧
      p'.flag = p.flag ∧ p'.maxDelta = p.maxDelta ∧ p'.blockSize = p.blockSize := by
  rw [ensureSpace_eq] at h
  split at h
  · cases h; simp
  split at h
  · cases h; simp
  split at h
  · unfold relinearise at h
    cases hs : sections E p with
    | error e => rw [hs] at h; cases h
    | ok v =>
      rw [hs] at h
      simp only [bind, Except.bind] at h
      split at h
      · cases h
      · cases h; simp [grown]
  · cases h; simp

theorem take_frame {q q' : Pool} {res : Option BlockId} (h : take q = .ok (q', res)) :
    q'.slabs = q.slabs ∧ q'.slabBytes = q.slabBytes := by
  unfold take at h
  split at h <;> cases h
  exact ⟨rfl, rfl⟩

theorem free_frame {p q : Pool} {b : BlockId} (h : free p b = .ok q) :
    q.slabs = p.slabs ∧ q.slabBytes = p.slabBytes := by
  unfold free at h
  split at h
  · cases h
  · split at h <;> cases h
    exact ⟨rfl, rfl⟩

theorem alloc_frame {E : Env} {p p' : Pool} {res : Option BlockId}
    (h : alloc E p = .ok (p', res)) :
    p.slabs <+: p'.slabs ∧ p.slabBytes <+: p'.slabBytes := by
  unfold alloc at h
  split at h
  · split at h
    · cases h
    · next q hq =>
      rw [(take_frame h).1, (take_frame h).2]
      exact ⟨(ensureSpace_frame hq).1, (ensureSpace_frame hq).2.1⟩
    · next q hq =>
      cases h
      exact ⟨(ensureSpace_frame hq).1, (ensureSpace_frame hq).2.1⟩
  · exact frame_of_eq (take_frame h).1 (take_frame h).2

/-! ## Growth under the invariant -/

/-- the slots whose pointers are handed out: `used` ring entries from `free_index`. The C code
    calls these the *free* sections (they wait for a freed pointer), `avail` the *alloc* sections. -/
def stale (p : Pool) : List BlockId := (rot p.ptrBuf p.freeIdx).take p.used

theorem stale_length {p r} (h : Inv p r) : (stale p).length = p.used := by
  rw [stale, List.length_take, rot_length, h.len]; exact Nat.min_eq_left h.used_le

theorem sections_spec {E : Env} {p r} (h : Inv p r) (hE : E.fixEmpty = true) :
    sections E p = .ok (stale p, avail p) := by
  have hl := h.len
  have hu := h.used_le
  have hai := h.ai
  have hfi := fi_lt h
  unfold sections stale avail
  rcases fi_sum h with hf | hf
  · by_cases h1 : p.used = p.capacity
    · -- full: nothing available, the whole ring is stale
      rw [if_pos h1, if_neg (by omega)]
      simp (disch := omega) only [usub_eq, slice_eq, bind, Except.bind, pure, Except.pure]
      rw [show p.capacity - p.used = 0 by omega, List.take_zero,
        show p.used = p.ptrBuf.length - p.freeIdx + p.freeIdx by omega,
        rot_take_wrap _ (Nat.le_refl _), hl]
    · -- the available pointers lie between the cursors, the stale slots wrap
      rw [if_neg h1, if_neg (by simp [hE]; omega)]
      simp (disch := omega) only [usub_eq, slice_eq, bind, Except.bind, pure, Except.pure]
      rw [show p.used = p.ptrBuf.length - p.freeIdx + p.allocIdx by omega,
        rot_take_wrap _ (by omega), hl, rot_take_of_le _ (by omega),
        show p.capacity - (p.capacity - p.freeIdx + p.allocIdx) = p.freeIdx - p.allocIdx by omega]
  · -- the available pointers wrap around the end of the ring, or fill it: with `used = 0` the
    -- cursors coincide as in a full ring, and only the repaired test (`fixEmpty`) comes here
    rw [if_neg (by omega), if_pos (by simp [hE]; omega)]
    simp (disch := omega) only [usub_eq, slice_eq, bind, Except.bind, pure, Except.pure, if_pos]
    rw [rot_take_of_le _ (by omega), show p.used = p.allocIdx - p.freeIdx by omega,
      show p.capacity - (p.allocIdx - p.freeIdx) = p.ptrBuf.length - p.allocIdx + p.freeIdx
        by omega, rot_take_wrap _ (by omega), hl]

theorem avail_grown {p r} (h : Inv p r) (fr : List BlockId) {n : Nat} (hn : p.capacity < n)
    (bytes : Nat) :
    avail (grown p fr (avail p) n bytes)
      = avail p ++ newBlocks p.slabs.length (n - p.capacity) := by
  have hal := avail_length h
  have hu := h.used_le
  show ((rot (fr ++ avail p ++ newBlocks p.slabs.length (n - p.capacity)) fr.length).take
      (n - p.used)) = _
  rw [rot, List.append_assoc, List.drop_left, List.take_left, List.take_append_of_le_length,
    List.take_of_length_le] <;> simp only [List.length_append, length_newBlocks, hal] <;> omega

theorem grown_inv {p r} (h : Inv p r) {fr : List BlockId} (hfr : fr.length = p.used) {n : Nat}
    (hn : p.capacity < n) :
    Inv (grown p fr (avail p) n (p.blockSize * (n - p.capacity)))
      { r with slabs := r.slabs ++ [n - r.cap] } := by
  have hu := h.used_le
  refine { h with len := ?_, used_le := ?_, ai := ?_, fi := ?_, perm := ?_, slabs := ?_,
                  bytes := ?_ }
  · show (fr ++ avail p ++ newBlocks p.slabs.length (n - p.capacity)).length = n
    simp only [List.length_append, avail_length h, length_newBlocks, hfr]; omega
  · show p.used ≤ n; omega
  · show fr.length < n; omega
  · show 0 = wrapAdd fr.length (n - p.used) n
    rw [hfr, wrapAdd_sub_self (by omega)]
  · show (avail (grown p fr (avail p) n _) ++ r.live).Perm (allBlocks (p.slabs ++ [n - p.capacity]))
    rw [avail_grown h fr hn, allBlocks, blocksFrom_append, Nat.zero_add, List.append_assoc]
    exact (List.perm_append_comm.append_left _).trans
      ((List.append_assoc ..).symm ▸ h.perm.append_right _)
  · show r.slabs ++ [n - r.cap] = p.slabs ++ [n - p.capacity]
    rw [h.slabs, ref_cap h]
  · show p.slabBytes ++ [p.blockSize * (n - p.capacity)]
        = (p.slabs ++ [n - p.capacity]).map (p.blockSize * ·)
    rw [h.bytes, List.map_append]; rfl

theorem canGrow_eq {p r} (h : Inv p r) (mal : Nat → Bool) (n : Nat) :
    r.canGrow mal n = (p.flag % 2 ≠ 1 && decide (n - p.capacity ≤ SIZE_MAX / p.blockSize) &&
      mal (PTR * (p.slabs.length + 1)) && mal (p.blockSize * (n - p.capacity)) &&
      mal (PTR * n)) := by
  rw [Ref.canGrow, ref_cap h, h.flag, h.bs, h.slabs]

theorem relinearise_ok {E : Env} {p r} (hE : E.fixEmpty = true) (h : Inv p r) (n bytes : Nat) :
    relinearise E p n bytes = .ok (grown p (stale p) (avail p) n bytes, true) := by
  have hu := h.used_le
  rw [relinearise, sections_spec h hE]
  exact if_neg (not_not_intro (by rw [stale_length h, avail_length h]; omega))

section Repaired
variable {E : Env} (hE1 : E.fixEmpty = true) (hE2 : E.fixBytes = true)
include hE1 hE2

theorem ensure_ok {p r} (h : Inv p r) (n : Nat) :
    ∃ p', ensureSpace E p n = .ok (p', (Ref.ensure E.mal r n).2) ∧
      Inv p' (Ref.ensure E.mal r n).1 ∧
      ((Ref.ensure E.mal r n).2 = true → n ≤ p'.capacity) ∧
      ((Ref.ensure E.mal r n).2 = false → p' = p) := by
  rw [ensureSpace_eq, slabRequest_fixed hE2]
  rcases ref_ensure_cases E.mal r n with ⟨hn, he⟩ | ⟨hn, hg, he⟩ | ⟨hn, hg, he⟩ <;>
    rw [he] <;> rw [ref_cap h] at hn
  · exact ⟨p, if_pos hn, h, fun _ => hn, nofun⟩
  · rw [canGrow_eq h] at hg
    simp only [Bool.and_eq_true, decide_eq_true_eq] at hg
    obtain ⟨⟨⟨⟨g1, g2⟩, g3⟩, g4⟩, g5⟩ := hg
    refine ⟨_, ?_, grown_inv h (stale_length h) hn, fun _ => Nat.le_refl _, nofun⟩
    -- every guard of `ensureSpace_eq` holds
    simp [Nat.not_le.mpr hn, g2, Pool.isConst, g1, g3, g4, g5, relinearise_ok hE1 h]
  · refine ⟨p, ?_, h, nofun, fun _ => rfl⟩
    rw [canGrow_eq h] at hg
    rw [if_neg (Nat.not_le.mpr hn)]
    by_cases hsz : n - p.capacity ≤ SIZE_MAX / p.blockSize
    · rw [if_pos hsz]
      exact if_neg (by simpa [hsz, Pool.isConst] using hg)
    · rw [if_neg hsz]

/-! ## `alloc`, and every operation -/

theorem alloc_ok {p r} (h : Inv p r) (hv : Valid r .alloc) :
    ∃ p' res r', alloc E p = .ok (p', res) ∧ Ref.step E.mal r .alloc (.blk res) = some r' ∧
      Inv p' r' := by
  have hu := h.used_le
  have hfull_iff : r.used = r.cap ↔ p.used = p.capacity := by rw [ref_used h, ref_cap h]
  -- `alloc` is `take` after the growth attempt of a full pool; the reference does the same
  obtain ⟨p1, r1, ok, hpre, hpool, hinv1, hroom⟩ : ∃ p1 r1 ok, preAlloc E.mal r = (r1, ok) ∧
      alloc E p = (if ok then take p1 else .ok (p1, none)) ∧ Inv p1 r1 ∧
      (ok = true → p1.used < p1.capacity) := by
    by_cases hfull : p.used = p.capacity
    · have hlt : p.capacity + growStep p < U32 := by
        have := hv (hfull_iff.mpr hfull)
        rwa [ref_cap h, growStep_eq h] at this
      obtain ⟨p1, heq, hinv1, hok, -⟩ := ensure_ok hE1 hE2 h (p.capacity + growStep p)
      have hu1 := (ensureSpace_frame heq).2.2.1
      generalize he : Ref.ensure E.mal r (p.capacity + growStep p) = e at heq hinv1 hok
      refine ⟨p1, e.1, e.2, ?_, ?_, hinv1, fun hb => ?_⟩
      · rw [preAlloc, if_pos (hfull_iff.mpr hfull), ref_cap h, growStep_eq h,
          Nat.mod_eq_of_lt hlt, he]
      · rw [alloc, if_pos hfull, Nat.mod_eq_of_lt hlt, heq]
        cases e.2 <;> rfl
      · have := hok hb
        have := growStep_pos h
        omega
    · exact ⟨p, r, true, by rw [preAlloc, if_neg (mt hfull_iff.mp hfull)],
        by rw [alloc, if_neg hfull]; rfl, h, fun _ => by omega⟩
  cases ok
  · exact ⟨p1, none, r1, hpool, refStep_iff.mpr (.refuse hpre), hinv1⟩
  · obtain ⟨b, htk, hval, hnl, hinv2⟩ := take_ok hinv1 (hroom rfl)
    exact ⟨_, _, _, hpool.trans htk, refStep_iff.mpr (.alloc hpre
      (by rw [ref_used hinv1, ref_cap hinv1]; exact hroom rfl) (hinv1.slabs ▸ hval) hnl), hinv2⟩

theorem step_ok {p r} (h : Inv p r) (op : Op) (hv : Valid r op) :
    ∃ p' res r', step E p op = .ok (p', res) ∧ Ref.step E.mal r op res = some r' ∧ Inv p' r' := by
  cases op with
  | alloc =>
    obtain ⟨p', res, r', h1, h2, h3⟩ := alloc_ok hE1 hE2 h hv
    exact ⟨p', .blk res, r', by rw [step, h1]; rfl, h2, h3⟩
  | free b =>
    obtain ⟨h1, h2⟩ := free_ok h b hv
    exact ⟨_, .unit, _, by rw [step, h1]; rfl, refStep_iff.mpr (.free hv), h2⟩
  | ensure n =>
    obtain ⟨p', h1, h2, -⟩ := ensure_ok hE1 hE2 h n
    exact ⟨p', _, _, by rw [step, h1]; rfl, refStep_iff.mpr (.ensure n), h2⟩
  | setFlag f => exact ⟨_, _, _, rfl, rfl, { h with flag := rfl }⟩
  | setMaxDelta d => exact ⟨_, _, _, rfl, rfl, { h with md := rfl }⟩

theorem step_sim {p r} (h : Inv p r) {op : Op} (hv : Valid r op) {p' : Pool} {res : Res}
    (hs : step E p op = .ok (p', res)) : ∃ r', Ref.step E.mal r op res = some r' ∧ Inv p' r' := by
  obtain ⟨p'', res'', r', h1, h2, h3⟩ := step_ok hE1 hE2 h op hv
  rw [hs] at h1; cases h1
  exact ⟨r', h2, h3⟩

end Repaired

/-! ## `init` -/

/-- `initPool`, `initRef`: what `init` and `Ref.init` return when they succeed (`init_cases`) -/
def initPool (cap b : Nat) : Pool :=
  { ptrBuf := newBlocks 0 cap, allocIdx := 0, freeIdx := 0, capacity := cap, used := 0,
    blockSize := b, slabs := [cap], slabBytes := [b * cap], flag := 0,
    maxDelta := if b > 8 * 1024 then cap else 512 * 1024 }

def initRef (cap b : Nat) : Ref :=
  { live := [], slabs := [cap], blockSize := b, flag := 0,
    maxDelta := if b > 8 * 1024 then cap else 512 * 1024 }

theorem initPool_inv {cap b : Nat} (hc : 0 < cap) (hb : 0 < b) :
    Inv (initPool cap b) (initRef cap b) where
  len := length_newBlocks 0 cap
  used_le := Nat.zero_le _
  ai := hc
  fi := (wrapAdd_sub_self hc).symm
  perm := by
    show ((rot (newBlocks 0 cap) 0).take (cap - 0) ++ []).Perm (blocksFrom 0 [cap])
    rw [rot_zero, List.take_of_length_le (by rw [length_newBlocks]; omega), blocksFrom, blocksFrom]
  used_eq := rfl
  slabs := rfl
  bs := rfl
  bs_pos := hb
  flag := rfl
  md := rfl
  bytes := rfl

/-- both fail (block size 0, size not representable, `malloc` refuses) or neither does -/
theorem init_cases {E : Env} (hB : E.fixBytes = true) (c b : Nat) :
    (init E c b = none ∧ Ref.init E.mal c b = none) ∨
    (init E c b = some (initPool (if c = 0 then 8 else c) b) ∧
      Ref.init E.mal c b = some (initRef (if c = 0 then 8 else c) b) ∧
      Inv (initPool (if c = 0 then 8 else c) b) (initRef (if c = 0 then 8 else c) b)) := by
  by_cases hb : b = 0
  · exact .inl (by simp [init, Ref.init, hb])
  suffices h : (init E c b = none ∧ Ref.init E.mal c b = none) ∨
      (init E c b = some (initPool (if c = 0 then 8 else c) b) ∧
        Ref.init E.mal c b = some (initRef (if c = 0 then 8 else c) b)) from
    h.imp_right fun ⟨h1, h2⟩ =>
      ⟨h1, h2, initPool_inv (by split <;> omega) (Nat.pos_of_ne_zero hb)⟩
  unfold init Ref.init
  simp only [slabRequest_fixed hB]
  -- `init` refuses test after test what `Ref.init` refuses in one disjunction: a case for each
  -- answer of the three `malloc`s
  by_cases hov : (if c = 0 then 8 else c) ≤ SIZE_MAX / b
  · cases E.mal PTR <;> cases E.mal (PTR * (if c = 0 then 8 else c)) <;>
      cases h3 : E.mal (b * (if c = 0 then 8 else c)) <;>
      simp [hb, hov, h3, initPool, initRef]
  · simp [hb, hov]

end MgProof.C06
