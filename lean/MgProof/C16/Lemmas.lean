import MgProof.Conc
import MgModel.C16.Logger
/-! C16, sequential part: what `emit` hands to `fwrite` in both variants, the cut line, one handler, the
dispatch loop, the synchronous logger; at the end the list facts the two concurrent parts share. -/
namespace MgProof.C16
open MgModel.C16

theorem readRange_map_some (l : Bytes) (rest : Buf) :
    readRange (l.map some ++ rest) l.length = .ok l := by
  induction l with
  | nil => simp [readRange]
  | cons b bs ih => simp [readRange, ih]; rfl

theorem readRange_all_some_oob (l : Bytes) (n : Nat) (h : l.length < n) :
    readRange (l.map some) n = .error .oob := by
  induction l generalizing n with
  | nil =>
    cases n with
    | zero => omega
    | succ n => simp [readRange]
  | cons b bs ih =>
    cases n with
    | zero => omega
    | succ n =>
      have : bs.length < n := by simp at h; omega
      simp [readRange, ih n this]; rfl

theorem bufSet_append (a : Bytes) (x : Option UInt8) (r : Buf) (y : UInt8) :
    bufSet (a.map some ++ x :: r) a.length y = .ok ((a ++ [y]).map some ++ r) := by
  unfold bufSet
  rw [if_pos (by simp)]
  simp [List.set_append_right]

theorem two_le_maxLen : 2 ≤ maxLen := by decide

theorem snprintfBuf_fit (cap : Nat) (line : Bytes) (h : line.length < cap) :
    snprintfBuf cap line =
      (line.map some ++ ([some 0] ++ List.replicate (cap - 1 - line.length) none), line.length) := by
  unfold snprintfBuf
  have h0 : cap ≠ 0 := by omega
  have ht : line.take (cap - 1) = line := List.take_of_length_le (by omega)
  simp [h0, ht]

theorem snprintfBuf_long (cap : Nat) (line : Bytes) (hc : 2 ≤ cap) (h : cap ≤ line.length) :
    snprintfBuf cap line = ((line.take (cap - 2) ++ [line[cap - 2], 0]).map some, line.length) := by
  have hlt : cap - 2 < line.length := by omega
  have ht : line.take (cap - 1) = line.take (cap - 2) ++ [line[cap - 2]] := by
    rw [← List.take_succ_eq_append_getElem hlt, show cap - 2 + 1 = cap - 1 by omega]
  have hl : (line.take (cap - 1)).length = cap - 1 := List.length_take_of_le (by omega)
  rw [snprintfBuf, if_neg (by omega)]
  simp only [hl, Nat.sub_self, List.replicate_zero, List.append_nil]
  rw [ht, List.map_append, List.map_append, List.append_assoc]
  rfl

theorem emit_of {v : Variant} {line : Bytes} {buf buf' : Buf} {ret n : Nat}
    (hs : snprintfBuf maxLen line = (buf, ret)) (hc : clamp v buf ret = .ok (buf', n)) :
    emit v line = (readRange buf' n).bind fun bytes => .ok (bytes, n) := by
  unfold emit
  rw [hs]
  show (clamp v buf ret).bind _ = _
  rw [hc]
  rfl

theorem emit_fit (v : Variant) (line : Bytes) (h : line.length < maxLen) :
    emit v line = .ok (line, line.length) := by
  have hc : ∀ buf, clamp v buf line.length = .ok (buf, line.length) := fun buf => by
    cases v
    · rfl
    · exact if_neg (Nat.not_le.mpr h)
  rw [emit_of (snprintfBuf_fit maxLen line h) (hc _), readRange_map_some]
  rfl

theorem cut_length_le (line : Bytes) : (cut line).length ≤ maxLen - 1 := by
  unfold cut
  split
  · exact Nat.le_pred_of_lt ‹_›
  · rw [List.length_append, List.length_take]; exact Nat.add_le_add_right (Nat.min_le_left _ _) 1

theorem cut_fit (line : Bytes) (h : line.length < maxLen) : cut line = line := by
  unfold cut; rw [if_pos h]

theorem cut_long (line : Bytes) (h : maxLen ≤ line.length) :
    cut line = line.take (maxLen - 2) ++ [10] := by
  unfold cut; rw [if_neg (by omega)]

theorem cut_getLast (line : Bytes) (h : line.getLast? = some 10) : (cut line).getLast? = some 10 := by
  unfold cut
  split
  · exact h
  · simp

theorem cut_dropLast_prefix (line : Bytes) : (cut line).dropLast <+: line := by
  unfold cut
  split
  · exact List.dropLast_prefix line
  · simp only [List.dropLast_concat]; exact List.take_prefix _ _

/-! ### what `fwrite` gets when the line does not fit -/

theorem length_take_maxLen {line : Bytes} (h : maxLen ≤ line.length) :
    (line.take (maxLen - 2)).length = maxLen - 2 :=
  List.length_take_of_le (Nat.le_trans (Nat.sub_le _ _) h)

theorem emit_fixed (line : Bytes) :
    emit .fixed line = .ok (cut line, (cut line).length) := by
  by_cases h : line.length < maxLen
  · rw [cut_fit line h]; exact emit_fit .fixed line h
  · have hge : maxLen ≤ line.length := Nat.le_of_not_lt h
    have hl : (line.take (maxLen - 2) ++ [10]).length = maxLen - 1 := by
      rw [List.length_append, length_take_maxLen hge]; rfl
    -- the newline goes over the last byte that fitted, whatever it was
    have hc : ∀ x, clamp .fixed ((line.take (maxLen - 2) ++ [x, 0]).map some) line.length
        = .ok ((line.take (maxLen - 2) ++ [10]).map some ++ [some 0], maxLen - 1) := fun x => by
      have := bufSet_append (line.take (maxLen - 2)) (some x) [some 0] 10
      rw [length_take_maxLen hge] at this
      simp only [clamp, if_pos hge, List.map_append, List.map_cons, List.map_nil, this]; rfl
    rw [cut_long line hge, emit_of (snprintfBuf_long maxLen line two_le_maxLen hge) (hc _), ← hl, readRange_map_some]
    rfl

theorem emit_orig_oob (line : Bytes) (h : maxLen < line.length) : emit .orig line = .error .oob := by
  rw [emit_of (snprintfBuf_long maxLen line two_le_maxLen (Nat.le_of_lt h)) rfl, readRange_all_some_oob]
  · rfl
  · rw [List.length_append, length_take_maxLen (Nat.le_of_lt h)]; exact h

theorem emit_orig_nul (line : Bytes) (h : line.length = maxLen) :
    emit .orig line = .ok (line.take (maxLen - 2) ++
      [line[maxLen - 2]'(Nat.lt_of_lt_of_le (by decide) (Nat.le_of_eq h.symm)), 0], maxLen) := by
  have hge : maxLen ≤ line.length := Nat.le_of_eq h.symm
  have hr := readRange_map_some (line.take (maxLen - 2) ++
    [line[maxLen - 2]'(Nat.lt_of_lt_of_le (by decide) hge), 0]) []
  rw [List.append_nil, List.length_append, length_take_maxLen hge] at hr
  rw [emit_of (snprintfBuf_long maxLen line two_le_maxLen hge) rfl]
  -- `fwrite` is handed `line.length = maxLen` bytes: all of the buffer, terminator included
  refine (congrArg (fun n => (readRange _ n).bind fun bytes => Except.ok (bytes, n)) h).trans ?_
  exact congrArg (fun r => Except.bind r fun bytes => Except.ok (bytes, maxLen)) hr

/-! ### one handler, the dispatch loop, the synchronous logger (fixed code) -/

theorem handlerWrite_fixed (h : Handler) (m : Msg) :
    handlerWrite .fixed h m = .ok ({ h with out := h.out ++ specRecs h m }, specRet h m) := by
  obtain ⟨kind, level, fmt, out⟩ := h
  unfold handlerWrite specRecs specRet
  cases kind <;> cases fmt <;> simp only [emit_fixed, List.append_nil] <;> rfl

/-- the handlers after `muggle_logger_write` as the specification has them -/
def stepHandlers (m : Msg) (hs : List Handler) : List Handler :=
  hs.map fun h => if shouldWrite h m.level then { h with out := h.out ++ specRecs h m } else h

def stepRets (m : Msg) (hs : List Handler) : List (Option Int) :=
  hs.map fun h => if shouldWrite h m.level then some (specRet h m) else none

theorem writeAll_fixed (m : Msg) (hs : List Handler) :
    writeAll .fixed m hs = .ok (stepHandlers m hs, stepRets m hs) := by
  induction hs with
  | nil => rfl
  | cons h hs ih =>
    unfold writeAll
    rw [ih]
    by_cases hw : shouldWrite h m.level
    · simp only [hw, if_true, handlerWrite_fixed, stepHandlers, stepRets, List.map_cons]; rfl
    · simp only [hw, stepHandlers, stepRets, List.map_cons]; rfl

theorem shouldWrite_iff (h : Handler) (l : Int) : shouldWrite h l = true ↔ l ≥ h.level := by
  unfold shouldWrite; simp

theorem stepHandlers_length (m : Msg) (hs : List Handler) : (stepHandlers m hs).length = hs.length := by
  simp [stepHandlers]

theorem stepHandlers_static (m : Msg) (hs : List Handler) :
    (stepHandlers m hs).map (fun h => (h.kind, h.level, h.fmt)) = hs.map (fun h => (h.kind, h.level, h.fmt)) := by
  unfold stepHandlers
  rw [List.map_map]
  apply List.map_congr_left
  intro h _
  simp only [Function.comp]
  split <;> rfl

theorem syncLog_fixed (lg : Logger) (e : Env) (c : Call) :
    syncLog .fixed lg e c =
      .ok (if lg.lowest > c.level then (lg, [])
           else ({ lg with handlers := stepHandlers (mkMsg lg e c) lg.handlers },
                 stepRets (mkMsg lg e c) lg.handlers)) := by
  unfold syncLog
  split
  · rfl
  · rw [writeAll_fixed]; rfl

open MgModel.Conc in
/-- thread `i` takes the next call `x` off its list -/
theorem next_call {α : Type} {prog0 prog : Nat → List α} {cnt : Nat → Nat} {i : Nat} {x : α} {rest : List α}
    (h : ∀ i, (prog0 i).drop (cnt i) = prog i) (hp : prog i = x :: rest) :
    (prog0 i)[cnt i]? = some x ∧ ∀ i', (prog0 i').drop (upd cnt i (cnt i + 1) i') = upd prog i rest i' := by
  have hd := (h i).trans hp
  exact ⟨by simpa [hd] using (List.getElem?_drop (xs := prog0 i) (i := cnt i) (j := 0)).symm,
    upd_forall₂ (P := fun i' n l => (prog0 i').drop n = l) (fun i' _ => h i') (by rw [← List.tail_drop, hd]; rfl)⟩

theorem lt_of_drop_eq_nil {α : Type} {l : List α} {n k : Nat} {x : α} (h : l.drop n = [])
    (hk : l[k]? = some x) : k < n :=
  Nat.lt_of_lt_of_le (List.getElem?_eq_some_iff.mp hk).1 (List.drop_eq_nil_iff.mp h)

/-- `H`: a history whose entries are found by thread and call number -/
theorem entry_msg {α μ : Type} {H : List α} {tid seq : α → Nat} {msg : α → μ} {prog0 : Nat → List (Env × Call)}
    {mk : Env → Call → μ} {i k : Nat} {e : Env} {c : Call} (hk : (prog0 i)[k]? = some (e, c))
    (hc : ∃ en ∈ H, tid en = i ∧ seq en = k)
    (hs : ∀ en ∈ H, ∃ e c, (prog0 (tid en))[seq en]? = some (e, c) ∧ msg en = mk e c) :
    ∃ en ∈ H, tid en = i ∧ seq en = k ∧ msg en = mk e c := by
  obtain ⟨en, hen, h1, h2⟩ := hc
  obtain ⟨e', c', hget, hmsg⟩ := hs en hen
  rw [h1, h2, hk] at hget
  cases hget
  exact ⟨en, hen, h1, h2, hmsg⟩

end MgProof.C16
