import MgModel.C16.SyncConc
import MgProof.C16.Lemmas
/-! C16, many threads on one synchronous logger: the steps of a thread as a relation; `SInv` (repaired variant: mutex
discipline, whole lines) and `SHist` (both variants: each handler's history is a merge of the threads' call sequences). -/
namespace MgProof.C16
open MgModel.C16 MgModel.Conc

theorem specRecs_out_irrel (h : Handler) (o : List Rec) (m : Msg) :
    specRecs { h with out := o } m = specRecs h m := by
  obtain ⟨k, l, f, out⟩ := h
  rfl

theorem handlerRecs_fixed (h : Handler) (m : Msg) : handlerRecs .fixed h m = .ok (specRecs h m) := by
  unfold handlerRecs
  rw [handlerWrite_fixed]
  simp only [List.nil_append, specRecs_out_irrel]
  rfl

/-- an enabled step of thread `i`, by the paths through `sstep` (`pass`: either way in which handler `j`
writes nothing for the message) -/
inductive SStep (s : SState) (i : Nat) : SState → Prop
  | filtered {e c rest} : s.pc i = .idle → s.prog i = (e, c) :: rest → s.lg.lowest > c.level →
      SStep s i { s with prog := upd s.prog i rest, cnt := upd s.cnt i (s.cnt i + 1) }
  | call {e c rest} : s.pc i = .idle → s.prog i = (e, c) :: rest → ¬ s.lg.lowest > c.level →
      SStep s i { s with prog := upd s.prog i rest, cnt := upd s.cnt i (s.cnt i + 1),
                         pc := upd s.pc i (.disp (mkMsg s.lg e c) 0) }
  | ret {m j} : s.pc i = .disp m j → s.lg.handlers[j]? = none →
      SStep s i { s with pc := upd s.pc i .idle }
  | pass {m j h} : s.pc i = .disp m j → s.lg.handlers[j]? = some h →
      shouldWrite h m.level = false ∨ handlerRecs s.v h m = .ok [] →
      SStep s i { s with pc := upd s.pc i (.disp m (j + 1)) }
  | fault {m j h e} : s.pc i = .disp m j → s.lg.handlers[j]? = some h →
      handlerRecs s.v h m = .error e →
      SStep s i { s with fault := some e, pc := upd s.pc i (.disp m (j + 1)) }
  | lock {m j h r rs} : s.pc i = .disp m j → s.lg.handlers[j]? = some h →
      shouldWrite h m.level = true → handlerRecs s.v h m = .ok (r :: rs) → s.mtx j = none →
      SStep s i { s with mtx := upd s.mtx j (some i), pc := upd s.pc i (.locked m j (r :: rs)),
                         hist := upd s.hist j (s.hist j ++ [{ tid := i, seq := s.cnt i - 1, msg := m }]) }
  | write {m j r rs} : s.pc i = .locked m j (r :: rs) →
      SStep s i { s with outs := upd s.outs j (s.outs j ++ [r]), pc := upd s.pc i (.locked m j rs) }
  | unlock {m j} : s.pc i = .locked m j [] →
      SStep s i { s with mtx := upd s.mtx j none, pc := upd s.pc i (.disp m (j + 1)) }

theorem sstep_cases {s s' : SState} {t : Tok} {ev : List String} (h : sstep s t = some (s', ev)) :
    t.tid < s.n ∧ SStep s t.tid s' := by
  unfold sstep at h
  simp only at h
  split at h
  · cases h
  refine ⟨Nat.lt_of_not_ge ‹_›, ?_⟩
  split at h
  · split at h
    · cases h
    · split at h <;> cases h
      · exact .filtered ‹_› ‹_› ‹_›
      · exact .call ‹_› ‹_› ‹_›
  · split at h
    · cases h; exact .ret ‹_› ‹_›
    · split at h
      · rename_i hw; cases h; exact .pass ‹_› ‹_› (.inl (by simpa using hw))
      · rename_i hw
        split at h
        · cases h; exact .fault ‹_› ‹_› ‹_›
        · cases h; exact .pass ‹_› ‹_› (.inr ‹_›)
        · split at h
          · cases h
          · cases h; exact .lock ‹_› ‹_› (by simpa using hw) ‹_› ‹_›
  · cases h; exact .write ‹_›
  · cases h; exact .unlock ‹_›

theorem sstep_n (s s' : SState) (t : Tok) (ev : List String) (h : sstep s t = some (s', ev)) :
    s'.n = s.n := by
  cases (sstep_cases h).2 <;> rfl

variable {v : Variant} {lg : Logger} {outs0 : Nat → List Rec} {prog0 : Nat → List (Env × Call)} {s s' : SState} {i : Nat}

/-! ### whole lines: the mutex invariant -/

/-- output that handler `j` must have produced once everybody in `hist j` is through -/
def base (lg : Logger) (outs0 : Nat → List Rec) (hist : Nat → List HEntry) (j : Nat) : List Rec :=
  outs0 j ++ (hist j).flatMap (fun e => recsAt lg j e.msg)

def lockedAt (j : Nat) : SPc → Bool
  | .locked _ j' _ => j' == j
  | _ => false

theorem lockedAt_iff {j : Nat} {p : SPc} : lockedAt j p = true ↔ ∃ m t, p = .locked m j t := by
  cases p with
  | locked m j' t =>
    show (j' == j) = true ↔ _
    rw [beq_iff_eq]
    exact ⟨fun e => ⟨m, t, e ▸ rfl⟩, fun ⟨_, _, e⟩ => by cases e; rfl⟩
  -- `nofun` would do, but against an equation between constructors of `SPc` it is slow: the matcher expands the
  -- `Msg` argument down to the bytes of its strings
  | _ => exact ⟨fun e => Bool.noConfusion e, fun ⟨_, _, e⟩ => SPc.noConfusion e⟩

/-- Repaired variant; `outs0` = the handlers' outputs at the start. `free`: while the mutex is free the output is whole
groups; `held`: what the owner has written and what it has still to write make whole groups. -/
structure SInv (lg : Logger) (outs0 : Nat → List Rec) (s : SState) : Prop where
  fixed   : s.v = .fixed
  cfg     : s.lg = lg
  nofault : s.fault = none
  lock    : ∀ j t, s.mtx j = some t ↔ (t < s.n ∧ lockedAt j (s.pc t) = true)
  free    : ∀ j, s.mtx j = none → s.outs j = base lg outs0 s.hist j
  held    : ∀ i m j todo, s.pc i = .locked m j todo → s.outs j ++ todo = base lg outs0 s.hist j
  inrange : ∀ i, s.pc i ≠ .idle → i < s.n

theorem sinv_init (lg : Logger) (n : Nat) (prog : Nat → List (Env × Call)) :
    SInv lg (sinit .fixed lg n prog).outs (sinit .fixed lg n prog) :=
  ⟨rfl, rfl, rfl, fun _ _ => ⟨nofun, fun h => Bool.noConfusion h.2⟩, fun _ _ => by simp [sinit, base],
    fun _ _ _ _ h => SPc.noConfusion h, fun _ h => absurd rfl h⟩

theorem SInv.own (inv : SInv lg outs0 s) {m j t} (h : s.pc i = .locked m j t) : s.mtx j = some i :=
  (inv.lock j i).2 ⟨inv.inrange i (by rw [h]; exact SPc.noConfusion), lockedAt_iff.2 ⟨m, t, h⟩⟩

theorem SInv.owned (inv : SInv lg outs0 s) (j i : Nat) (h : s.mtx j = some i) : ∃ m todo, s.pc i = .locked m j todo :=
  lockedAt_iff.1 ((inv.lock j i).1 h).2

theorem sinv_excl {i i' j : Nat} {m m' : Msg} {t t' : List Rec} (inv : SInv lg outs0 s)
    (h : s.pc i = .locked m j t) (h' : s.pc i' = .locked m' j t') : i = i' :=
  Option.some.inj ((inv.own h).symm.trans (inv.own h'))

theorem sstep_sinv (inv : SInv lg outs0 s) (hi : i < s.n) (h : SStep s i s') : SInv lg outs0 s' := by
  have excl : ∀ {i i' j m m' t t'}, s.pc i = .locked m j t → s.pc i' = .locked m' j t' → i = i' :=
    sinv_excl inv
  have own : ∀ {i m j t}, s.pc i = .locked m j t → s.mtx j = some i := inv.own
  obtain ⟨fixed, cfg, nofault, lock, free, held, inrange⟩ := inv
  have inrange' : ∀ {p'} i', upd s.pc i p' i' ≠ .idle → i' < s.n :=
    upd_forall (P := fun i' (p : SPc) => p ≠ .idle → i' < s.n) (fun j _ => inrange j) fun _ => hi
  cases h with
  | filtered => exact ⟨fixed, cfg, nofault, lock, free, held, inrange⟩
  | fault _ _ he => rw [fixed, handlerRecs_fixed] at he; cases he
  | call hpc | ret hpc | pass hpc =>
    refine ⟨fixed, cfg, nofault, fun j => own_same (lock j) (by rw [hpc]; rfl), free, fun i' m j t h0 => ?_, inrange'⟩
    obtain ⟨_, h⟩ | ⟨_, h⟩ := upd_eq_cases h0
    · cases h
    · exact held _ _ _ _ h
  | @write m j r rs hpc =>
    have hm := own hpc
    refine ⟨fixed, cfg, nofault, fun j => own_same (lock j) (by rw [hpc]; rfl), fun j' h0 => ?_,
      fun i' m' j' t h0 => ?_, inrange'⟩ <;> dsimp only at h0 ⊢
    · have : j' ≠ j := fun e => by rw [e, hm] at h0; cases h0
      rw [upd_other _ _ _ _ this]; exact free j' h0
    · obtain ⟨rfl, h⟩ | ⟨hi', h⟩ := upd_eq_cases h0
      · cases h; rw [upd_same, List.append_assoc]; exact held _ _ _ _ hpc
      · rw [upd_other _ _ _ _ fun e => hi' (excl (e ▸ h) hpc)]; exact held _ _ _ _ h
  | @unlock m j hpc =>
    -- nothing is left to write, so `held` says the output of `j` is whole groups
    have hb := held _ _ _ _ hpc
    refine ⟨fixed, cfg, nofault, fun j' => ?_, fun j' h0 => ?_, fun i' m' j' t h0 => ?_, inrange'⟩ <;>
      dsimp only at *
    · by_cases hj : j' = j
      · subst hj; rw [upd_same]; exact own_release (lock j') (own hpc) rfl
      · rw [upd_other _ _ _ _ hj]
        exact own_same (lock j') (by rw [hpc]; simp [lockedAt, Ne.symm hj])
    · obtain ⟨rfl, _⟩ | ⟨_, h⟩ := upd_eq_cases h0
      · rw [← hb, List.append_nil]
      · exact free j' h
    · obtain ⟨_, h⟩ | ⟨_, h⟩ := upd_eq_cases h0
      · cases h
      · exact held _ _ _ _ h
  | @lock m j hd r rs hpc hj _ hrec hm =>
    rw [fixed, handlerRecs_fixed] at hrec
    injection hrec with hrec
    -- the new entry adds the group `r :: rs` to what handler `j` has to show, and nothing elsewhere
    have hb : ∀ j', base lg outs0 (upd s.hist j (s.hist j ++ [{ tid := i, seq := s.cnt i - 1, msg := m }])) j'
        = base lg outs0 s.hist j' ++ if j' = j then r :: rs else [] := by
      intro j'
      unfold base
      by_cases hjj : j' = j
      · subst hjj
        rw [upd_same, List.flatMap_append, ← List.append_assoc, if_pos rfl]
        simp [recsAt, ← cfg, hj, hrec]
      · rw [upd_other _ _ _ _ hjj, if_neg hjj, List.append_nil]
    have notme : ∀ {i' m' j' t}, s.pc i' = .locked m' j' t → j' ≠ j := fun h e => by
      rw [own (e ▸ h)] at hm; cases hm
    refine ⟨fixed, cfg, nofault, fun j' => ?_, fun j' h0 => ?_, fun i' m' j' t h0 => ?_, inrange'⟩ <;>
      dsimp only at *
    · by_cases hjj : j' = j
      · subst hjj; rw [upd_same]; exact own_acquire (lock j') hm hi (by simp [lockedAt])
      · rw [upd_other _ _ _ _ hjj]
        exact own_same (lock j') (by rw [hpc]; simp [lockedAt, Ne.symm hjj])
    · obtain ⟨_, h⟩ | ⟨hjj, h⟩ := upd_eq_cases h0
      · cases h
      · rw [hb, if_neg hjj, List.append_nil]; exact free j' h
    · obtain ⟨rfl, h⟩ | ⟨_, h⟩ := upd_eq_cases h0
      · cases h; rw [hb, if_pos rfl, free _ hm]
      · rw [hb, if_neg (notme h), List.append_nil]; exact held _ _ _ _ h

/-! ### the histories -/

/-- How many of its `c` calls so far a thread at `p` has taken past handler `j`: all of them,
or all but the current one. -/
def served : SPc → Nat → Nat → Nat
  | .idle, c, _ => c
  | .disp _ j', c, j => if j < j' then c else c - 1
  | .locked _ j' _, c, j => if j ≤ j' then c else c - 1

theorem served_bounds (p : SPc) (c j : Nat) : c - 1 ≤ served p c j ∧ served p c j ≤ c := by
  unfold served; split <;> (try split) <;> omega

theorem served_disp_succ {m : Msg} {j j' : Nat} (c : Nat) (h : j' ≠ j) :
    served (.disp m (j + 1)) c j' = served (.disp m j) c j' := by
  have : j' < j + 1 ↔ j' < j := by omega
  simp only [served, this]

theorem served_unlock (m : Msg) (j : Nat) (t : List Rec) (c j' : Nat) :
    served (.disp m (j + 1)) c j' = served (.locked m j t) c j' := by
  simp only [served, Nat.lt_succ_iff]

theorem served_lock {m : Msg} {j j' : Nat} (t : List Rec) (c : Nat) (h : j' ≠ j) :
    served (.locked m j t) c j' = served (.disp m j) c j' := by
  have : j' ≤ j ↔ j' < j := by omega
  simp only [served, this]

theorem served_mono (h : SStep s i s') (i' j : Nat) :
    served (s.pc i') (s.cnt i') j ≤ served (s'.pc i') (s'.cnt i') j := by
  by_cases hi : i' = i
  · subst hi
    cases h with
    | filtered hpc => simp only [upd_same, hpc, served]; exact Nat.le_succ _
    -- the call just started is past no handler, the earlier ones are past all
    | call hpc => simp [upd_same, hpc, served]
    | ret => simp only [upd_same]; exact (served_bounds _ _ j).2
    | pass hpc | fault hpc | lock hpc =>
      simp only [upd_same, hpc, served]; split <;> split <;> omega
    | write hpc => simp only [upd_same, hpc]; exact Nat.le_refl _
    | unlock hpc => simp only [upd_same, hpc]; exact Nat.le_of_eq (served_unlock _ _ _ _ _).symm
  · cases h <;> simp only [upd_other _ _ _ _ hi] <;> exact Nat.le_refl _

/-- the message of the call a thread is in -/
def msgOf : SPc → Option Msg
  | .idle => none
  | .disp m _ => some m
  | .locked m _ _ => some m

/-- handler `j` takes its mutex for message `m`: the guard of `SStep.lock` -/
def Takes (v : Variant) (lg : Logger) (j : Nat) (m : Msg) : Prop :=
  ∃ h r rs, lg.handlers[j]? = some h ∧ shouldWrite h m.level = true ∧ handlerRecs v h m = .ok (r :: rs)

def WritesV (v : Variant) (lg : Logger) (j : Nat) (e : Env) (c : Call) : Prop :=
  ¬ lg.lowest > c.level ∧ Takes v lg j (mkMsg lg e c)

theorem writesV_fixed {j : Nat} {e : Env} {c : Call} (hl : ¬ lg.lowest > c.level)
    (hlev : ∀ h, lg.handlers[j]? = some h → (mkMsg lg e c).level ≥ h.level)
    (hne : recsAt lg j (mkMsg lg e c) ≠ []) : WritesV .fixed lg j e c := by
  refine ⟨hl, ?_⟩
  unfold recsAt at hne
  cases hj : lg.handlers[j]? with
  | none => rw [hj] at hne; exact absurd rfl hne
  | some h =>
    rw [hj] at hne
    obtain ⟨r, rs, hr⟩ := List.exists_cons_of_ne_nil hne
    exact ⟨h, r, rs, hj, (shouldWrite_iff h _).mpr (hlev h hj), by rw [handlerRecs_fixed]; exact congrArg _ hr⟩

/-- Both variants. Each handler's history is a merge of the threads' call sequences: entries are calls of their thread
(`src`) that it has taken past the handler (`below`), per thread in order (`ord`), none missing for which the handler's
mutex is taken (`cpl`); `rest`, `cur`: what is left of a thread's program, and the call it is in is the last one counted. -/
structure SHist (v : Variant) (lg : Logger) (prog0 : Nat → List (Env × Call)) (s : SState) : Prop where
  cfg  : s.v = v ∧ s.lg = lg
  rest : ∀ i, (prog0 i).drop (s.cnt i) = s.prog i
  cur  : ∀ i m, msgOf (s.pc i) = some m → 1 ≤ s.cnt i ∧
           ∃ e c, (prog0 i)[s.cnt i - 1]? = some (e, c) ∧ m = mkMsg lg e c
  below : ∀ j, ∀ en ∈ s.hist j, en.seq < served (s.pc en.tid) (s.cnt en.tid) j
  src  : ∀ j, ∀ en ∈ s.hist j, ∃ e c, (prog0 en.tid)[en.seq]? = some (e, c) ∧ en.msg = mkMsg lg e c ∧
           ∃ h, lg.handlers[j]? = some h ∧ c.level ≥ h.level
  ord  : ∀ j, (s.hist j).Pairwise (fun a b => a.tid = b.tid → a.seq < b.seq)
  cpl  : ∀ i k e c j, (prog0 i)[k]? = some (e, c) → WritesV v lg j e c →
           k < served (s.pc i) (s.cnt i) j → ∃ en ∈ s.hist j, en.tid = i ∧ en.seq = k

theorem shist_init (v : Variant) (lg : Logger) (n : Nat) (prog : Nat → List (Env × Call)) :
    SHist v lg prog (sinit v lg n prog) :=
  ⟨⟨rfl, rfl⟩, fun _ => rfl, fun _ _ h => (nomatch h), fun _ _ h => (nomatch h), fun _ _ h => (nomatch h),
    fun _ => .nil, fun _ _ _ _ _ _ _ h => (nomatch h)⟩

theorem SHist.below_mono (inv : SHist v lg prog0 s)
    (hmono : ∀ i' j, served (s.pc i') (s.cnt i') j ≤ served (s'.pc i') (s'.cnt i') j) :
    ∀ j, ∀ en ∈ s.hist j, en.seq < served (s'.pc en.tid) (s'.cnt en.tid) j :=
  fun j en hen => Nat.lt_of_lt_of_le (inv.below j en hen) (hmono _ _)

/-- thread `i` goes on without an entry being added; `hs`: no call for which handler `j`'s mutex is taken gets past
`j` this way -/
theorem shist_move {p' : SPc} (inv : SHist v lg prog0 s) (hcfg : s'.v = s.v ∧ s'.lg = s.lg)
    (hprog : s'.prog = s.prog) (hcnt : s'.cnt = s.cnt) (hpc : s'.pc = upd s.pc i p') (hhist : s'.hist = s.hist)
    (hmono : ∀ i' j, served (s.pc i') (s.cnt i') j ≤ served (s'.pc i') (s'.cnt i') j)
    (hm : ∀ m, msgOf p' = some m → msgOf (s.pc i) = some m)
    (hs : ∀ j e c, (prog0 i)[s.cnt i - 1]? = some (e, c) → WritesV v lg j e c →
      served p' (s.cnt i) j ≤ served (s.pc i) (s.cnt i) j) :
    SHist v lg prog0 s' := by
  refine ⟨by rw [hcfg.1, hcfg.2]; exact inv.cfg, hprog ▸ hcnt ▸ inv.rest, fun i' m h => ?_,
    hhist ▸ inv.below_mono hmono, hhist ▸ inv.src, hhist ▸ inv.ord, fun i' k e c j hg hw hk => hhist ▸ inv.cpl i' k e c j hg hw ?_⟩ <;>
    rw [hpc, hcnt] at * <;> by_cases hi : i' = i
  -- cur, at `i` and elsewhere
  · subst hi; rw [upd_same] at h; exact inv.cur i' m (hm m h)
  · rw [upd_other _ _ _ _ hi] at h; exact inv.cur i' m h
  -- cpl, at `i` and elsewhere: a call below the new count is below the old one
  · subst hi
    rw [upd_same] at hk
    have := served_bounds (s.pc i') (s.cnt i') j
    have := served_bounds p' (s.cnt i') j
    by_cases hk' : k = s.cnt i' - 1
    · subst hk'; exact Nat.lt_of_lt_of_le hk (hs j e c hg hw)
    · omega
  · rwa [upd_other _ _ _ _ hi] at hk

/-- thread `i` starts its next call, which is filtered out or taken to the first handler -/
theorem shist_next {e : Env} {c : Call} {rest : List (Env × Call)} {p' : SPc} (inv : SHist v lg prog0 s)
    (hcfg : s'.v = s.v ∧ s'.lg = s.lg)
    (hpc : s.pc i = .idle) (hprog : s.prog i = (e, c) :: rest) (hprog' : s'.prog = upd s.prog i rest)
    (hcnt : s'.cnt = upd s.cnt i (s.cnt i + 1)) (hpc' : s'.pc = upd s.pc i p') (hhist : s'.hist = s.hist)
    (hmono : ∀ i' j, served (s.pc i') (s.cnt i') j ≤ served (s'.pc i') (s'.cnt i') j)
    (hp' : (p' = .idle ∧ lg.lowest > c.level) ∨ p' = .disp (mkMsg lg e c) 0) : SHist v lg prog0 s' := by
  obtain ⟨hget, hrest⟩ := next_call inv.rest hprog
  refine ⟨by rw [hcfg.1, hcfg.2]; exact inv.cfg, hcnt ▸ hprog' ▸ hrest, fun i' m h => ?_,
    hhist ▸ inv.below_mono hmono, hhist ▸ inv.src, hhist ▸ inv.ord, fun i' k e1 c1 j hg hw hk => hhist ▸ inv.cpl i' k e1 c1 j hg hw ?_⟩ <;>
    rw [hcnt] at * <;> by_cases hi : i' = i
  -- cur, at `i` and elsewhere
  · subst hi
    rw [hpc', upd_same] at h
    rw [upd_same]
    rcases hp' with ⟨rfl, _⟩ | rfl <;> cases h
    exact ⟨Nat.le_add_left 1 _, e, c, hget, rfl⟩
  · rw [hpc', upd_other _ _ _ _ hi] at h; rw [upd_other _ _ _ _ hi]; exact inv.cur i' m h
  -- cpl, at `i` and elsewhere: the call just started is filtered out or not yet past any handler
  · subst hi
    rw [hpc', upd_same, upd_same] at hk
    rw [hpc]
    rcases hp' with ⟨rfl, hlow⟩ | rfl
    · by_cases hk' : k = s.cnt i'
      · subst hk'; cases hget.symm.trans hg; exact absurd hlow hw.1
      · exact Nat.lt_of_le_of_ne (Nat.le_of_lt_succ hk) hk'
    · simpa [served] using hk
  · rwa [hpc', upd_other _ _ _ _ hi, upd_other _ _ _ _ hi] at hk

theorem mem_upd_concat {α : Type} {f : Nat → List α} {j j' : Nat} {x en : α} :
    en ∈ upd f j (f j ++ [x]) j' ↔ en ∈ f j' ∨ j' = j ∧ en = x := by
  by_cases hj : j' = j
  · subst hj; rw [upd_same, List.mem_append, List.mem_singleton]; exact or_congr_right (by simp)
  · rw [upd_other _ _ _ _ hj]; exact ⟨.inl, fun h => h.resolve_right fun h => hj h.1⟩

theorem sstep_shist (inv : SHist v lg prog0 s) (h : SStep s i s') : SHist v lg prog0 s' := by
  obtain ⟨hv, cfg⟩ := inv.cfg
  have mono := served_mono h
  -- the call thread `i` is in: what `WritesV` says of it is said of the message `m` it carries
  have takes_of_writes : ∀ {m}, msgOf (s.pc i) = some m → ∀ {e c j}, (prog0 i)[s.cnt i - 1]? = some (e, c) →
      WritesV v lg j e c → Takes s.v s.lg j m := by
    intro m hm e c j hg hw
    obtain ⟨_, e0, c0, hg0, hme⟩ := inv.cur i m hm
    cases hg0.symm.trans hg
    rw [hme, cfg, hv]; exact hw.2
  -- thread `i` leaves handler `j` behind without its mutex: no call that counts there is passed
  have skip : ∀ {m j}, s.pc i = .disp m j → ¬ Takes s.v s.lg j m → ∀ j' e c,
      (prog0 i)[s.cnt i - 1]? = some (e, c) → WritesV v lg j' e c →
        served (.disp m (j + 1)) (s.cnt i) j' ≤ served (s.pc i) (s.cnt i) j' := by
    intro m j hpc hno j' e c hg hw
    rw [hpc]
    by_cases hjj : j' = j
    · exact absurd (takes_of_writes (by rw [hpc]; rfl) hg (hjj ▸ hw)) hno
    · rw [served_disp_succ _ hjj]; exact Nat.le_refl _
  cases h with
  | filtered hpc hprog hlow =>
    exact shist_next inv ⟨rfl, rfl⟩ hpc hprog rfl rfl (upd_eq_self hpc).symm rfl mono (.inl ⟨rfl, cfg ▸ hlow⟩)
  | call hpc hprog => exact shist_next inv ⟨rfl, rfl⟩ hpc hprog rfl rfl rfl rfl mono (.inr (by rw [cfg]))
  | @ret m j hpc hj =>
    refine shist_move inv ⟨rfl, rfl⟩ rfl rfl rfl rfl mono (fun _ h => nomatch h) fun j' e c hg hw => ?_
    -- there is no handler from `j` on
    obtain ⟨h, _, _, hj', _⟩ := takes_of_writes (by rw [hpc]; rfl) hg hw
    have : j' < j := by
      rw [List.getElem?_eq_none_iff] at hj
      exact Nat.lt_of_lt_of_le (List.getElem?_eq_some_iff.mp hj').1 hj
    simp [hpc, served, this]
  | @pass m j h hpc hj hno =>
    refine shist_move inv ⟨rfl, rfl⟩ rfl rfl rfl rfl mono (fun _ h => hpc ▸ h)
      (skip hpc fun ⟨h', _, _, hj', hsw, hrec⟩ => ?_)
    cases hj.symm.trans hj'
    rcases hno with hno | hno
    · rw [hno] at hsw; cases hsw
    · rw [hno] at hrec; cases hrec
  | @fault m j h _ hpc hj he =>
    refine shist_move inv ⟨rfl, rfl⟩ rfl rfl rfl rfl mono (fun _ h => hpc ▸ h)
      (skip hpc fun ⟨h', _, _, hj', _, hrec⟩ => ?_)
    cases hj.symm.trans hj'
    rw [he] at hrec; cases hrec
  | write hpc =>
    exact shist_move inv ⟨rfl, rfl⟩ rfl rfl rfl rfl mono (fun _ h => hpc ▸ h)
      fun _ _ _ _ _ => by rw [hpc]; exact Nat.le_refl _
  | unlock hpc =>
    refine shist_move inv ⟨rfl, rfl⟩ rfl rfl rfl rfl mono (fun _ h => hpc ▸ h) fun _ _ _ _ _ => ?_
    rw [hpc, served_unlock]; exact Nat.le_refl _
  | @lock m j h r rs hpc hj hsw _ _ =>
    obtain ⟨hc1, e, c, hget, hme⟩ := inv.cur i m (by rw [hpc]; rfl)
    rw [cfg] at hj
    have old := inv.below_mono mono
    refine ⟨⟨hv, cfg⟩, inv.rest, fun i' m' h => ?_, fun j' en hen => ?_, fun j' en hen => ?_, fun j' => ?_,
      fun i' k e1 c1 j' hg hw hk => ?_⟩ <;> dsimp only at *
    -- cur
    · by_cases hi : i' = i
      · subst hi; rw [upd_same] at h; cases h; exact ⟨hc1, e, c, hget, hme⟩
      · rw [upd_other _ _ _ _ hi] at h; exact inv.cur i' m' h
    -- below
    · rcases mem_upd_concat.mp hen with hen | ⟨rfl, rfl⟩
      · exact old j' en hen
      · simp only [upd_same, served]; simp; omega
    -- src
    · rcases mem_upd_concat.mp hen with hen | ⟨rfl, rfl⟩
      · exact inv.src j' en hen
      · have := (shouldWrite_iff h m.level).mp hsw
        rw [hme] at this
        exact ⟨e, c, hget, hme, h, hj, this⟩
    -- ord
    · by_cases hjj : j' = j
      · subst hjj
        rw [upd_same]
        refine List.pairwise_concat (inv.ord j') fun a ha hab => ?_
        have := inv.below j' a ha
        rw [hab, hpc] at this
        simpa [served] using this
      · rw [upd_other _ _ _ _ hjj]; exact inv.ord j'
    -- cpl: a call below the old count has its entry already; the count moves only for thread `i` at handler `j`,
    -- and there the call in between is the current one, just entered
    · by_cases hold : k < served (s.pc i') (s.cnt i') j'
      · obtain ⟨en, hen, h1⟩ := inv.cpl i' k e1 c1 j' hg hw hold
        exact ⟨en, mem_upd_concat.mpr (.inl hen), h1⟩
      · by_cases hi : i' = i
        · subst hi
          rw [upd_same] at hk
          by_cases hjj : j' = j
          · subst hjj
            have := (served_bounds (.locked m j' (r :: rs)) (s.cnt i') j').2
            have := (served_bounds (s.pc i') (s.cnt i') j').1
            exact ⟨_, mem_upd_concat.mpr (.inr ⟨rfl, rfl⟩), rfl, show s.cnt i' - 1 = k by omega⟩
          · rw [served_lock _ _ hjj, ← hpc] at hk; exact absurd hk hold
        · rw [upd_other _ _ _ _ hi] at hk; exact absurd hk hold

theorem shist_entry {k j : Nat} {e : Env} {c : Call} (inv : SHist v lg prog0 s) (hk : (prog0 i)[k]? = some (e, c))
    (hw : WritesV v lg j e c) (hs : k < served (s.pc i) (s.cnt i) j) :
    ∃ en ∈ s.hist j, en.tid = i ∧ en.seq = k ∧ en.msg = mkMsg lg e c :=
  entry_msg hk (inv.cpl i k e c j hk hw hs) fun en hen =>
    have ⟨e, c, h1, h2, _⟩ := inv.src j en hen
    ⟨e, c, h1, h2⟩

theorem shist_reach (v : Variant) (lg : Logger) (n : Nat) (prog : Nat → List (Env × Call)) (s : SState)
    (hr : Reach sstep (sinit v lg n prog) s) : SHist v lg prog s :=
  Reach.inv (SHist v lg prog) (shist_init v lg n prog) (fun _ _ _ _ inv h => sstep_shist inv (sstep_cases h).2) s hr

theorem sinv_reach (lg : Logger) (n : Nat) (prog : Nat → List (Env × Call)) (s : SState)
    (hr : Reach sstep (sinit .fixed lg n prog) s) : SInv lg (sinit .fixed lg n prog).outs s :=
  Reach.inv (SInv lg (sinit .fixed lg n prog).outs) (sinv_init lg n prog)
    (fun _ _ _ _ inv h => sstep_sinv inv (sstep_cases h).1 (sstep_cases h).2) s hr

end MgProof.C16
