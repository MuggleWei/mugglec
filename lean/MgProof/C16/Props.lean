import MgProof.C16.LemmasAsync
import MgProof.C16.LemmasSync
/-!
# C16 — property theorems (logging)

Statement (properties.jsonl, C16): one line per call at or above a handler's level and none below;
under concurrency whole lines and each thread's order; any length or content, cut at the fixed maximum
without out-of-bounds access; the asynchronous logger emits what the synchronous one does, its destroy
returns only after everything accepted is written, and it leaks nothing when its queue overflows.

Quantifiers: every message length and content (`expansion : List UInt8`, any length), every
prefix (level, file, line, function, time stamp, thread id), both formatters or none, every
handler kind, any number of handlers with any levels, any number of threads, calls and any
schedule, any channel capacity.  The theorems are about `Variant.fixed` (the tree after
`fixes/C16-*.patch`); for `Variant.orig` (the pinned tree) the negations are proved.

Clauses, in the order of the file: (c) any length, cut at the maximum, no out-of-bounds access;
(a) one line per accepted call per handler, none below the level; (b) concurrency — `concurrent_*`;
(d) asynchronous logger — `async_*`; `orig_*` are the negations on the pinned tree.
-/
namespace MgProof.C16
open MgModel.C16 MgModel.Conc

/-! ## (c) any length or content -/

/-- (c) For every line the formatter is asked to print the fixed handlers hand `fwrite` exactly
`cut line`, and no buffer index is out of range or uninitialised (`Err.oob` / `Err.uninit`). -/
theorem emit_is_cut_line (line : Bytes) : emit .fixed line = .ok (cut line, (cut line).length) :=
  emit_fixed line

/-- (c) The cut line: at most 4095 bytes; all bytes but the last are the first bytes of the
formatted line; it still ends with the newline; a line that fits is not changed. -/
theorem cut_line_shape (line : Bytes) :
    (cut line).length ≤ maxLen - 1 ∧ (cut line).dropLast <+: line ∧
    (line.getLast? = some 10 → (cut line).getLast? = some 10) ∧
    (line.length < maxLen → cut line = line) :=
  ⟨cut_length_le line, cut_dropLast_prefix line, cut_getLast line, cut_fit line⟩

/-- (c) The payload both loggers build from a call: the expansion cut to what fits the
4096-byte payload buffer with its terminator; never longer, always a prefix. -/
theorem payload_shape (expansion : Bytes) :
    (payloadOf expansion).length ≤ maxLen - 1 ∧ payloadOf expansion <+: expansion ∧
    (expansion.length ≤ maxLen - 1 → payloadOf expansion = expansion) := by
  refine ⟨?_, List.take_prefix _ _, fun h => List.take_of_length_le h⟩
  simp only [payloadOf, List.length_take]; omega

/-- (c) One handler, one message: the handler appends exactly the specified records (`specRecs`:
the cut line, for the console wrapped in its colour codes) and returns the number of bytes
written; never an out-of-bounds access. -/
theorem handler_write_spec (h : Handler) (m : Msg) :
    handlerWrite .fixed h m = .ok ({ h with out := h.out ++ specRecs h m }, specRet h m) :=
  handlerWrite_fixed h m

/-- (c) The whole synchronous call is total: no buffer is overrun. -/
theorem sync_log_total (lg : Logger) (e : Env) (c : Call) : ∃ r, syncLog .fixed lg e c = .ok r := by
  rw [syncLog_fixed]; exact ⟨_, rfl⟩

/-- (c), negation on the pinned tree: whenever the formatted line is longer than the buffer
(`> 4096` bytes) every built-in handler reads beyond its 4096-byte stack buffer. -/
theorem orig_handler_overreads (h : Handler) (m : Msg) (k : FmtKind) (hk : h.kind ≠ .cap)
    (hf : h.fmt = some k) (hlen : maxLen < (formatted k m.hd m.payload).length) :
    handlerWrite .orig h m = .error .oob := by
  obtain ⟨kind, level, fmt, out⟩ := h
  simp only at hf hk
  subst hf
  unfold handlerWrite
  cases kind with
  | cap => exact absurd rfl hk
  | _ => simp only [emit_orig_oob _ hlen]; rfl

/-- (c), negation on the pinned tree, reachable through the public API: a payload of 4095
bytes (the longest the loggers produce) behind any non-empty prefix overflows. -/
theorem orig_overread_reachable (h : Handler) (hd : Meta) (k : FmtKind) (expansion : Bytes)
    (hk : h.kind ≠ .cap) (hf : h.fmt = some k) (hp : 1 ≤ (linePrefix k hd).length)
    (hx : maxLen - 1 ≤ expansion.length) :
    handlerWrite .orig h { hd := hd, payload := payloadOf expansion } = .error .oob := by
  apply orig_handler_overreads h _ k hk hf
  simp only [formatted, payloadOf, List.length_append, List.length_take, List.length_cons,
    List.length_nil]
  have := two_le_maxLen
  omega

/-- (c), pinned tree: a formatted line of exactly 4096 bytes puts a NUL byte into the log. -/
theorem orig_emits_nul (line : Bytes) (h : line.length = maxLen) :
    ∃ x, emit .orig line = .ok (line.take (maxLen - 2) ++ [x, 0], maxLen) :=
  ⟨_, emit_orig_nul line h⟩

example : emit .orig (List.replicate 5000 65) = .error .oob :=
  emit_orig_oob _ (by rw [List.length_replicate]; decide)

/-! ## (a) one line per accepted call per handler -/

/-- what one call adds to handler `h` according to the property -/
def callRecs (lg : Logger) (e : Env) (c : Call) (h : Handler) : List Rec :=
  if c.level ≥ h.level then specRecs h (mkMsg lg e c) else []

/-- the records of a whole sequence of calls for handler `h` -/
def runRecs (lg : Logger) (cs : List (Env × Call)) (h : Handler) : List Rec :=
  cs.flatMap fun ec => callRecs lg ec.1 ec.2 h

/-- a record that carries a complete line (ends with the newline) -/
def isLineRec : Rec → Bool
  | .fw _ b => b.getLast? == some 10
  | .cap .. => false

theorem stepHandlers_mkMsg (lg : Logger) (e : Env) (c : Call) (hs : List Handler) :
    stepHandlers (mkMsg lg e c) hs = hs.map fun h => { h with out := h.out ++ callRecs lg e c h } := by
  refine List.map_congr_left fun h _ => ?_
  have : (mkMsg lg e c).level = c.level := rfl
  by_cases hw : c.level ≥ h.level <;> simp [callRecs, shouldWrite, this, hw]

/-- (a) One call through the synchronous logger whose threshold is not above a handler level
(`Wf`: levels set before `add_handler`): every handler with `level ≤ c.level` gets exactly the
records of one line appended, every other handler nothing; nothing else changes. -/
theorem sync_call (lg : Logger) (hwf : lg.Wf) (e : Env) (c : Call) :
    ∃ rs, syncLog .fixed lg e c =
      .ok ({ lg with handlers := lg.handlers.map fun h => { h with out := h.out ++ callRecs lg e c h } }, rs) := by
  rw [syncLog_fixed, stepHandlers_mkMsg]
  split
  · -- below the logger's threshold, so below every handler's level: `callRecs` is empty
    rename_i hlow
    refine ⟨[], ?_⟩
    rw [List.map_congr_left (g := id) fun h hh => ?_, List.map_id]
    have : ¬ c.level ≥ h.level := by have := hwf h hh; omega
    simp [callRecs, this]
  · exact ⟨_, rfl⟩

theorem callRecs_out_irrel (lg : Logger) (hs : List Handler) (e : Env) (c : Call) (h : Handler)
    (o : List Rec) :
    callRecs { lg with handlers := hs } e c { h with out := o } = callRecs lg e c h := by
  unfold callRecs
  simp only [specRecs_out_irrel]
  rfl

/-- (a) Any sequence of calls by one thread: every handler ends with, in call order, exactly
one line for every call at or above its level and nothing for the others. -/
theorem sync_run (lg : Logger) (hwf : lg.Wf) (cs : List (Env × Call)) :
    runSync .fixed lg cs =
      .ok { lg with handlers := lg.handlers.map fun h => { h with out := h.out ++ runRecs lg cs h } } := by
  induction cs generalizing lg with
  | nil => simp [runSync, runRecs]
  | cons ec cs ih =>
    obtain ⟨e, c⟩ := ec
    obtain ⟨rs, h1⟩ := sync_call lg hwf e c
    simp only [runSync, h1]
    have hwf' : Logger.Wf { lg with handlers := lg.handlers.map fun h => { h with out := h.out ++ callRecs lg e c h } } := by
      intro h hh
      simp only [List.mem_map] at hh
      obtain ⟨h0, hh0, rfl⟩ := hh
      exact hwf h0 hh0
    show runSync .fixed _ cs = _
    rw [ih _ hwf']
    -- what the later calls add does not depend on what the first one appended (`callRecs_out_irrel`)
    congr 2
    rw [List.map_map]
    apply List.map_congr_left
    intro h _
    simp only [Function.comp, runRecs, List.flatMap_cons, List.append_assoc]
    congr 2
    all_goals
      apply List.flatMap_congr
      intro ec _
      exact callRecs_out_irrel lg _ ec.1 ec.2 h _

/-- Among the records a handler writes for a line ending in the newline exactly one is a line record, with the
bytes unchanged (the console's colour codes do not end with the newline). -/
theorem chunksOf_one_line (kind : HKind) (level : Int) (bytes : Bytes) (hb : bytes.getLast? = some 10) :
    ((chunksOf kind level bytes).filter isLineRec).length = 1 ∧
    ∃ s, Rec.fw s bytes ∈ chunksOf kind level bytes := by
  have hl : ∀ s, isLineRec (.fw s bytes) = true := fun s => by simp [isLineRec, hb]
  have hc : ∀ s, isLineRec (.fw s (if level ≥ lvlError then colRed else colYel)) = false :=
    fun s => by split <;> rfl
  have hr : ∀ s, isLineRec (.fw s colRst) = false := fun _ => rfl
  cases kind with
  | console color =>
    simp only [chunksOf]
    generalize (if level ≥ lvlWarning then 2 else 1) = s
    split
    · exact ⟨by simp only [List.filter_cons, List.filter_nil, hl, hc, hr]; rfl, s,
        List.mem_cons_of_mem _ List.mem_cons_self⟩
    · exact ⟨by simp only [List.filter_cons, List.filter_nil, hl]; rfl, s, List.mem_singleton_self _⟩
  | _ =>
    exact ⟨by simp only [chunksOf, List.filter_cons, List.filter_nil, hl]; rfl, 0, List.mem_singleton_self _⟩

theorem formatted_getLast (k : FmtKind) (hd : Meta) (p : Bytes) : (formatted k hd p).getLast? = some 10 := by
  simp [formatted]

/-- (a) "exactly one line": what a built-in handler (file, size-rotating, time-rotating,
console with or without colour) with a formatter writes for one accepted message contains
exactly one record that is a line, and that line is the cut formatted line (`cut_line_shape`). -/
theorem builtin_handler_one_line (h : Handler) (k : FmtKind) (m : Msg) (hk : h.kind ≠ .cap)
    (hf : h.fmt = some k) :
    ((specRecs h m).filter isLineRec).length = 1 ∧
    ∃ s, Rec.fw s (cut (formatted k m.hd m.payload)) ∈ specRecs h m := by
  obtain ⟨kind, level, fmt, out⟩ := h
  simp only at hf hk
  subst hf
  have : specRecs ⟨kind, level, some k, out⟩ m = chunksOf kind m.level (cut (formatted k m.hd m.payload)) := by
    cases kind with
    | cap => exact absurd rfl hk
    | _ => rfl
  rw [this]
  exact chunksOf_one_line _ _ _ (cut_getLast _ (formatted_getLast k m.hd m.payload))

/-- (a) a call below the handler's level adds nothing -/
theorem below_level_nothing (lg : Logger) (e : Env) (c : Call) (h : Handler) (hb : c.level < h.level) :
    callRecs lg e c h = [] := by
  have : ¬ c.level ≥ h.level := by omega
  simp [callRecs, this]

/-! ## (b) many threads -/

/-- (b) Mutual exclusion: two threads are never both inside the critical section of the same
handler. -/
theorem concurrent_exclusion (lg : Logger) (n : Nat) (prog : Nat → List (Env × Call)) (s : SState)
    (hr : Reach sstep (sinit .fixed lg n prog) s) (i i' : Nat) (m m' : Msg) (j : Nat) (todo todo' : List Rec)
    (h1 : s.pc i = .locked m j todo) (h2 : s.pc i' = .locked m' j todo') : i = i' :=
  sinv_excl (sinv_reach lg n prog s hr) h1 h2

/-- (b) Lines are never torn or interleaved: at every moment the output of handler `j` is the
concatenation of the complete record groups (`recsAt`) of the calls that took the handler's mutex,
in the order they took it (`hist j`), minus what the current owner has not yet written; no fault
ever happens. -/
theorem concurrent_lines_whole (lg : Logger) (n : Nat) (prog : Nat → List (Env × Call)) (s : SState)
    (hr : Reach sstep (sinit .fixed lg n prog) s) (j : Nat) :
    s.fault = none ∧
    ∃ todo, s.outs j ++ todo = (sinit .fixed lg n prog).outs j ++ (s.hist j).flatMap (fun e => recsAt lg j e.msg) ∧
      (s.mtx j = none → todo = []) := by
  have inv := sinv_reach lg n prog s hr
  refine ⟨inv.nofault, ?_⟩
  cases hm : s.mtx j with
  | none => exact ⟨[], (List.append_nil _).trans (inv.free j hm), fun _ => rfl⟩
  | some i =>
    obtain ⟨m, todo, hp⟩ := inv.owned j i hm
    exact ⟨todo, inv.held i m j todo hp, fun h => by cases h⟩

/-- (b) When every thread has returned, every handler's output is made of whole groups only. -/
theorem concurrent_final (lg : Logger) (n : Nat) (prog : Nat → List (Env × Call)) (s : SState)
    (hr : Reach sstep (sinit .fixed lg n prog) s) (hdone : allDone s) (j : Nat) :
    s.outs j = (sinit .fixed lg n prog).outs j ++ (s.hist j).flatMap (fun e => recsAt lg j e.msg) := by
  have inv := sinv_reach lg n prog s hr
  have hfree : s.mtx j = none := by
    cases hm : s.mtx j with
    | none => rfl
    | some i =>
      obtain ⟨m, todo, hp⟩ := inv.owned j i hm
      have := (hdone i ((inv.lock j i).1 hm).1).2
      rw [hp] at this; cases this
  exact inv.free j hfree

/-- (b) Each thread's lines keep their order: in every handler's history (= the order of its
output groups, `concurrent_lines_whole`) the calls of one thread appear with strictly
increasing call index — in particular none twice. -/
theorem concurrent_per_thread_order (lg : Logger) (n : Nat) (prog : Nat → List (Env × Call)) (s : SState)
    (hr : Reach sstep (sinit .fixed lg n prog) s) (j : Nat) :
    (s.hist j).Pairwise (fun a b => a.tid = b.tid → a.seq < b.seq) :=
  (shist_reach .fixed lg n prog s hr).ord j

/-- (a)+(b) Under concurrency every accepted call still reaches every handler: when all threads
have returned, every call that passes the logger's threshold and handler `j`'s level (and for
which the handler writes anything at all) is in handler `j`'s history, with the message the
synchronous logger builds for it. "Exactly once" and "a whole line" are
`concurrent_per_thread_order` and `concurrent_final`. -/
theorem concurrent_every_call_one_line (lg : Logger) (n : Nat) (prog : Nat → List (Env × Call))
    (s : SState) (hr : Reach sstep (sinit .fixed lg n prog) s) (hdone : allDone s)
    (i : Nat) (hi : i < s.n) (k : Nat) (e : Env) (c : Call) (hk : (prog i)[k]? = some (e, c))
    (hl : ¬ lg.lowest > c.level) (j : Nat) (hlev : ∀ h, lg.handlers[j]? = some h → c.level ≥ h.level)
    (hne : recsAt lg j (mkMsg lg e c) ≠ []) :
    ∃ en ∈ s.hist j, en.tid = i ∧ en.seq = k ∧ en.msg = mkMsg lg e c := by
  have inv := shist_reach .fixed lg n prog s hr
  have hd := hdone i hi
  -- the thread is idle with an empty list: all its calls are served at every handler
  exact shist_entry inv hk (writesV_fixed hl hlev hne)
    (by rw [hd.2]; exact lt_of_drop_eq_nil ((inv.rest i).trans hd.1) hk)

/-- (a) Under concurrency nothing else reaches a handler, and calls below a handler's level
produce nothing: every entry of a handler's history is a call its thread really made (with
the message built for that call) whose level is at or above the handler's level. -/
theorem concurrent_history_are_calls (lg : Logger) (n : Nat) (prog : Nat → List (Env × Call))
    (s : SState) (hr : Reach sstep (sinit .fixed lg n prog) s) (j : Nat) :
    ∀ en ∈ s.hist j, ∃ e c, (prog en.tid)[en.seq]? = some (e, c) ∧ en.msg = mkMsg lg e c ∧
      ∃ h, lg.handlers[j]? = some h ∧ c.level ≥ h.level :=
  (shist_reach .fixed lg n prog s hr).src j

/-! ## (d) the asynchronous logger -/

/-- (d) Allocation accounting at every moment: the logger's live allocations are exactly two
(struct + payload) per message that is in the channel, held by a producer between allocation and
hand-over/release, or held by the writer; no double free; no handler fault. In particular a
refused message (`ERR_FULL`) is not live any more once its producer is idle again. -/
theorem async_accounting (lg : Logger) (slots n : Nat) (prog : Nat → List (Env × Call)) (s : AState)
    (hr : Reach astep (ainit .fixed lg slots n prog) s) :
    s.live = 2 * ((qmsgs s.queue).length + pcount s.ppc s.n + heldCnt s.wpc) ∧
    s.dblFree = false ∧ s.fault = none ∧ s.queue.length ≤ s.slots :=
  let inv := ainv_reach lg slots n prog s hr
  ⟨inv.live, inv.nodbl, inv.nofault, inv.bound⟩

/-- (d) The writer processes messages in exactly the order the channel accepted them. -/
theorem async_fifo (lg : Logger) (slots n : Nat) (prog : Nat → List (Env × Call)) (s : AState)
    (hr : Reach astep (ainit .fixed lg slots n prog) s) :
    s.accepted = s.written ++ heldList s.wpc ++ qmsgs s.queue :=
  (ainv_reach lg slots n prog s hr).fifo

/-- (d)/(b) Each producer's messages keep their order through the asynchronous logger: in the
order of acceptance — which is the order of writing (`async_fifo`) — the calls of one producer
have strictly increasing call index (so none is written twice). -/
theorem async_per_producer_order (lg : Logger) (slots n : Nat) (prog : Nat → List (Env × Call))
    (s : AState) (hr : Reach astep (ainit .fixed lg slots n prog) s) :
    s.accepted.Pairwise (fun a b => a.src = b.src → a.seq < b.seq) ∧
    s.written.Pairwise (fun a b => a.src = b.src → a.seq < b.seq) := by
  have h := (ahist_reach .fixed lg slots n prog s hr).ordA
  refine ⟨h, ?_⟩
  rw [async_fifo lg slots n prog s hr, List.append_assoc] at h
  exact (List.pairwise_append.mp h).1

/-- (d) The asynchronous logger emits the same lines as the synchronous one: at every moment the
handlers are what `muggle_logger_write` produces when applied, one after the other, to the
messages written so far. -/
theorem async_same_as_sync (lg : Logger) (slots n : Nat) (prog : Nat → List (Env × Call)) (s : AState)
    (hr : Reach astep (ainit .fixed lg slots n prog) s) :
    replay .fixed lg.handlers (s.written.map (·.msg)) = .ok s.lg.handlers := by
  rw [replay_fixed, (ainv_reach lg slots n prog s hr).hand]

/-- (d) `muggle_async_logger_destroy` returns only after everything accepted has been written,
and then nothing is leaked, also when the queue overflowed any number of times: once destroy
(called after the producers have returned, as the model has it) has returned, the writer thread
has exited, the channel is empty, every accepted message has been written, in acceptance order,
the handlers hold exactly what the synchronous logger would have produced for the accepted
messages, and no allocation of the logger is live. -/
theorem async_destroy_complete (lg : Logger) (slots n : Nat) (prog : Nat → List (Env × Call))
    (s : AState) (hr : Reach astep (ainit .fixed lg slots n prog) s) (hd : s.dpc = .done) :
    s.wpc = .exited ∧ s.queue = [] ∧ s.written = s.accepted ∧ s.live = 0 ∧ s.dblFree = false ∧
    s.fault = none ∧ replay .fixed lg.handlers (s.accepted.map (·.msg)) = .ok s.lg.handlers := by
  have inv := ainv_reach lg slots n prog s hr
  have hp := inv.pdone (by simp [hd])
  obtain ⟨hw, hq⟩ : s.wpc = .exited ∧ s.queue = [] := by simpa [hd, Phase] using inv.phase
  have hwr : s.written = s.accepted := by
    have := inv.fifo
    rw [hw, hq] at this
    simpa [heldList, qmsgs] using this.symm
  refine ⟨hw, hq, hwr, ?_, inv.nodbl, inv.nofault, ?_⟩
  · have := inv.live
    rw [hw, hq, pcount_zero_of_idle _ _ (fun i hi => by rw [(hp i hi).2]; rfl)] at this
    simpa [qmsgs, heldCnt] using this
  · rw [← hwr]; exact async_same_as_sync lg slots n prog s hr

/-- (d) Every message the writer handles is a call some producer really made: its payload and
header are what `mkMsg` builds from call number `seq` of producer `src`. -/
theorem async_written_are_calls (lg : Logger) (slots n : Nat) (prog : Nat → List (Env × Call))
    (s : AState) (hr : Reach astep (ainit .fixed lg slots n prog) s) :
    ∀ q ∈ s.written, ∃ e c, (prog q.src)[q.seq]? = some (e, c) ∧ q.msg = mkMsg lg e c := by
  intro q hq
  have hacc : q ∈ s.accepted := by
    rw [async_fifo lg slots n prog s hr]; simp [hq]
  exact ((ahist_reach .fixed lg slots n prog s hr).src q (List.mem_append_left _ hacc)).2

/-- (d) Nothing is lost silently: once destroy has returned, every call of every producer
whose level passes the logger's threshold has either been written (exactly once, in its
producer's order — `async_per_producer_order`) or was refused by the full channel
(`dropped`, released — `async_destroy_complete`). -/
theorem async_every_call_accounted (lg : Logger) (slots n : Nat) (prog : Nat → List (Env × Call))
    (s : AState) (hr : Reach astep (ainit .fixed lg slots n prog) s) (hd : s.dpc = .done)
    (i : Nat) (hi : i < s.n) (k : Nat) (e : Env) (c : Call) (hk : (prog i)[k]? = some (e, c))
    (hl : ¬ lg.lowest > c.level) :
    ∃ q ∈ s.written ++ s.dropped, q.src = i ∧ q.seq = k ∧ q.msg = mkMsg lg e c := by
  have hist := ahist_reach .fixed lg slots n prog s hr
  have hp := (ainv_reach lg slots n prog s hr).pdone (by simp [hd]) i hi
  have hw := (async_destroy_complete lg slots n prog s hr hd).2.2.1
  obtain ⟨q, hq, h⟩ := ahist_entry hist hk hl
    (by rw [hp.2]; exact lt_of_drop_eq_nil ((hist.rest i).trans hp.1) hk)
  exact ⟨q, hw ▸ hq, h⟩

/-- (d) Progress of destroy (the fixed tree does not hang): while destroy is in progress and the
writer is not held back by the harness gate, some thread can take a step that strictly decreases
`destroyMeasure`, and no step increases it (destroy's retry on a full channel and the gate leave
it unchanged). The fairness argument from here to "destroy returns" is not formalised.
(Needs one usable slot: channel capacity ≥ 3.) -/
theorem async_destroy_progress (lg : Logger) (slots n : Nat) (prog : Nat → List (Env × Call))
    (s : AState) (hr : Reach astep (ainit .fixed lg slots n prog) s)
    (hd : s.dpc = .sending ∨ s.dpc = .joining) (hg : s.gate = true) (hslots : 1 ≤ s.slots) :
    (∃ t s', astep s t = some (s', []) ∧ destroyMeasure s' < destroyMeasure s) ∧
    (∀ t s' ev, astep s t = some (s', ev) → destroyMeasure s' ≤ destroyMeasure s) := by
  have inv := ainv_reach lg slots n prog s hr
  refine ⟨destroy_progress_step lg.handlers s inv hd hg hslots, ?_⟩
  intro t s' ev h
  exact destroy_measure_mono inv (by rcases hd with h | h <;> simp [h]) (astep_cases h)

/-- (d) While destroy is waiting in `join`, the sentinel is the last element of the channel
or the writer has already consumed it: the sentinel is never lost and nothing is queued
behind it. -/
theorem async_sentinel_not_lost (lg : Logger) (slots n : Nat) (prog : Nat → List (Env × Call))
    (s : AState) (hr : Reach astep (ainit .fixed lg slots n prog) s) (hd : s.dpc = .joining) :
    (s.wpc ≠ .exited ∧ ∃ ms : List QMsg, s.queue = ms.map some ++ [none]) ∨
    (s.wpc = .exited ∧ s.queue = []) := by
  have := (ainv_reach lg slots n prog s hr).phase
  rwa [hd] at this

/-! ### the pinned tree violates (d): witnesses -/

/-- one producer, two calls at FATAL level, no handler (so nothing else matters) -/
def wCalls : Nat → List (Env × Call) := fun _ =>
  [({}, { level := 1280, file := "a.c", line := 1, func := "f", expansion := [65] }),
   ({}, { level := 1280, file := "a.c", line := 2, func := "f", expansion := [66] })]

/-- schedule: both calls are made while the writer has not run (one usable slot: the second
gets `ERR_FULL`), then the writer drains, destroy sends the sentinel, the writer exits,
destroy joins. -/
def wLeakSched : List Tok :=
  [⟨2, .none⟩, ⟨2, .none⟩, ⟨2, .none⟩, ⟨2, .none⟩, ⟨0, .none⟩, ⟨0, .none⟩, ⟨0, .none⟩,
   ⟨1, .none⟩, ⟨1, .none⟩, ⟨0, .none⟩, ⟨1, .none⟩]

/-- destroy is called while the queue is full -/
def wHangSched : List Tok :=
  [⟨2, .none⟩, ⟨2, .none⟩, ⟨2, .none⟩, ⟨2, .none⟩, ⟨1, .none⟩, ⟨1, .none⟩, ⟨0, .none⟩, ⟨0, .none⟩, ⟨0, .none⟩]

/-- the state in which the pinned tree hangs -/
def Hung (s : AState) : Prop :=
  s.dpc = .joining ∧ s.wpc = .reading ∧ s.queue = [] ∧ producersDone s = true

/-- (d), negation on the pinned tree: a run in which destroy has returned and two
allocations (the refused message and its payload) are still live. -/
theorem orig_async_leaks :
    let r := runSched astep (ainit .orig {} 1 1 wCalls) wLeakSched
    r.2.2 = true ∧ r.1.dpc = .done ∧ r.1.live = 2 ∧ r.1.dropped.length = 1 := by
  decide

theorem hung_closed (s s' : AState) (t : Tok) (ev : List String) (h : Hung s)
    (hs : astep s t = some (s', ev)) : Hung s' := by
  obtain ⟨hd, hw, hq, hp⟩ := h
  have hp' := (producersDone_iff s).mp hp
  cases (astep_cases hs) with
  | gate => exact ⟨hd, hw, hq, hp⟩
  | take _ hq' | exit _ hq' => rw [hq] at hq'; cases hq'
  | write hw' | fault hw' | wfree hw' | join _ hw' => rw [hw] at hw'; cases hw'
  | destroy hd' | send hd' | retry hd' | lose hd' => rw [hd] at hd'; cases hd'
  | filtered hi _ hprog | build hi _ hprog => rw [(hp' _ hi).1] at hprog; cases hprog
  | accept hi hpc | refused hi hpc | drop hi hpc | pfree hi hpc => rw [(hp' _ hi).2] at hpc; cases hpc

/-- (d), negation on the pinned tree: a reachable state from which destroy never returns,
whatever is scheduled afterwards (the sentinel was refused by the full channel). -/
theorem orig_async_destroy_hangs :
    ∃ s, Reach astep (ainit .orig {} 1 1 wCalls) s ∧
      ∀ s', Reach astep s s' → s'.dpc ≠ .done := by
  refine ⟨(runSched astep (ainit .orig {} 1 1 wCalls) wHangSched).1,
    reach_runSched astep _ _ Reach.init _, ?_⟩
  have h0 : Hung (runSched astep (ainit .orig {} 1 1 wCalls) wHangSched).1 := by
    refine ⟨by decide, by decide, by decide, by decide⟩
  intro s' hr
  rw [(Reach.inv Hung h0 (fun s t s' ev => hung_closed s s' t ev) s' hr).1]; simp

/-! ## non-vacuity -/

/-- three handlers, a line that has to be cut: `Wf` holds and the result is not trivial -/
example :
    let lg : Logger := { handlers := [{ kind := .file, level := 512, fmt := some .simple },
                                       { kind := .console true, level := 768, fmt := some .complicated },
                                       { kind := .cap, level := 0, fmt := none }],
                          wantTs := true, wantTid := true, lowest := 0 }
    lg.Wf ∧ (callRecs lg {} { level := 1024, file := "a.c", line := 1, func := "f",
                              expansion := List.replicate 9000 65 } lg.handlers[0]).length = 1 := by
  refine ⟨?_, ?_⟩
  · intro h hh; simp at hh; rcases hh with rfl | rfl | rfl <;> decide
  · decide

/-- the fixed asynchronous logger when the second call meets the full channel: destroy returns,
nothing is live -/
example :
    let r := runSched astep (ainit .fixed {} 1 1 wCalls)
      [⟨2, .none⟩, ⟨2, .none⟩, ⟨2, .none⟩, ⟨2, .none⟩, ⟨2, .none⟩, ⟨1, .none⟩, ⟨1, .none⟩, ⟨1, .none⟩,
       ⟨0, .none⟩, ⟨0, .none⟩, ⟨0, .none⟩, ⟨1, .none⟩, ⟨0, .none⟩, ⟨1, .none⟩]
    r.2.2 = true ∧ r.1.dpc = .done ∧ r.1.live = 0 ∧ r.1.dropped.length = 1 ∧ r.1.written.length = 1 := by
  decide

/-- two threads, one handler: a reachable state inside a critical section (record written, mutex still held) -/
example :
    let lg : Logger := { handlers := [{ kind := .cap, level := 0, fmt := none }], lowest := 0 }
    let prog : Nat → List (Env × Call) := fun _ =>
      [({}, { level := 1024, file := "a.c", line := 1, func := "f", expansion := [65] })]
    let r := runSched sstep (sinit .fixed lg 2 prog) [⟨0, .none⟩, ⟨1, .none⟩, ⟨0, .none⟩, ⟨0, .none⟩]
    r.2.2 = true ∧ r.1.mtx 0 = some 0 ∧ (r.1.outs 0).length = 1 := by
  decide

end MgProof.C16
