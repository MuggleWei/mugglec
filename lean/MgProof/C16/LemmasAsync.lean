import MgModel.C16.Async
import MgProof.C16.Lemmas
/-! C16, asynchronous logger: the steps as a relation; `AInv` (fixed variant: allocations, FIFO order, the
sentinel); `AHist` (both variants: per-producer order, every call accounted for); the measure of destroy. -/
namespace MgProof.C16
open MgModel.C16 MgModel.Conc

/-- branch-free, so that the state after a step that frees is a plain record update -/
theorem release_eq (s : AState) :
    release s = { s with dblFree := s.dblFree || decide (s.live < 2), live := s.live - 2 } := by
  unfold release
  split
  · rw [Nat.sub_eq_zero_of_le (by omega), decide_eq_true ‹_›, Bool.or_true]
  · rw [decide_eq_false ‹_›, Bool.or_false]

/-- An enabled step, one constructor per path through `astep`: writer, harness gate, destroy, producer `i`. Guards no
invariant needs are left out: the full queue at `retry`/`lose`/`refused`/`drop`, the gate at `write`/`fault`. -/
inductive AStep (s : AState) : AState → Prop
  | take {q rest} : s.wpc = .reading → s.queue = some q :: rest →
      AStep s { s with queue := rest, wpc := .holding q }
  | exit {rest} : s.wpc = .reading → s.queue = none :: rest →
      AStep s { s with queue := rest, wpc := .exited }
  | write {q hs rs} : s.wpc = .holding q → writeAll s.v q.msg s.lg.handlers = .ok (hs, rs) →
      AStep s { s with lg := { s.lg with handlers := hs }, written := s.written ++ [q], wpc := .wrote q }
  | fault {q e} : s.wpc = .holding q → writeAll s.v q.msg s.lg.handlers = .error e →
      AStep s { s with fault := some e, written := s.written ++ [q], wpc := .wrote q }
  | wfree {q} : s.wpc = .wrote q →
      AStep s { s with dblFree := s.dblFree || decide (s.live < 2), live := s.live - 2, wpc := .reading }
  | gate : AStep s { s with gate := !s.gate }
  | destroy : s.dpc = .notCalled → producersDone s = true → AStep s { s with dpc := .sending }
  | send : s.dpc = .sending → s.queue.length < s.slots →
      AStep s { s with queue := s.queue ++ [none], dpc := .joining }
  | retry : s.dpc = .sending → s.v = .fixed → AStep s s
  | lose : s.dpc = .sending → s.v = .orig → AStep s { s with dpc := .joining }
  | join : s.dpc = .joining → s.wpc = .exited → AStep s { s with dpc := .done }
  | filtered {i e c rest} : i < s.n → s.ppc i = .idle → s.prog i = (e, c) :: rest → s.lg.lowest > c.level →
      AStep s { s with prog := upd s.prog i rest, cnt := upd s.cnt i (s.cnt i + 1) }
  | build {i e c rest} : i < s.n → s.ppc i = .idle → s.prog i = (e, c) :: rest → ¬ s.lg.lowest > c.level →
      AStep s { s with prog := upd s.prog i rest, cnt := upd s.cnt i (s.cnt i + 1), live := s.live + 2,
                       ppc := upd s.ppc i (.built { msg := mkMsg s.lg e c, src := i, seq := s.cnt i }) }
  | accept {i q} : i < s.n → s.ppc i = .built q → s.queue.length < s.slots →
      AStep s { s with queue := s.queue ++ [some q], accepted := s.accepted ++ [q], ppc := upd s.ppc i .idle }
  | refused {i q} : i < s.n → s.ppc i = .built q → s.v = .fixed →
      AStep s { s with ppc := upd s.ppc i (.full q) }
  | drop {i q} : i < s.n → s.ppc i = .built q → s.v = .orig →
      AStep s { s with dropped := s.dropped ++ [q], ppc := upd s.ppc i .idle }
  | pfree {i q} : i < s.n → s.ppc i = .full q →
      AStep s { s with dblFree := s.dblFree || decide (s.live < 2), live := s.live - 2,
                       dropped := s.dropped ++ [q], ppc := upd s.ppc i .idle }

theorem astep_cases {s s' : AState} {t : Tok} {ev : List String} (h : astep s t = some (s', ev)) :
    AStep s s' := by
  unfold astep at h
  split at h
  · obtain ⟨s1, hw, h⟩ := Option.map_eq_some_iff.mp h
    cases h
    unfold writerStep at hw
    split at hw
    · split at hw <;> cases hw
      · exact .take ‹_› ‹_›
      · exact .exit ‹_› ‹_›
    · split at hw
      · cases hw
      · split at hw <;> cases hw
        · exact .write ‹_› ‹_›
        · exact .fault ‹_› ‹_›
    · cases hw; rw [release_eq]; exact .wfree ‹_›
    · cases hw
  · split at h
    · split at h
      · cases h; exact .gate
      · obtain ⟨s1, hd, h⟩ := Option.map_eq_some_iff.mp h
        cases h
        unfold destroyStep at hd
        split at hd
        · split at hd <;> cases hd
          exact .destroy ‹_› ‹_›
        · split at hd
          · cases hd; exact .send ‹_› ‹_›
          · split at hd <;> cases hd
            · exact .retry ‹_› ‹_›
            · exact .lose ‹_› ‹_›
        · split at hd <;> cases hd
          exact .join ‹_› ‹_›
        · cases hd
    · split at h
      · rename_i hi
        obtain ⟨s1, hp, h⟩ := Option.map_eq_some_iff.mp h
        cases h
        unfold producerStep at hp
        split at hp
        · split at hp
          · cases hp
          · split at hp <;> cases hp
            · exact .filtered hi ‹_› ‹_› ‹_›
            · exact .build hi ‹_› ‹_› ‹_›
        · split at hp
          · cases hp; exact .accept hi ‹_› ‹_›
          · split at hp <;> cases hp
            · exact .refused hi ‹_› ‹_›
            · exact .drop hi ‹_› ‹_›
        · cases hp; rw [release_eq]; exact .pfree hi ‹_›
      · cases h

/-! ### counting messages and allocations -/

/-- the messages in the channel (the sentinel is not a message) -/
def qmsgs (q : List (Option QMsg)) : List QMsg := q.filterMap id

/-- allocations held by the writer thread (in units of one message = struct + payload) -/
def heldCnt : WPc → Nat
  | .holding _ => 1
  | .wrote _ => 1
  | _ => 0

/-- the message the writer has taken from the channel but not yet handed to the handlers -/
def heldList : WPc → List QMsg
  | .holding q => [q]
  | _ => []

/-- number of producers `< n` that hold a message (between allocation and hand-over / release) -/
def pcount (ppc : Nat → PPc) : Nat → Nat
  | 0 => 0
  | n + 1 => pcount ppc n + (if isIdle (ppc n) then 0 else 1)

theorem pcount_isSum (f : Nat → PPc) : IsSum (pcount f) fun i => if isIdle (f i) then 0 else 1 :=
  ⟨rfl, fun _ => rfl⟩

theorem pcount_upd (f : Nat → PPc) (i : Nat) (a : PPc) (n : Nat) (h : i < n) :
    pcount (upd f i a) n + (if isIdle (f i) then 0 else 1) = pcount f n + (if isIdle a then 0 else 1) :=
  (pcount_isSum f).upd (w := fun p => if isIdle p then 0 else 1) (pcount_isSum (upd f i a)) h

theorem pcount_pos (f : Nat → PPc) (n i : Nat) (hi : i < n) (h : isIdle (f i) = false) :
    1 ≤ pcount f n := by
  have := pcount_upd f i .idle n hi
  rw [h] at this
  exact Nat.le_of_add_left_le (Nat.le_of_eq this)

theorem pcount_zero_of_idle (f : Nat → PPc) (n : Nat) (h : ∀ i < n, isIdle (f i) = true) :
    pcount f n = 0 :=
  (pcount_isSum f).zero n fun i hi => if_pos (h i hi)

theorem producersDone_iff (s : AState) :
    producersDone s = true ↔ ∀ i < s.n, s.prog i = [] ∧ s.ppc i = .idle := by
  have idle : ∀ p, isIdle p = true ↔ p = .idle := fun p => by cases p <;> simp [isIdle]
  simp [producersDone, List.all_eq_true, List.isEmpty_iff, idle]

theorem qmsgs_append (a b : List (Option QMsg)) : qmsgs (a ++ b) = qmsgs a ++ qmsgs b :=
  List.filterMap_append

theorem qmsgs_concat (l : List (Option QMsg)) (x : Option QMsg) :
    qmsgs (l ++ [x]) = qmsgs l ++ x.toList := by
  rw [qmsgs_append]; cases x <;> rfl

theorem map_some_qmsgs (l : List (Option QMsg)) (hl : ∀ x ∈ l, x ≠ none) : (qmsgs l).map some = l := by
  induction l with
  | nil => rfl
  | cons a t ih =>
    cases a with
    | none => exact absurd rfl (hl none List.mem_cons_self)
    | some a => exact congrArg _ (ih fun x hx => hl x (List.mem_cons_of_mem _ hx))

/-- the handlers after the writer has processed `w`, as the specification has them -/
def foldHandlers (hs0 : List Handler) (w : List QMsg) : List Handler :=
  w.foldl (fun hs q => stepHandlers q.msg hs) hs0

theorem foldHandlers_append (hs0 : List Handler) (w : List QMsg) (q : QMsg) :
    foldHandlers hs0 (w ++ [q]) = stepHandlers q.msg (foldHandlers hs0 w) := by
  simp [foldHandlers, List.foldl_append]

theorem replay_fixed (hs0 : List Handler) (w : List QMsg) :
    replay .fixed hs0 (w.map (·.msg)) = .ok (foldHandlers hs0 w) := by
  induction w generalizing hs0 with
  | nil => rfl
  | cons q w ih =>
    simp only [List.map_cons, replay, writeAll_fixed]
    exact ih (stepHandlers q.msg hs0)

section
variable {hs0 : List Handler} {lg0 : Logger} {prog0 : Nat → List (Env × Call)} {s s' : AState}

/-! ### allocations, FIFO order, the sentinel -/

/-- Where the sentinel is, by the phase of destroy: not yet sent; sent — the last element of the
channel, or taken by the writer, which has then exited; the writer joined. -/
def Phase (d : DPc) (queue : List (Option QMsg)) (exited : Prop) : Prop :=
  match d with
  | .notCalled | .sending => (∀ x ∈ queue, x ≠ none) ∧ ¬ exited
  | .joining => (¬ exited ∧ ∃ ms : List QMsg, queue = ms.map some ++ [none]) ∨ (exited ∧ queue = [])
  | .done => exited ∧ queue = []

theorem Phase.congr {d : DPc} {q : List (Option QMsg)} {e e' : Prop} (h : Phase d q e) (he : e ↔ e') :
    Phase d q e' := propext he ▸ h

theorem Phase.pop {d : DPc} {x : QMsg} {q : List (Option QMsg)} {e : Prop} (h : Phase d (some x :: q) e)
    (he : ¬ e) : Phase d q e := by
  cases d with
  | notCalled | sending => exact ⟨fun y hy => h.1 y (List.mem_cons_of_mem _ hy), h.2⟩
  | joining =>
    obtain ⟨_, ms, hms⟩ | ⟨h, _⟩ := h
    · cases ms with
      | nil => cases hms
      | cons m ms => exact .inl ⟨he, ms, (List.cons.inj hms).2⟩
    · exact absurd h he
  | done => exact absurd h.1 he

theorem Phase.sentinel {d : DPc} {q : List (Option QMsg)} {e : Prop} (h : Phase d (none :: q) e)
    (he : ¬ e) : d = .joining ∧ q = [] := by
  cases d with
  | notCalled | sending => exact absurd rfl (h.1 none List.mem_cons_self)
  | joining =>
    obtain ⟨_, ms, hms⟩ | ⟨h, _⟩ := h
    · cases ms with
      | nil => exact ⟨rfl, (List.cons.inj hms).2⟩
      | cons m ms => cases (List.cons.inj hms).1
    · exact absurd h he
  | done => exact absurd h.1 he

/-- `hs0` = the handlers at initialisation -/
structure AInv (hs0 : List Handler) (s : AState) : Prop where
  fixed   : s.v = .fixed
  nofault : s.fault = none
  nodbl   : s.dblFree = false
  live    : s.live = 2 * ((qmsgs s.queue).length + pcount s.ppc s.n + heldCnt s.wpc)
  fifo    : s.accepted = s.written ++ heldList s.wpc ++ qmsgs s.queue
  hand    : s.lg.handlers = foldHandlers hs0 s.written
  bound   : s.queue.length ≤ s.slots
  phase   : Phase s.dpc s.queue (s.wpc = .exited)
  pdone   : s.dpc ≠ .notCalled → ∀ i < s.n, s.prog i = [] ∧ s.ppc i = .idle

theorem ainv_init (lg : Logger) (slots n : Nat) (prog : Nat → List (Env × Call)) :
    AInv lg.handlers (ainit .fixed lg slots n prog) := by
  refine ⟨rfl, rfl, rfl, ?_, rfl, rfl, Nat.zero_le _, ⟨fun _ h => (nomatch h), fun h => (nomatch h)⟩,
    fun h => absurd rfl h⟩
  show 0 = 2 * (0 + pcount (fun _ => .idle) n + 0)
  rw [pcount_zero_of_idle _ n fun _ _ => rfl]

/-- two allocations per message: `a` queued, `p` with producers, `b` with the writer -/
structure Acct (L a p b : Nat) : Prop where
  alloc    : ∀ {p'}, p' = p + 1 → L + 2 = 2 * (a + p' + b)
  release  : ∀ {p'}, p' + 1 = p → L - 2 = 2 * (a + p' + b) ∧ ¬ L < 2
  handover : ∀ {p'}, p' + 1 = p → L = 2 * (a + 1 + p' + b)
  take     : ∀ {a'}, a = a' + 1 → b = 0 → L = 2 * (a' + p + 1)
  free     : b = 1 → L - 2 = 2 * (a + p + 0) ∧ ¬ L < 2

theorem acct {L a p b : Nat} (h : L = 2 * (a + p + b)) : Acct L a p b := by
  refine ⟨?_, ?_, ?_, ?_, ?_⟩ <;> intros <;> subst_vars <;> simp +arith

theorem astep_ainv (inv : AInv hs0 s) (h : AStep s s') :
    AInv hs0 s' := by
  obtain ⟨fixed, nofault, nodbl, live, fifo, hand, bound, phase, pdone⟩ := inv
  -- a producer that can move means destroy has not been called
  have hnc : ∀ {i}, i < s.n → s.prog i ≠ [] ∨ s.ppc i ≠ .idle → s.dpc = .notCalled := fun hi hm =>
    Classical.byContradiction fun hd => hm.elim (absurd (pdone hd _ hi).1) (absurd (pdone hd _ hi).2)
  cases h with
  | @take q rest hw hq =>
    rw [hw] at live fifo phase
    rw [hq] at live fifo bound phase
    exact ⟨fixed, nofault, nodbl, (acct live).take (by simp [qmsgs]) rfl,
      by simpa [qmsgs, heldList] using fifo, hand, Nat.le_of_succ_le bound,
      (phase.pop nofun).congr (by simp), pdone⟩
  | @exit rest hw hq =>
    rw [hw] at live fifo phase
    rw [hq] at live fifo bound phase
    obtain ⟨hd, rfl⟩ := phase.sentinel nofun
    exact ⟨fixed, nofault, nodbl, live, fifo, hand, Nat.zero_le _, hd ▸ .inr ⟨rfl, rfl⟩, pdone⟩
  | @write q hs rs hw hwr =>
    rw [fixed, writeAll_fixed] at hwr
    cases hwr
    rw [hw] at live fifo phase
    exact ⟨fixed, nofault, nodbl, live, by simpa [heldList] using fifo,
      by rw [foldHandlers_append, ← hand], bound, phase.congr (by simp), pdone⟩
  | fault _ hwr => rw [fixed, writeAll_fixed] at hwr; cases hwr
  | @wfree q hw =>
    rw [hw] at live fifo phase
    obtain ⟨hl, h2⟩ := (acct live).free rfl
    exact ⟨fixed, nofault, by simp [nodbl, h2], hl, fifo, hand,
      bound, phase.congr (by simp), pdone⟩
  | gate | retry => exact ⟨fixed, nofault, nodbl, live, fifo, hand, bound, phase, pdone⟩
  | destroy hd hp =>
    rw [hd] at phase
    exact ⟨fixed, nofault, nodbl, live, fifo, hand, bound, phase, fun _ => (producersDone_iff s).mp hp⟩
  | send hd hlt =>
    rw [hd] at phase
    exact ⟨fixed, nofault, nodbl, by simpa [qmsgs_concat] using live,
      by simpa [qmsgs_concat] using fifo, hand, by simpa using Nat.succ_le_of_lt hlt,
      .inl ⟨phase.2, qmsgs s.queue, by rw [map_some_qmsgs _ phase.1]⟩, fun _ => pdone (by simp [hd])⟩
  | lose _ hv => rw [fixed] at hv; cases hv
  | join hd hw =>
    rw [hd] at phase
    exact ⟨fixed, nofault, nodbl, live, fifo, hand, bound, phase.resolve_left fun h => h.1 hw,
      fun _ => pdone (by simp [hd])⟩
  | filtered hi hp hprog _ =>
    exact ⟨fixed, nofault, nodbl, live, fifo, hand, bound, phase,
      fun hd => absurd (hnc hi (.inl (by simp [hprog]))) hd⟩
  | @build i e c rest hi hp hprog _ =>
    have hd := hnc hi (.inl (by simp [hprog]))
    have := pcount_upd s.ppc i (.built { msg := mkMsg s.lg e c, src := i, seq := s.cnt i }) s.n hi
    simp [hp, isIdle] at this
    exact ⟨fixed, nofault, nodbl, (acct live).alloc this, fifo, hand, bound, phase, fun h => absurd hd h⟩
  | @accept i q hi hp hlt =>
    have hd := hnc hi (.inr (by simp [hp]))
    have := pcount_upd s.ppc i .idle s.n hi
    simp [hp, isIdle] at this
    rw [hd] at phase
    refine ⟨fixed, nofault, nodbl, ?_, ?_, hand, by simpa using Nat.succ_le_of_lt hlt, hd ▸ ⟨?_, phase.2⟩,
      fun h => absurd hd h⟩
    · dsimp only
      rw [qmsgs_concat, List.length_append]
      exact (acct live).handover this
    · dsimp only; rw [qmsgs_concat, fifo, List.append_assoc]; rfl
    · intro x hx
      rcases List.mem_append.mp hx with hx | hx
      · exact phase.1 x hx
      · cases List.mem_singleton.mp hx; nofun
  | @refused i q hi hp _ =>
    have := pcount_upd s.ppc i (.full q) s.n hi
    simp [hp, isIdle] at this
    exact ⟨fixed, nofault, nodbl, by dsimp only; rw [this]; exact live, fifo, hand, bound, phase,
      fun h => absurd (hnc hi (.inr (by simp [hp]))) h⟩
  | drop _ _ hv => rw [fixed] at hv; cases hv
  | @pfree i q hi hp =>
    have := pcount_upd s.ppc i .idle s.n hi
    simp [hp, isIdle] at this
    obtain ⟨hl, h2⟩ := (acct live).release this
    exact ⟨fixed, nofault, by simp [nodbl, h2], hl, fifo, hand, bound, phase,
      fun h => absurd (hnc hi (.inr (by simp [hp]))) h⟩

theorem ainv_reach (lg : Logger) (slots n : Nat) (prog : Nat → List (Env × Call)) (s : AState)
    (hr : Reach astep (ainit .fixed lg slots n prog) s) : AInv lg.handlers s :=
  Reach.inv (AInv lg.handlers) (ainv_init lg slots n prog)
    (fun _ _ _ _ inv h => astep_ainv inv (astep_cases h)) s hr

/-! ### the ghost history -/

/-- the message a producer holds between allocation and hand-over / release -/
def busyMsg : PPc → Option QMsg
  | .idle => none
  | .built q => some q
  | .full q => some q

/-- how many of its `c` calls a producer is through with (accepted, refused or filtered out): all, or all but
the one it is busy with -/
def handed : Option QMsg → Nat → Nat
  | none, c => c
  | some _, c => c - 1

theorem mkMsg_cfg (lg lg0 : Logger) (h1 : lg.wantTs = lg0.wantTs) (h2 : lg.wantTid = lg0.wantTid)
    (e : Env) (c : Call) : mkMsg lg e c = mkMsg lg0 e c := by
  unfold mkMsg; rw [h1, h2]

/-- Both variants: what a producer holds and what the channel accepted or refused are calls of `prog0`, the
accepted ones in each producer's order, and no call is missing. -/
structure AHist (lg0 : Logger) (prog0 : Nat → List (Env × Call)) (s : AState) : Prop where
  cfg   : s.lg.wantTs = lg0.wantTs ∧ s.lg.wantTid = lg0.wantTid ∧ s.lg.lowest = lg0.lowest
  rest  : ∀ i, (prog0 i).drop (s.cnt i) = s.prog i
  busy  : ∀ i q, busyMsg (s.ppc i) = some q → q.src = i ∧ q.seq + 1 = s.cnt i ∧
            ∃ e c, (prog0 i)[q.seq]? = some (e, c) ∧ q.msg = mkMsg lg0 e c
  src   : ∀ q ∈ s.accepted ++ s.dropped, q.seq < handed (busyMsg (s.ppc q.src)) (s.cnt q.src) ∧
            ∃ e c, (prog0 q.src)[q.seq]? = some (e, c) ∧ q.msg = mkMsg lg0 e c
  ordA  : s.accepted.Pairwise (fun a b => a.src = b.src → a.seq < b.seq)
  cpl   : ∀ i k e c, (prog0 i)[k]? = some (e, c) → ¬ lg0.lowest > c.level →
            k < handed (busyMsg (s.ppc i)) (s.cnt i) → ∃ q ∈ s.accepted ++ s.dropped, q.src = i ∧ q.seq = k

theorem ahist_init (v : Variant) (lg : Logger) (slots n : Nat) (prog : Nat → List (Env × Call)) :
    AHist lg prog (ainit v lg slots n prog) :=
  ⟨⟨rfl, rfl, rfl⟩, fun _ => rfl, fun _ _ h => (nomatch h), fun _ h => (nomatch h), .nil,
    fun _ _ _ _ _ _ h => (nomatch h)⟩

theorem handed_mono (h : AStep s s') (i' : Nat) :
    handed (busyMsg (s.ppc i')) (s.cnt i') ≤ handed (busyMsg (s'.ppc i')) (s'.cnt i') := by
  cases h with
  | @filtered i _ _ _ _ hp | @build i _ _ _ _ hp | @accept i _ _ hp | @drop i _ _ hp | @pfree i _ _ hp =>
    by_cases hi : i' = i
    · subst hi; simp only [upd_same, hp, busyMsg, handed]; omega
    · simp only [upd_other _ _ _ _ hi]; exact Nat.le_refl _
  | @refused i _ _ hp =>
    by_cases hi : i' = i
    · subst hi; simp only [upd_same, hp, busyMsg]; exact Nat.le_refl _
    · simp only [upd_other _ _ _ _ hi]; exact Nat.le_refl _
  | _ => exact Nat.le_refl _

theorem ahist_frame (inv : AHist lg0 prog0 s)
    (hb : ∀ i, busyMsg (s'.ppc i) = busyMsg (s.ppc i)) (hcnt : s'.cnt = s.cnt)
    (hacc : s'.accepted = s.accepted) (hdrp : s'.dropped = s.dropped) (hprog : s'.prog = s.prog)
    (hcfg : s'.lg.wantTs = s.lg.wantTs ∧ s'.lg.wantTid = s.lg.wantTid ∧ s'.lg.lowest = s.lg.lowest) :
    AHist lg0 prog0 s' := by
  obtain ⟨cfg, rest, busy, src, ordA, cpl⟩ := inv
  refine ⟨?_, ?_, ?_, ?_, ?_, ?_⟩ <;> simp only [hb, hcnt, hacc, hdrp, hprog, hcfg] <;> assumption

/-- producer `i` hands `q` over, to `accepted` or to `dropped` -/
theorem ahist_handover {i : Nat} {q : QMsg} (inv : AHist lg0 prog0 s)
    (hp : busyMsg (s.ppc i) = some q) (hppc : s'.ppc = upd s.ppc i .idle)
    (hcnt : s'.cnt = s.cnt) (hprog : s'.prog = s.prog) (hlg : s'.lg = s.lg)
    (hmem : ∀ x, x ∈ s'.accepted ++ s'.dropped ↔ x ∈ s.accepted ++ s.dropped ∨ x = q)
    (hord : s'.accepted = s.accepted ∨ s'.accepted = s.accepted ++ [q])
    (hmono : ∀ i', handed (busyMsg (s.ppc i')) (s.cnt i') ≤ handed (busyMsg (s'.ppc i')) (s'.cnt i')) :
    AHist lg0 prog0 s' := by
  obtain ⟨cfg, rest, busy, src, ordA, cpl⟩ := inv
  obtain ⟨hsrc, hseq, hcall⟩ := busy i q hp
  rw [hppc, hcnt] at hmono
  have ord' : s'.accepted.Pairwise (fun a b => a.src = b.src → a.seq < b.seq) := by
    rcases hord with h | h <;> rw [h]
    · exact ordA
    · refine List.pairwise_concat ordA fun a ha hab => ?_
      have := (src a (List.mem_append_left _ ha)).1
      rw [hab, hsrc, hp] at this
      simp only [handed] at this; omega
  refine ⟨hlg ▸ cfg, hprog ▸ hcnt ▸ rest, ?_, ?_, ord', ?_⟩ <;> rw [hppc, hcnt]
  · intro i' q' h
    by_cases hi : i' = i
    · subst hi; rw [upd_same] at h; cases h
    · rw [upd_other _ _ _ _ hi] at h; exact busy i' q' h
  · intro x hx
    rcases (hmem x).mp hx with hx | rfl
    · exact ⟨Nat.lt_of_lt_of_le (src x hx).1 (hmono _), (src x hx).2⟩
    · rw [hsrc, upd_same]; exact ⟨by simp only [handed, busyMsg]; omega, hsrc ▸ hcall⟩
  · intro i' k e c hg hl hk
    suffices ∃ x, (x ∈ s.accepted ++ s.dropped ∨ x = q) ∧ x.src = i' ∧ x.seq = k by
      obtain ⟨x, hx, h⟩ := this; exact ⟨x, (hmem x).mpr hx, h⟩
    by_cases hk' : k < handed (busyMsg (s.ppc i')) (s.cnt i')
    · obtain ⟨x, hx, h⟩ := cpl i' k e c hg hl hk'; exact ⟨x, .inl hx, h⟩
    · by_cases hi : i' = i
      · subst hi
        rw [upd_same] at hk; rw [hp] at hk'
        simp only [handed, busyMsg] at hk hk'
        exact ⟨q, .inr rfl, hsrc, by omega⟩
      · rw [upd_other _ _ _ _ hi] at hk; exact absurd hk hk'

/-- producer `i` starts its next call: filtered out (`b' = none`) or built into a message -/
theorem ahist_next {i : Nat} {e : Env} {c : Call} {rest : List (Env × Call)} {b' : Option QMsg}
    (inv : AHist lg0 prog0 s) (hp : s.ppc i = .idle) (hprog : s.prog i = (e, c) :: rest)
    (hb : ∀ i', busyMsg (s'.ppc i') = if i' = i then b' else busyMsg (s.ppc i'))
    (hcnt : s'.cnt = upd s.cnt i (s.cnt i + 1)) (hprog' : s'.prog = upd s.prog i rest)
    (hacc : s'.accepted = s.accepted) (hdrp : s'.dropped = s.dropped) (hlg : s'.lg = s.lg)
    (hnone : b' = none → lg0.lowest > c.level)
    (hsome : ∀ q, b' = some q → q = { msg := mkMsg lg0 e c, src := i, seq := s.cnt i })
    (hmono : ∀ i', handed (busyMsg (s.ppc i')) (s.cnt i') ≤ handed (busyMsg (s'.ppc i')) (s'.cnt i')) :
    AHist lg0 prog0 s' := by
  obtain ⟨cfg, hrest, busy, src, ordA, cpl⟩ := inv
  obtain ⟨hget, hrest'⟩ := next_call hrest hprog
  refine ⟨hlg ▸ cfg, hcnt ▸ hprog' ▸ hrest', fun i' q h => ?_, fun x hx => ?_, hacc ▸ ordA,
    fun i' k e1 c1 hg hl hk => ?_⟩
  · rw [hb, hcnt] at *
    by_cases hi : i' = i
    · subst hi
      rw [if_pos rfl] at h
      cases hsome q h
      exact ⟨rfl, by rw [upd_same], e, c, hget, rfl⟩
    · rw [if_neg hi] at h; rw [upd_other _ _ _ _ hi]; exact busy i' q h
  · rw [hacc, hdrp] at hx
    exact ⟨Nat.lt_of_lt_of_le (src x hx).1 (hmono _), (src x hx).2⟩
  · rw [hacc, hdrp]
    refine cpl i' k e1 c1 hg hl ?_
    rw [hb, hcnt] at hk
    by_cases hi : i' = i
    · subst hi
      rw [if_pos rfl, upd_same] at hk
      rw [hp]
      by_cases hk' : k = s.cnt i'
      · subst hk'
        cases hget.symm.trans hg
        cases b' with
        | none => exact absurd (hnone rfl) hl
        | some q => simp only [handed] at hk; omega
      · cases b' <;> simp only [handed, busyMsg] at hk ⊢ <;> omega
    · rwa [if_neg hi, upd_other _ _ _ _ hi] at hk

theorem astep_ahist (inv : AHist lg0 prog0 s) (h : AStep s s') : AHist lg0 prog0 s' := by
  have mono := handed_mono h
  cases h with
  | filtered _ hp hprog hlow =>
    exact ahist_next (b' := none) inv hp hprog (fun i' => by split <;> simp [*, busyMsg]) rfl rfl rfl rfl rfl
      (fun _ => inv.cfg.2.2 ▸ hlow) nofun mono
  | @build i e c _ _ hp hprog _ =>
    refine ahist_next (b' := some { msg := mkMsg s.lg e c, src := i, seq := s.cnt i }) inv hp hprog
      (fun i' => ?_) rfl rfl rfl rfl rfl nofun
      (fun q h => by cases h; rw [mkMsg_cfg _ _ inv.cfg.1 inv.cfg.2.1]) mono
    dsimp only
    split
    · subst_vars; rw [upd_same]; rfl
    · rw [upd_other _ _ _ _ ‹_›]
  | accept _ hp =>
    exact ahist_handover inv (by rw [hp]; rfl) rfl rfl rfl rfl
      (fun x => by simp only [List.mem_append, List.mem_singleton]; exact or_right_comm) (.inr rfl) mono
  | drop _ hp | pfree _ hp =>
    exact ahist_handover inv (by rw [hp]; rfl) rfl rfl rfl rfl
      (fun x => by simp only [List.mem_append, List.mem_singleton]; exact or_assoc.symm) (.inl rfl) mono
  | @refused i _ _ hp =>
    refine ahist_frame inv (fun i' => ?_) rfl rfl rfl rfl ⟨rfl, rfl, rfl⟩
    by_cases hi : i' = i
    · subst hi; dsimp only; rw [upd_same, hp]; rfl
    · dsimp only; rw [upd_other _ _ _ _ hi]
  | _ => exact ahist_frame inv (fun _ => rfl) rfl rfl rfl rfl ⟨rfl, rfl, rfl⟩

theorem ahist_entry {i k : Nat} {e : Env} {c : Call} (inv : AHist lg0 prog0 s) (hk : (prog0 i)[k]? = some (e, c))
    (hl : ¬ lg0.lowest > c.level) (hs : k < handed (busyMsg (s.ppc i)) (s.cnt i)) :
    ∃ q ∈ s.accepted ++ s.dropped, q.src = i ∧ q.seq = k ∧ q.msg = mkMsg lg0 e c :=
  entry_msg hk (inv.cpl i k e c hk hl hs) fun q hq => (inv.src q hq).2

theorem ahist_reach (v : Variant) (lg : Logger) (slots n : Nat) (prog : Nat → List (Env × Call))
    (s : AState) (hr : Reach astep (ainit v lg slots n prog) s) : AHist lg prog s :=
  Reach.inv (AHist lg prog) (ahist_init v lg slots n prog)
    (fun _ _ _ _ inv h => astep_ahist inv (astep_cases h)) s hr

end

/-- stages of destroy still ahead -/
def dWeight : DPc → Nat
  | .notCalled => 3 | .sending => 2 | .joining => 1 | .done => 0

/-- steps the writer still owes the message it has taken -/
def wStage : WPc → Nat
  | .holding _ => 2 | .wrote _ => 1 | _ => 0

/-- Work left until destroy returns. The weights make every step that has to happen a decrease: the writer
taking an element frees a queue slot (−3) and enters `holding` (+2); destroy sending the sentinel leaves
`sending` (−4) and fills a slot (+3). -/
def destroyMeasure (s : AState) : Nat := 4 * dWeight s.dpc + 3 * s.queue.length + wStage s.wpc

theorem destroy_progress_step (hs0 : List Handler) (s : AState) (inv : AInv hs0 s)
    (hd : s.dpc = .sending ∨ s.dpc = .joining) (hg : s.gate = true) (hslots : 1 ≤ s.slots) :
    ∃ t s', astep s t = some (s', []) ∧ destroyMeasure s' < destroyMeasure s := by
  -- the writer moves unless it has exited or waits on an empty channel; then destroy moves
  suffices (∃ s', writerStep s = some s' ∧ destroyMeasure s' < destroyMeasure s) ∨
      (∃ s', destroyStep s = some s' ∧ destroyMeasure s' < destroyMeasure s) from
    this.elim (fun ⟨s', h, hm⟩ => ⟨⟨0, .none⟩, s', by simp [astep, h], hm⟩)
      (fun ⟨s', h, hm⟩ => ⟨⟨1, .none⟩, s', by simp [astep, h], hm⟩)
  have phase := inv.phase
  cases hw : s.wpc with
  | holding q => left; simp [writerStep, hw, hg, inv.fixed, writeAll_fixed, destroyMeasure, wStage]
  | wrote q => left; simp [writerStep, hw, release_eq, destroyMeasure, wStage]
  | reading =>
    cases hq : s.queue with
    | cons x rest => left; cases x <;> simp [writerStep, hw, hq, destroyMeasure, wStage] <;> omega
    | nil =>
      have hsend : s.dpc = .sending := hd.resolve_right fun h => by
        rw [h, hq, hw] at phase
        obtain ⟨_, ms, hms⟩ | ⟨he, _⟩ := phase
        · simp at hms
        · cases he
      have : s.queue.length < s.slots := by rw [hq]; exact hslots
      right; simp [destroyStep, hsend, this, destroyMeasure, dWeight]; omega
  | exited =>
    have hjoin : s.dpc = .joining := hd.resolve_left fun h => by rw [h] at phase; exact phase.2 hw
    right; simp [destroyStep, hjoin, hw, destroyMeasure, dWeight]

theorem destroy_measure_mono {hs0 : List Handler} {s s' : AState} (inv : AInv hs0 s)
    (hd : s.dpc ≠ .notCalled) (h : AStep s s') : destroyMeasure s' ≤ destroyMeasure s := by
  have hp := inv.pdone hd
  cases h with
  | take hw hq | exit hw hq => simp [destroyMeasure, wStage, hw, hq]; omega
  | write hw | fault hw | wfree hw => simp [destroyMeasure, wStage, hw]
  | gate | retry => exact Nat.le_refl _
  | destroy hd' => exact absurd hd' hd
  | send hd' => simp [destroyMeasure, dWeight, hd']; omega
  | lose hd' | join hd' => simp [destroyMeasure, dWeight, hd']
  | filtered hi _ hprog | build hi _ hprog => rw [(hp _ hi).1] at hprog; cases hprog
  | accept hi hpc | refused hi hpc | drop hi hpc | pfree hi hpc => rw [(hp _ hi).2] at hpc; cases hpc

end MgProof.C16
