import MgProof.C01.InvW
/-!
# C01 — channel: every reader step preserves `Inv`; `Inv` holds in every reachable state
-/
namespace MgProof.C01
open MgModel.Conc MgModel.C01

variable {s s' : St}

theorem Inv.consume (hi : Inv s) {p0 : Pc} (hp : s.pc s.cfg.W = p0) (p' : Pc) (k' : Nat → Nat)
    (hk : ∀ t, t ≠ s.cfg.W → k' t = s.k t) (d : Option Msg) (r1 : inRM p' = inRM p0)
    (hlt : s.delivered.length < s.accepted.length) (hd : d = s.accepted[s.delivered.length]?)
    (hnew : ∀ n A D nxt, RLoc n A D nxt p') :
    Inv { s with rc := s.delivered.length % s.cfg.cap, delivered := s.delivered ++ [d],
                 pc := upd s.pc s.cfg.W p', k := k' } := by
  subst hp
  have hcap := cap_pos s.cfg
  have hm := hi.move_reader p' k' hk _ (own_same hi.rmo r1) (hnew _ _ _ _)
  have hlen : (s.delivered ++ [d]).length = s.delivered.length + 1 := by simp
  exact { hm with
    rc_eq := by
      dsimp only
      rw [hlen, show s.delivered.length + 1 + (s.cfg.cap - 1) = s.delivered.length + s.cfg.cap by omega,
        Nat.add_mod_right]
    le1 := by dsimp only; rw [hlen]; exact hlt
    le2 := by dsimp only; rw [hlen]; have := hi.le2; omega
    slots := by dsimp only; rw [hlen]; exact fun j hj1 hj2 => hi.slots j (by omega) hj2
    cachedOk := by dsimp only; rw [hlen]; exact fun hb => by have := hi.cachedOk hb; omega
    wloc := by dsimp only; rw [hlen]; exact fun t hh => WLoc_mono_D (Nat.le_succ _) (hm.wloc t hh)
    rloc := by dsimp only; rw [upd_same]; exact hnew _ _ _ _
    fifo := by dsimp only; rw [hlen, hd]; exact fifo_consume hlt hi.fifo }

theorem RStep.inv (hg : Ready s s.cfg.W) (hi : Inv s) (h : RStep s s.cfg.W s') : Inv s' := by
  have hnext : ring (s.rc + 1) s.cfg.cap = s.delivered.length % s.cfg.cap := by
    rw [ring_cap, hi.rc_eq, next_rc _ _ (cap_pos _)]
  -- the cursors differ: there is something to read
  have hlt : ∀ rpos, rpos = s.delivered.length % s.cfg.cap → s.wc ≠ rpos → s.delivered.length < s.accepted.length :=
    fun rpos hr hne => Nat.lt_of_le_of_ne hi.le1 fun e => hne (hr ▸ hi.empty_iff.2 e.symm)
  have move : ∀ {p0}, s.pc s.cfg.W = p0 → ∀ p', inRM p' = inRM p0 →
      RLoc s.cfg.cap s.accepted.length s.delivered.length s.accepted[s.delivered.length]? p' →
      Inv { s with pc := upd s.pc s.cfg.W p' } :=
    fun hp p' r1 hn => hi.move_reader p' s.k (fun _ _ => rfl) _ (own_same hi.rmo (hp ▸ r1)) hn
  cases h with
  | look hp hk =>
    have hl := hi.rloc_at hp
    cases hk with
    | pos | mPos => exact move hp _ rfl hnext
    | park _ | eagain _ | woken => exact move hp _ rfl hl
    | slot | mSlot => exact move hp _ rfl ⟨hl.1, hl.2, by rw [hl.1]; exact hi.slots _ (Nat.le_refl _) hl.2⟩
    | mSome hne => exact move hp _ rfl ⟨hl, hlt _ hl (Ne.symm hne)⟩
    | mEmpty _ => exact move hp _ rfl trivial
  | @ldW rpos _ hp hq =>
    have hl := hi.rloc_at hp
    rcases hq with ⟨hne, rfl⟩ | ⟨-, ⟨-, rfl⟩ | ⟨-, rfl⟩⟩
    · exact (move hp (.rRdB rpos) rfl ⟨hl, hlt _ hl hne⟩).congr rfl
    · exact (move hp (.rLdW rpos) rfl hl).congr rfl
    · exact (move hp (.rFwait rpos _) rfl hl).congr rfl
  | @consume rpos d hp =>
    obtain ⟨hl1, hl2, hl3⟩ := hi.rloc_at hp
    subst hl1
    rw [readReturned_eq]
    refine hi.consume hp _ _ ?_ d ?_ hl2 hl3 ?_
    · exact fun t ht => readReturned_k_other _ _ _ _ ht
    · exact rrPc_inRM _ _ _
    · exact fun _ _ _ _ => rrPc_RLoc _ _ _ _ _ _ _
  | pay hp =>
    exact (hi.move_reader _ _ (fun t ht => upd_other _ _ _ _ ht) _
      (own_same hi.rmo (by rw [hp]; exact rNext_inRM _ _)) (rNext_RLoc _ _ _ _ _ _)).congr rfl
  | rmLock hp hq =>
    exact (hi.move_reader .rmRdR s.k (fun _ _ => rfl) _
      (own_acquire hi.rmo (hg.rm _ hp (.inr hq)) (Nat.le_refl _) rfl) trivial).congr rfl
  | cvWait hp =>
    exact (hi.move_reader .rmCvBlocked s.k (fun _ _ => rfl) _
      (own_release hi.rmo (hi.owns (Nat.le_refl _) hp rfl) rfl) trivial).congr rfl
  | @consumeM rpos d hp =>
    obtain ⟨hl1, hl2, hl3⟩ := hi.rloc_at hp
    subst hl1
    exact hi.consume hp _ s.k (fun _ _ => rfl) d rfl hl2 hl3 fun _ _ _ _ => trivial
  | rmUnlock hp =>
    rw [readReturned_eq]
    refine (hi.move_reader _ _ ?_ _ (own_release hi.rmo (hi.owns (Nat.le_refl _) hp rfl) ?_) ?_).congr rfl
    · exact fun t ht => readReturned_k_other _ _ _ _ ht
    · exact rrPc_inRM _ _ _
    · exact rrPc_RLoc _ _ _ _ _ _ _

/-- the interrupted futex wait preserves the invariant: the parked thread holds neither lock, and
the reader's position is the one it went to sleep with -/
theorem spur_inv {s : St} {t : Nat} {q : Pc} (hi : Inv s)
    (hq : (∃ rpos, s.pc t = .rBlocked rpos ∧ q = .rLdW rpos) ∨ (s.pc t = .wBlocked ∧ q = .wLock)) :
    Inv { s with pc := upd s.pc t q } := by
  rcases hq with ⟨rpos, hp, rfl⟩ | ⟨hp, rfl⟩
  · exact hi.setPc t _ s.k (fun _ _ => rfl) (by rw [hp]; rfl) rfl (by rw [hp]; rfl)
      fun e => by have := hi.rloc; rwa [e, hp] at this
  · exact hi.setPc t _ s.k (fun _ _ => rfl) (by rw [hp]; rfl) rfl (by rw [hp]; rfl) fun _ => trivial

theorem Step.inv {s s' : St} (hi : Inv s) (h : Step s s') : Inv s' := by
  cases h with
  | spur _ hq => exact spur_inv hi hq
  | w ht hg h => exact h.inv ht hg hi
  | r hg h => exact h.inv hg hi

theorem step_inv {s s' : St} {tok : Tok} {ev : List String} (hi : Inv s)
    (h : step s tok = some (s', ev)) : Inv s' :=
  (step_sound h).inv hi

theorem init_inv (c : Cfg) (hv : Valid c) : Inv (mkInit c) := by
  have hcap := cap_pos c
  refine Inv.mk ?valid ?hold ?lock0 ?rmo ?wc_eq ?rc_eq ?le1 ?le2 ?slots ?cachedOk ?wloc ?rloc ?fifo ?fullsOk ?ow
  -- nobody starts inside a critical section (`init_pc`)
  case hold =>
    refine fun t => ⟨nofun, fun ⟨h1, h2⟩ => ?_⟩
    rcases (init_pc c).1 t h1 with h | h <;> rw [h] at h2 <;> cases h2
  case rmo =>
    refine fun t => ⟨nofun, fun ⟨h1, h2⟩ => ?_⟩
    rcases Nat.lt_or_eq_of_le h1 with hlt | rfl
    · rcases (init_pc c).1 t hlt with h | h <;> rw [h] at h2 <;> cases h2
    · change inRM ((mkInit c).pc c.W) = true at h2
      rcases (init_pc c).2 with h | ⟨h, -⟩ | ⟨h, -⟩ <;> rw [h] at h2 <;> cases h2
  case rloc =>
    show RLoc _ _ _ _ ((mkInit c).pc c.W)
    rcases (init_pc c).2 with h | ⟨h, -⟩ | ⟨h, -⟩ <;> rw [h] <;> trivial
  all_goals simp only [mkInit, List.length_nil]
  case valid => exact hv
  case lock0 => intro _ _; trivial
  case wc_eq => simp [Nat.zero_mod]
  case rc_eq => simp only [Nat.zero_add]; exact (Nat.mod_eq_of_lt (by omega)).symm
  case le1 => exact Nat.le_refl _
  case le2 => omega
  case slots => intro j _ h; omega
  case cachedOk => intro _; simp only [Nat.zero_add]; exact ⟨(Nat.mod_eq_of_lt (by omega)).symm, Nat.le_refl _, by omega⟩
  case wloc => intro t h; cases h
  case fifo => simp
  case fullsOk => intro u h; cases h

theorem reach_inv (c : Cfg) (hv : Valid c) (s : St) (hr : Reach step (mkInit c) s) : Inv s :=
  Reach.inv Inv (init_inv c hv) (fun _ _ _ _ hi h => step_inv hi h) s hr

end MgProof.C01
