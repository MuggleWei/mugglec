import MgModel.C01.DoubleBuffer
import MgProof.C01.Monitor
/-!
# C01 — double buffer: the buffers handed to the consumer are the writes, in order, each once

`written` = messages in the order they were appended to the back buffer, `handed` = concatenation of
the buffers `read` swapped to the front, `delivered` = the items the consumer has looked at; `Inv`
for blocking and non-blocking writes, any number of producers, every schedule. `Step` as for the queue.
-/
namespace MgProof.C01.DBuf
open MgModel.Conc MgModel.C01.DBuf
open MgModel.C01 (Msg joinK Ret)

/-- pcs holding the mutex -/
def inM : Pc → Bool
  | .dCvWait | .dSignal | .dUnlock _ | .rCvWait | .rSignal | .rUnlock => true
  | _ => false

/-- the part of the front buffer the consumer still has to look at -/
def pending (front : List Msg) : Pc → List Msg
  | .rItem i => front.drop i
  | .rSignal => front
  | .rUnlock => front
  | _ => []

/-- is this a pc of a producer (never of the consumer)? -/
def isW : Pc → Bool
  | .dPay | .dLock | .dCvWait | .dCvBlocked | .dCvSignaled | .dSignal | .dUnlock _ | .dYield => true
  | _ => false

def isR : Pc → Bool
  | .rLock | .rCvWait | .rCvBlocked | .rCvSignaled | .rSignal | .rUnlock | .rItem _ => true
  | _ => false

/-- `hd`: what was handed over is what the consumer has looked at and what it still has to; `rdr`, `wtr`: thread `W` is
the consumer, the threads below it are producers or done -/
structure Inv (s : St) : Prop where
  own : ∀ t, s.mtx = some t ↔ (t ≤ s.cfg.W ∧ inM (s.pc t) = true)
  bound : s.back.length ≤ s.cfg.cap
  wr : s.written = s.handed ++ s.back
  hd : s.handed = s.delivered ++ pending s.front (s.pc s.cfg.W)
  item : ∀ i, s.pc s.cfg.W = .rItem i → i < s.front.length
  fullsOk : ∀ u ∈ s.fulls, u = s.cfg.cap
  rdr : isW (s.pc s.cfg.W) = false
  wtr : ∀ t, t < s.cfg.W → isW (s.pc t) = true ∨ s.pc t = .done

theorem own_same {n : Nat} {mtx : Option Nat} {pc : Nat → Pc} {t0 : Nat} {p' : Pc}
    (h : ∀ t, mtx = some t ↔ (t ≤ n ∧ inM (pc t) = true)) (heq : inM p' = inM (pc t0)) :
    ∀ t, mtx = some t ↔ (t ≤ n ∧ inM (upd pc t0 p' t) = true) :=
  MgModel.Conc.own_same h heq

theorem own_acquire {n : Nat} {mtx : Option Nat} {pc : Nat → Pc} {t0 : Nat} {p' : Pc}
    (h : ∀ t, mtx = some t ↔ (t ≤ n ∧ inM (pc t) = true)) (hn : mtx = none) (ht0 : t0 ≤ n)
    (hp : inM p' = true) : ∀ t, some t0 = some t ↔ (t ≤ n ∧ inM (upd pc t0 p' t) = true) :=
  MgModel.Conc.own_acquire h hn ht0 hp

theorem own_release {n : Nat} {mtx : Option Nat} {pc : Nat → Pc} {t0 : Nat} {p' : Pc}
    (h : ∀ t, mtx = some t ↔ (t ≤ n ∧ inM (pc t) = true)) (hh : mtx = some t0) (hp : inM p' = false) :
    ∀ t, (none : Option Nat) = some t ↔ (t ≤ n ∧ inM (upd pc t0 p' t) = true) :=
  MgModel.Conc.own_release h hh hp

theorem firstWaiting_some (pc : Nat → Pc) (n i w : Nat) (h : firstWaiting pc n i = some w) :
    pc w = .dCvBlocked ∧ w < i + n :=
  let ⟨h1, _, h2⟩ := first_some (P := fun i => pc i = .dCvBlocked) (fun _ => rfl) (fun _ _ => rfl) h
  ⟨h1, h2⟩

theorem firstWaiting_none (pc : Nat → Pc) (n i : Nat) (h : firstWaiting pc n i = none) :
    ∀ t, i ≤ t → t < i + n → pc t ≠ .dCvBlocked :=
  first_none (P := fun i => pc i = .dCvBlocked) (fun _ _ => rfl) h

abbrev WantsD (p : Pc) : Prop := p = .dLock ∨ p = .dCvBlocked ∨ p = .dCvSignaled

abbrev WantsR (p : Pc) : Prop := p = .rLock ∨ p = .rCvBlocked ∨ p = .rCvSignaled

def nextW (s : St) (t : Nat) : Pc := if s.k t + 1 < s.cfg.n t then .dPay else .done

def nextR (s : St) (k : Nat) : Pc := if k < s.cfg.reads then .rLock else .done

/-- the consumer's pc when item `i` of the front buffer is next -/
def look (s : St) (i k : Nat) : Pc := if i < s.front.length then .rItem i else nextR s k

theorem nextW_cases (s : St) (t : Nat) : nextW s t = .dPay ∨ nextW s t = .done := by
  unfold nextW; split <;> simp

theorem look_cases (s : St) (i k : Nat) :
    (i < s.front.length ∧ look s i k = .rItem i) ∨
    (s.front.length ≤ i ∧ (look s i k = .rLock ∨ look s i k = .done)) := by
  unfold look nextR
  split
  next h => exact .inl ⟨h, rfl⟩
  next h => exact .inr ⟨Nat.le_of_not_lt h, by split <;> simp⟩

theorem look_facts (s : St) (i k : Nat) :
    isW (look s i k) = false ∧ inM (look s i k) = false ∧ pending s.front (look s i k) = s.front.drop i ∧
    ∀ j, look s i k = .rItem j → j < s.front.length := by
  rcases look_cases s i k with ⟨h, e⟩ | ⟨h, e | e⟩ <;> rw [e]
  · exact ⟨rfl, rfl, rfl, fun j ej => by cases ej; exact h⟩
  · exact ⟨rfl, rfl, (List.drop_eq_nil_of_le h).symm, nofun⟩
  · exact ⟨rfl, rfl, (List.drop_eq_nil_of_le h).symm, nofun⟩

theorem look_ne {s : St} {i k : Nat} {x : Pc} (h1 : x ≠ .rLock) (h2 : x ≠ .done) (h3 : ∀ j, x ≠ .rItem j) :
    look s i k ≠ x := by
  rcases look_cases s i k with ⟨_, e⟩ | ⟨_, e | e⟩ <;> rw [e]
  · exact (h3 i).symm
  · exact h1.symm
  · exact h2.symm

/-- One step of thread `t`; the step that takes the mutex evaluates the loop condition (`dRefuse`: full
and non-blocking, `dFull`: full and blocking). `rWake` may wake any parked producer, `step` picks the
lowest-numbered one. -/
inductive Step (s : St) (t : Nat) : St → Prop
  | dPay (hpc : s.pc t = .dPay) :
    Step s t { s with know := upd s.know t (cur s t :: s.know t), pc := upd s.pc t .dLock }
  | dRefuse (hpc : WantsD (s.pc t)) (hm : s.mtx = none)
      (hc : s.back.length = s.cfg.cap) (hnb : s.cfg.nonblocking = true) :
    Step s t { s with mtx := some t, know := upd s.know t (joinK (s.know t) s.relM),
                      fulls := s.fulls ++ [s.back.length], pc := upd s.pc t (.dUnlock .full) }
  | dFull (hpc : WantsD (s.pc t)) (hm : s.mtx = none)
      (hc : s.back.length = s.cfg.cap) (hnb : s.cfg.nonblocking = false) :
    Step s t { s with mtx := some t, know := upd s.know t (joinK (s.know t) s.relM),
                      pc := upd s.pc t .dCvWait }
  | dWrite (hpc : WantsD (s.pc t)) (hm : s.mtx = none)
      (hc : s.back.length ≠ s.cfg.cap) :
    Step s t { s with mtx := some t, know := upd s.know t (joinK (s.know t) s.relM),
                      back := s.back ++ [cur s t], written := s.written ++ [cur s t],
                      pc := upd s.pc t .dSignal }
  | dWait (hpc : s.pc t = .dCvWait) :
    Step s t { s with mtx := none, relM := s.know t, pc := upd s.pc t .dCvBlocked }
  | dWake (hpc : s.pc t = .dSignal) (hw : s.pc s.cfg.W = .rCvBlocked) :
    Step s t { s with pc := upd (upd s.pc s.cfg.W .rCvSignaled) t (.dUnlock .ok) }
  | dNoWake (hpc : s.pc t = .dSignal) (hw : s.pc s.cfg.W ≠ .rCvBlocked) :
    Step s t { s with pc := upd s.pc t (.dUnlock .ok) }
  | dNext (r : Ret) (hpc : s.pc t = .dUnlock r)
      (hr : r = .ok ∨ (s.cfg.tries ≠ 0 ∧ s.att t + 1 ≥ s.cfg.tries)) :
    Step s t { s with mtx := none, relM := s.know t, k := upd s.k t (s.k t + 1), att := upd s.att t 0,
                      pc := upd s.pc t (nextW s t) }
  | dRetry (hpc : s.pc t = .dUnlock .full) (htr : ¬ (s.cfg.tries ≠ 0 ∧ s.att t + 1 ≥ s.cfg.tries)) :
    Step s t { s with mtx := none, relM := s.know t, att := upd s.att t (s.att t + 1),
                      pc := upd s.pc t .dYield }
  | dYield (hpc : s.pc t = .dYield) : Step s t { s with pc := upd s.pc t .dLock }
  | rEmpty (hpc : WantsR (s.pc t)) (hm : s.mtx = none)
      (hc : s.back.length = 0) :
    Step s t { s with mtx := some t, know := upd s.know t (joinK (s.know t) s.relM),
                      pc := upd s.pc t .rCvWait }
  | rSwap (hpc : WantsR (s.pc t)) (hm : s.mtx = none)
      (hc : s.back.length ≠ 0) :
    Step s t { s with mtx := some t, know := upd s.know t (joinK (s.know t) s.relM),
                      front := s.back, back := [], handed := s.handed ++ s.back,
                      pc := upd s.pc t .rSignal }
  | rWait (hpc : s.pc t = .rCvWait) :
    Step s t { s with mtx := none, relM := s.know t, pc := upd s.pc t .rCvBlocked }
  | rWake (hpc : s.pc t = .rSignal) (w : Nat) (hw : w < s.cfg.W) (hwpc : s.pc w = .dCvBlocked) :
    Step s t { s with pc := upd (upd s.pc w .dCvSignaled) t .rUnlock }
  | rNoWake (hpc : s.pc t = .rSignal) (hno : ∀ u, u < s.cfg.W → s.pc u ≠ .dCvBlocked) :
    Step s t { s with pc := upd s.pc t .rUnlock }
  | rUnlock (hpc : s.pc t = .rUnlock) :
    Step s t { s with mtx := none, relM := s.know t,
                      pc := upd s.pc t (look s 0 (s.k t)) }
  | rItem (i : Nat) (hpc : s.pc t = .rItem i) (m : Msg) (hm : s.front[i]? = some m) :
    Step s t { s with k := upd s.k t (s.k t + 1), delivered := s.delivered ++ [m],
                      hbViol := s.hbViol + (if m ∈ s.know t then 0 else 1),
                      pc := upd s.pc t (look s (i + 1) (s.k t + 1)) }

variable {s s' : St} {tok : Tok} {ev : List String} {t : Nat}

theorem le_of_enabled (hen : s.enabled tok = true) : tok.tid ≤ s.cfg.W := by
  simp only [St.enabled, Bool.and_eq_true, decide_eq_true_eq] at hen; exact hen.1

theorem free_of_enabled (hen : s.enabled tok = true)
    (hpc : WantsD (s.pc tok.tid) ∨ WantsR (s.pc tok.tid)) : s.mtx = none := by
  rcases hpc with (h | h | h) | (h | h | h) <;>
    (simp only [St.enabled, h, Bool.and_eq_true, Option.isNone_iff_eq_none] at hen; exact hen.2.1)

theorem dEnter_step (hpc : WantsD (s.pc t))
    (hm : s.mtx = none) : Step s t (dEnter s t) := by
  by_cases hc : s.back.length = s.cfg.cap
  · cases hnb : s.cfg.nonblocking
    · rw [show dEnter s t = _ from (if_pos hc).trans (if_neg (by rw [hnb]; nofun))]
      exact .dFull hpc hm hc hnb
    · rw [show dEnter s t = _ from (if_pos hc).trans (if_pos hnb)]; exact .dRefuse hpc hm hc hnb
  · rw [show dEnter s t = _ from if_neg hc]; exact .dWrite hpc hm hc

theorem rEnter_step (hpc : WantsR (s.pc t))
    (hm : s.mtx = none) : Step s t (rEnter s t) := by
  by_cases hc : s.back.length = 0
  · rw [show rEnter s t = _ from if_pos hc]; exact .rEmpty hpc hm hc
  · rw [show rEnter s t = _ from if_neg hc]; exact .rSwap hpc hm hc

theorem step_sound (h : step s tok = some (s', ev)) : tok.tid ≤ s.cfg.W ∧ Step s tok.tid s' := by
  unfold step at h
  split at h
  · cases h
  next hen =>
    have hen : s.enabled tok = true := by simpa using hen
    have hfree := free_of_enabled hen
    refine ⟨le_of_enabled hen, ?_⟩
    cases hpc : s.pc tok.tid <;> simp only [hpc] at h hfree
    case done => cases h
    case dPay => cases h; exact .dPay hpc
    case dLock => cases h; exact dEnter_step (.inl hpc) (hfree (.inl (.inl rfl)))
    case dCvBlocked => cases h; exact dEnter_step (.inr (.inl hpc)) (hfree (.inl (.inr (.inl rfl))))
    case dCvSignaled => cases h; exact dEnter_step (.inr (.inr hpc)) (hfree (.inl (.inr (.inr rfl))))
    case dCvWait => cases h; exact .dWait hpc
    case dSignal =>
      split at h <;> cases h
      next hw => exact .dWake hpc hw
      next hw => exact .dNoWake hpc hw
    case dUnlock r =>
      cases r <;> simp only at h
      · cases h; exact .dNext _ hpc (.inl rfl)
      · split at h <;> cases h
        next htr => exact .dNext _ hpc (.inr htr)
        next htr => exact .dRetry hpc htr
    case dYield => cases h; exact .dYield hpc
    case rLock => cases h; exact rEnter_step (.inl hpc) (hfree (.inr (.inl rfl)))
    case rCvBlocked => cases h; exact rEnter_step (.inr (.inl hpc)) (hfree (.inr (.inr (.inl rfl))))
    case rCvSignaled => cases h; exact rEnter_step (.inr (.inr hpc)) (hfree (.inr (.inr (.inr rfl))))
    case rCvWait => cases h; exact .rWait hpc
    case rSignal =>
      split at h <;> cases h
      next w hw =>
        have := firstWaiting_some _ _ _ _ hw
        exact .rWake hpc w (by omega) this.1
      next hw => exact .rNoWake hpc fun u hu => firstWaiting_none _ _ _ hw u (Nat.zero_le _) (by omega)
    case rUnlock =>
      cases h
      have : (if s.front.length = 0 then nextR s (s.k tok.tid) else .rItem 0) = look s 0 (s.k tok.tid) := by
        unfold look
        by_cases e : s.front.length = 0
        · rw [if_pos e, if_neg (by omega)]
        · rw [if_neg e, if_pos (by omega)]
      have h := Step.rUnlock hpc
      rw [← this] at h; exact h
    case rItem i =>
      split at h
      · cases h
      next m hm => cases h; exact .rItem i hpc m hm

def Framed (s s' : St) (u : Nat) : Prop :=
  s'.k u = s.k u ∧ s'.know u = s.know u ∧
  (s'.pc u = s.pc u ∨ (s.pc u = .rCvBlocked ∧ s'.pc u = .rCvSignaled) ∨ (s.pc u = .dCvBlocked ∧ s'.pc u = .dCvSignaled))

theorem Step.frame (h : Step s t s') {u : Nat} (hu : u ≠ t) : Framed s s' u := by
  unfold Framed
  cases h
  case dWake _ hw =>
    simp only [upd_other _ _ _ _ hu, true_and]; exact (Monitor.upd_woken s.pc hw _ u).imp_right .inl
  case rWake _ w _ hw =>
    simp only [upd_other _ _ _ _ hu, true_and]; exact (Monitor.upd_woken s.pc hw _ u).imp_right .inr
  all_goals simp only [upd_other _ _ _ _ hu, true_or, and_self]

theorem Step.cfg_eq (h : Step s t s') : s'.cfg = s.cfg := by cases h <;> rfl

theorem Framed.inside {u : Nat} (h : Framed s s' u) : s'.pc u = s.pc u ∨ inM (s'.pc u) = false := by
  obtain ⟨-, -, f | ⟨-, f⟩ | ⟨-, f⟩⟩ := h
  · exact .inl f
  · exact .inr (by rw [f]; rfl)
  · exact .inr (by rw [f]; rfl)

theorem Step.back_eq (h : Step s t s') : s'.back = s.back ∨ s.mtx = none := by
  cases h
  case dWrite _ hm _ | rSwap _ hm _ => exact .inr hm
  all_goals exact .inl rfl

theorem Inv.lt_of_isW (hi : Inv s) (ht : t ≤ s.cfg.W) (hw : isW (s.pc t) = true) : t < s.cfg.W := by
  rcases Nat.lt_or_ge t s.cfg.W with h | h
  · exact h
  · rw [Nat.le_antisymm ht h, hi.rdr] at hw; cases hw

theorem Inv.reader_of_isR (hi : Inv s) (ht : t ≤ s.cfg.W) (hr : isR (s.pc t) = true) : t = s.cfg.W := by
  have hr : isW (s.pc t) = false ∧ s.pc t ≠ .done := by
    cases e : s.pc t <;> simp [e, isR, isW] at hr ⊢
  rcases Nat.lt_or_ge t s.cfg.W with h | h
  · rcases hi.wtr _ h with h' | h'
    · rw [hr.1] at h'; cases h'
    · exact absurd h' hr.2
  · exact Nat.le_antisymm ht h

theorem Inv.hd_at (hi : Inv s) {p : Pc} (h : s.pc s.cfg.W = p) :
    s.handed = s.delivered ++ pending s.front p :=
  h ▸ hi.hd

theorem Inv.lt_of_wantsD (hi : Inv s) (ht : t ≤ s.cfg.W) (h : WantsD (s.pc t)) : t < s.cfg.W :=
  hi.lt_of_isW ht (by rcases h with e | e | e <;> rw [e] <;> rfl)

theorem Inv.reader_of_wantsR (hi : Inv s) (ht : t ≤ s.cfg.W) (h : WantsR (s.pc t)) : t = s.cfg.W :=
  hi.reader_of_isR ht (by rcases h with e | e | e <;> rw [e] <;> rfl)

theorem WantsD.ne {p : Pc} (h : WantsD p) : p ≠ .dPay ∧ p ≠ .done := by
  rcases h with e | e | e <;> rw [e] <;> exact ⟨nofun, nofun⟩

theorem WantsR.pending {p : Pc} (h : WantsR p) (f : List Msg) : pending f p = [] := by
  rcases h with e | e | e <;> rw [e] <;> rfl

/-- a producer's step: the consumer's data stay, the consumer is at most notified, with nothing pending; the trailing
equations (what the step leaves alone) are `rfl` at every use -/
theorem Inv.prod_step (hi : Inv s) (ht : t < s.cfg.W) {q : Pc}
    (hpc : s'.pc = upd s.pc t q ∨
      (s.pc s.cfg.W = .rCvBlocked ∧ s'.pc = upd (upd s.pc s.cfg.W .rCvSignaled) t q))
    (hq : isW q = true ∨ q = .done)
    (hown : ∀ u, s'.mtx = some u ↔ (u ≤ s.cfg.W ∧ inM (s'.pc u) = true))
    (hbound : s'.back.length ≤ s.cfg.cap) (hwr : s'.written = s.handed ++ s'.back)
    (hfulls : ∀ u ∈ s'.fulls, u = s.cfg.cap)
    (hcfg : s'.cfg = s.cfg := by rfl) (hfr : s'.front = s.front := by rfl) (hha : s'.handed = s.handed := by rfl)
    (hdl : s'.delivered = s.delivered := by rfl) : Inv s' := by
  have hne : s.cfg.W ≠ t := Nat.ne_of_gt ht
  have hW : s'.pc s.cfg.W = s.pc s.cfg.W ∨ (s.pc s.cfg.W = .rCvBlocked ∧ s'.pc s.cfg.W = .rCvSignaled) := by
    rcases hpc with e | ⟨hb, e⟩ <;> rw [e, upd_other _ _ _ _ hne]
    · exact .inl rfl
    · exact .inr ⟨hb, upd_same _ _ _⟩
  have hpend : pending s.front (s'.pc s.cfg.W) = pending s.front (s.pc s.cfg.W) := by
    rcases hW with e | ⟨e1, e2⟩
    · rw [e]
    · rw [e1, e2]; rfl
  refine ⟨by rw [hcfg]; exact hown, by rw [hcfg]; exact hbound, by rw [hha]; exact hwr, ?_, ?_,
    by rw [hcfg]; exact hfulls, ?_, ?_⟩
  · rw [hcfg, hha, hdl, hfr, hpend]; exact hi.hd
  · intro i hp
    rw [hcfg] at hp; rw [hfr]
    rcases hW with e | ⟨_, e⟩ <;> rw [e] at hp
    · exact hi.item i hp
    · cases hp
  · rw [hcfg]
    rcases hW with e | ⟨_, e⟩ <;> rw [e]
    · exact hi.rdr
    · rfl
  · intro u hu
    rw [hcfg] at hu
    by_cases e : u = t
    · rcases hpc with e' | ⟨_, e'⟩ <;> rw [e', e, upd_same] <;> exact hq
    · have : s'.pc u = s.pc u := by
        rcases hpc with e' | ⟨_, e'⟩ <;> rw [e', upd_other _ _ _ _ e]
        exact upd_other _ _ _ _ (Nat.ne_of_lt hu)
      rw [this]; exact hi.wtr u hu

/-- the consumer's step: `fulls` and the producers stay, one of them is at most notified -/
theorem Inv.cons_step (hi : Inv s) {q : Pc}
    (hpc : s'.pc = upd s.pc s.cfg.W q ∨
      ∃ w, s.pc w = .dCvBlocked ∧ s'.pc = upd (upd s.pc w .dCvSignaled) s.cfg.W q)
    (hq : isW q = false)
    (hown : ∀ u, s'.mtx = some u ↔ (u ≤ s.cfg.W ∧ inM (s'.pc u) = true))
    (hbound : s'.back.length ≤ s.cfg.cap) (hwr : s'.written = s'.handed ++ s'.back)
    (hhd : s'.handed = s'.delivered ++ pending s'.front q)
    (hitem : ∀ i, q = .rItem i → i < s'.front.length)
    (hcfg : s'.cfg = s.cfg := by rfl) (hfu : s'.fulls = s.fulls := by rfl) : Inv s' := by
  have hW : s'.pc s.cfg.W = q := by
    rcases hpc with e | ⟨_, _, e⟩ <;> rw [e, upd_same]
  refine ⟨by rw [hcfg]; exact hown, by rw [hcfg]; exact hbound, hwr, by rw [hcfg, hW]; exact hhd,
    by rw [hcfg, hW]; exact hitem, by rw [hcfg, hfu]; exact hi.fullsOk, by rw [hcfg, hW]; exact hq, ?_⟩
  intro u hu
  rw [hcfg] at hu
  rcases hpc with e | ⟨w, hw, e⟩ <;> rw [e, upd_other _ _ _ _ (Nat.ne_of_lt hu)]
  · exact hi.wtr u hu
  · exact upd_intro (Q := fun p => isW p = true ∨ p = .done) (fun _ => .inl rfl) fun _ => hi.wtr u hu

theorem Step.inv (hi : Inv s) (ht : t ≤ s.cfg.W) (h : Step s t s') : Inv s' := by
  have mine := holder_of_inside hi.own ht
  have ltW := hi.lt_of_isW ht
  have eqW := hi.reader_of_isR ht
  have h1 := hi.own
  cases h
  case dPay hpc | dYield hpc | dNoWake hpc _ =>
    exact hi.prod_step (ltW (by rw [hpc]; rfl)) (.inl rfl) (.inl rfl)
      (own_same h1 (by rw [hpc]; rfl)) hi.bound hi.wr hi.fullsOk
  case dWait hpc | dRetry hpc _ =>
    exact hi.prod_step (ltW (by rw [hpc]; rfl)) (.inl rfl) (.inl rfl)
      (own_release h1 (mine (by rw [hpc]; rfl)) rfl) hi.bound hi.wr hi.fullsOk
  case dNext _ hpc _ =>
    exact hi.prod_step (ltW (by rw [hpc]; rfl)) (.inl rfl)
      ((nextW_cases s t).imp_left fun e => by rw [e]; rfl)
      (own_release h1 (mine (by rw [hpc]; rfl)) (by rcases nextW_cases s t with e | e <;> rw [e] <;> rfl))
      hi.bound hi.wr hi.fullsOk
  case dWake hpc hw =>
    have htW := ltW (by rw [hpc]; rfl)
    exact hi.prod_step htW (.inr ⟨hw, rfl⟩) (.inl rfl)
      (own_same (own_same h1 (by rw [hw]; rfl))
        (by rw [upd_other _ _ _ _ (Nat.ne_of_lt htW), hpc]; rfl)) hi.bound hi.wr hi.fullsOk
  case dFull hpc hm _ _ =>
    exact hi.prod_step (hi.lt_of_wantsD ht hpc) (.inl rfl) (.inl rfl)
      (own_acquire h1 hm ht rfl) hi.bound hi.wr hi.fullsOk
  case dRefuse hpc hm hc _ =>
    refine hi.prod_step (hi.lt_of_wantsD ht hpc) (.inl rfl) (.inl rfl)
      (own_acquire h1 hm ht rfl) hi.bound hi.wr fun u hu => ?_
    rcases List.mem_append.1 hu with h | h
    · exact hi.fullsOk u h
    · rw [List.mem_singleton.1 h]; exact hc
  case dWrite hpc hm hc =>
    refine hi.prod_step (hi.lt_of_wantsD ht hpc) (.inl rfl) (.inl rfl)
      (own_acquire h1 hm ht rfl) ?_ ?_ hi.fullsOk
    · have := hi.bound
      show (s.back ++ [cur s t]).length ≤ s.cfg.cap
      rw [List.length_append]; simp only [List.length_singleton]; omega
    · show s.written ++ [cur s t] = s.handed ++ (s.back ++ [cur s t])
      rw [hi.wr, List.append_assoc]
  case rEmpty hpc hm _ =>
    cases hi.reader_of_wantsR ht hpc
    exact hi.cons_step (.inl rfl) rfl (own_acquire h1 hm ht rfl) hi.bound hi.wr
      (hi.hd.trans (congrArg _ (hpc.pending _))) nofun
  case rSwap hpc hm _ =>
    cases hi.reader_of_wantsR ht hpc
    refine hi.cons_step (.inl rfl) rfl (own_acquire h1 hm ht rfl) (Nat.zero_le _) ?_ ?_ nofun
    · show s.written = s.handed ++ s.back ++ []
      rw [List.append_nil]; exact hi.wr
    · show s.handed ++ s.back = s.delivered ++ s.back
      rw [hi.hd, hpc.pending, List.append_nil]
  case rWait hpc =>
    cases eqW (by rw [hpc]; rfl)
    exact hi.cons_step (.inl rfl) rfl (own_release h1 (mine (by rw [hpc]; rfl)) rfl) hi.bound hi.wr
      (hi.hd_at hpc :) nofun
  case rWake hpc w hwW hw =>
    cases eqW (by rw [hpc]; rfl)
    exact hi.cons_step (.inr ⟨w, hw, rfl⟩) rfl
      (own_same (own_same h1 (by rw [hw]; rfl)) (by rw [upd_other _ _ _ _ (Nat.ne_of_gt hwW), hpc]; rfl))
      hi.bound hi.wr (hi.hd_at hpc :) nofun
  case rNoWake hpc _ =>
    cases eqW (by rw [hpc]; rfl)
    exact hi.cons_step (.inl rfl) rfl (own_same h1 (by rw [hpc]; rfl)) hi.bound hi.wr
      (hi.hd_at hpc :) nofun
  case rUnlock hpc =>
    cases eqW (by rw [hpc]; rfl)
    have hd : s.handed = s.delivered ++ s.front := hi.hd_at hpc
    obtain ⟨lw, lm, lp, li⟩ := look_facts s 0 (s.k s.cfg.W)
    exact hi.cons_step (.inl rfl) lw (own_release h1 (mine (by rw [hpc]; rfl)) lm) hi.bound hi.wr
      (hd.trans (congrArg _ lp.symm)) li
  case rItem i hpc m hm =>
    cases eqW (by rw [hpc]; rfl)
    have hd : s.handed = s.delivered ++ s.front.drop i := hi.hd_at hpc
    have hlt := hi.item i hpc
    -- the item looked at is the head of what was pending
    have hdrop : s.front.drop i = m :: s.front.drop (i + 1) := by
      rw [List.drop_eq_getElem_cons hlt]
      rw [List.getElem?_eq_getElem hlt] at hm; rw [Option.some.inj hm]
    obtain ⟨lw, lm, lp, li⟩ := look_facts s (i + 1) (s.k s.cfg.W + 1)
    exact hi.cons_step (.inl rfl) lw (own_same h1 (by rw [hpc]; exact lm)) hi.bound hi.wr
      (by show s.handed = s.delivered ++ [m] ++ pending s.front _
          rw [lp, hd, List.append_assoc]; exact congrArg _ hdrop)
      li

theorem step_inv (hi : Inv s) (h : step s tok = some (s', ev)) : Inv s' :=
  (step_sound h).2.inv hi (step_sound h).1

theorem mkInit_pc (c : Cfg) (t : Nat) :
    (t < c.W ∧ ((mkInit c).pc t = .dPay ∨ (mkInit c).pc t = .done)) ∨
    (t = c.W ∧ ((mkInit c).pc t = .rLock ∨ (mkInit c).pc t = .done)) ∨ (mkInit c).pc t = .done := by
  simp only [mkInit]
  split
  next h => exact .inl ⟨h, by split <;> simp⟩
  next => split
          next h => exact .inr (.inl ⟨h, by split <;> simp⟩)
          next => exact .inr (.inr rfl)

theorem init_inv (c : Cfg) : Inv (mkInit c) := by
  have hW : (mkInit c).pc c.W = .rLock ∨ (mkInit c).pc c.W = .done := by
    rcases mkInit_pc c c.W with ⟨h, _⟩ | ⟨_, h⟩ | h
    · omega
    · exact h
    · exact .inr h
  refine ⟨fun t => ⟨nofun, fun h => ?_⟩, Nat.zero_le _, rfl, ?_, ?_, nofun, ?_, fun t ht => ?_⟩
  · have h2 := h.2
    rcases mkInit_pc c t with ⟨_, e | e⟩ | ⟨_, e | e⟩ | e <;> rw [e] at h2 <;> cases h2
  · show [] = [] ++ pending [] ((mkInit c).pc c.W)
    rcases hW with e | e <;> rw [e] <;> rfl
  · intro i (hi : (mkInit c).pc c.W = .rItem i)
    rcases hW with e | e <;> rw [e] at hi <;> cases hi
  · show isW ((mkInit c).pc c.W) = false
    rcases hW with e | e <;> rw [e] <;> rfl
  · show isW ((mkInit c).pc t) = true ∨ (mkInit c).pc t = .done
    have ht : t < c.W := ht
    rcases mkInit_pc c t with ⟨_, e | e⟩ | ⟨_, _⟩ | e
    · exact .inl (by rw [e]; rfl)
    · exact .inr e
    · omega
    · exact .inr e

theorem reach_inv (c : Cfg) (s : St) (hr : Reach step (mkInit c) s) : Inv s :=
  Reach.inv Inv (init_inv c) (fun _ _ _ _ hi h => step_inv hi h) s hr

end MgProof.C01.DBuf
