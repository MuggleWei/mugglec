import MgProof.C01.ABQInv
import MgProof.C01.DBufInv
/-!
# C01 — property theorems (array blocking queue, double buffer)

Monitor-granularity models (`MgModel/C01/ABQ.lean`, `DoubleBuffer.lean`): one step per pthread
call; justified on every run of the check by the lock-coverage oracle on the `fine` harness
variant (every access to the queue's fields lies between `mutex_lock` and `mutex_unlock`).
Quantified over every capacity (≥ 1 for the queue), any number of producers (and consumers for the
queue), every workload and every schedule, including spurious condition-variable wake-ups.
-/
namespace MgProof.C01
open MgModel.Conc

namespace ABQ
open MgModel.C01.ABQ
variable {c : Cfg} {s : St}

/-- **FIFO, exactly the puts**: the results of the takes, in the order of the dequeues, are the
first `|taken|` puts in enqueue order — nothing else, nothing twice, nothing out of order. -/
theorem taken_is_prefix_of_puts (hc : 0 < c.cap) (hr : Reach step (mkInit c) s) :
    s.taken = (s.puts.take s.taken.length).map some :=
  (reach_inv c hc s hr).fifo

/-- **`cnt` is the number of untaken puts and never exceeds the capacity**; the ring indices
are the counts modulo the capacity and slot `j mod cap` holds `puts[j]` for every untaken `j`
(so an enqueue never lands on an untaken element) -/
theorem count_and_capacity (hc : 0 < c.cap) (hr : Reach step (mkInit c) s) :
    s.cnt + s.taken.length = s.puts.length ∧ s.cnt ≤ s.cfg.cap ∧
    s.putIdx = s.puts.length % s.cfg.cap ∧ s.takeIdx = s.taken.length % s.cfg.cap ∧
    ∀ j, s.taken.length ≤ j → j < s.puts.length → s.datas (j % s.cfg.cap) = s.puts[j]? :=
  let i := reach_inv c hc s hr
  ⟨i.count, i.bound, i.putI, i.takeI, i.slots⟩

/-- the mutex is owned exactly by the thread inside a critical section -/
theorem mutex_owner (hc : 0 < c.cap) (hr : Reach step (mkInit c) s) (t : Nat) :
    s.mtx = some t ↔ (t < s.cfg.P + s.cfg.C ∧ inM (s.pc t) = true) :=
  (reach_inv c hc s hr).own t

private def cfg0 : Cfg := { cap := 1, ns := [2], ks := [2] }
example : (runSched step (mkInit cfg0)
    ([0, 0, 0, 0, 1, 1, 1, 1, 0, 0, 0, 0, 1, 1, 1, 1].map fun t => { tid := t })).1.taken =
    [some ⟨0, 0⟩, some ⟨0, 1⟩] := by decide
end ABQ

namespace DBuf
open MgModel.C01.DBuf
variable {c : Cfg} {s : St}

/-- **the concatenation of the buffers returned by `read`, followed by the back buffer, is the
sequence of successful writes, in order, each once**; the back buffer never exceeds the
capacity -/
theorem handed_buffers_are_the_writes (hr : Reach step (mkInit c) s) :
    s.written = s.handed ++ s.back ∧ s.back.length ≤ s.cfg.cap :=
  let i := reach_inv c s hr
  ⟨i.wr, i.bound⟩

/-- what the consumer has looked at so far is a prefix of the writes: `written =
delivered ++ (rest of the front buffer) ++ back` -/
theorem delivered_is_prefix_of_written (hr : Reach step (mkInit c) s) :
    s.written = s.delivered ++ pending s.front (s.pc s.cfg.W) ++ s.back := by
  have i := reach_inv c s hr
  rw [i.wr, i.hd]

/-- **a non-blocking write is refused only when the back buffer holds `capacity` items** -/
theorem full_only_when_back_is_full (hr : Reach step (mkInit c) s) : ∀ u ∈ s.fulls, u = s.cfg.cap :=
  (reach_inv c s hr).fullsOk

private def cfg0 : Cfg := { cap := 1, nonblocking := false, tries := 0, reads := 1, ns := [1] }
example : (runSched step (mkInit cfg0)
    ([0, 0, 0, 0, 1, 1, 1, 1].map fun t => { tid := t })).1.delivered = [⟨0, 0⟩] := by decide
end DBuf

end MgProof.C01
