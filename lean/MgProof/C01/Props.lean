import MgProof.C01.HB
/-!
# C01 — property theorems (channel)

Everything below is about `MgModel.C01.step`, the step model of `muggle/c/sync/channel.c`
(tied to the real object code by the trace correspondence of `checks/C01/check.py`), and is
quantified over

* every configuration `c` with `Valid c` (`WRITE_SINGLE` ⇒ one writer; nothing else): all 4
  writer locks x 3 reader modes, every capacity `2 ^ capLog` (including 1 and 2: permanently
  full), every number of writers, every workload (`ns`, `tries`, `reads`);
* every schedule of every length (`Reach step (mkInit c) s`), including spurious condition
  variable wake-ups and interrupted futex waits.

Ghost lists of the model: `accepted` = messages in the order their write took effect (the
release store of `write_cursor`, resp. the store under `read_mutex`), `delivered` = what
`muggle_channel_read` returned, in order (extended at the store of `read_cursor`: with the mutex reader
one step before the call returns).
-/
namespace MgProof.C01
open MgModel.Conc MgModel.C01

variable {c : Cfg} {s : St}

/-- **Clause "reads return nothing else / in order / at most once"**: at every instant the
list of values returned by the reads is exactly the first `|delivered|` accepted messages, in
acceptance order (so no read returns NULL, a stale slot, a message twice or out of order). -/
theorem delivered_is_prefix_of_accepted (hv : Valid c) (hr : Reach step (mkInit c) s) :
    s.delivered = (s.accepted.take s.delivered.length).map some :=
  (reach_inv c hv s hr).fifo

/-- the same, element-wise: the `i`-th read returned the `i`-th accepted message -/
theorem read_i_returns_accepted_i (hv : Valid c) (hr : Reach step (mkInit c) s) (i : Nat)
    (hi : i < s.delivered.length) :
    ∃ m, s.accepted[i]? = some m ∧ s.delivered[i]? = some (some m) := by
  have inv := reach_inv c hv s hr
  have hlt : i < s.accepted.length := Nat.lt_of_lt_of_le hi inv.le1
  refine ⟨s.accepted[i], List.getElem?_eq_getElem hlt, ?_⟩
  rw [inv.fifo]
  simp [List.getElem?_map, hi, List.getElem?_eq_getElem hlt]

/-- **Clause "refused as full only if really at capacity at some instant during the call"**:
every FULL verdict was decided at an instant (the relaxed load of `read_cursor` in sync mode,
the refresh of `cached_r_cur` in busy mode — a stale cache alone never refuses —, the read
under `read_mutex` in mutex mode) at which exactly `cap - 2` messages, the usable capacity,
were unread (`fulls` records `|accepted| - |delivered at that instant|`). For capacity 1 and 2
this is 0: the channel is permanently full. -/
theorem full_only_when_at_capacity (hv : Valid c) (hr : Reach step (mkInit c) s) :
    ∀ u ∈ s.fulls, u = c.cap - 2 := by
  have inv := reach_inv c hv s hr
  have hc : s.cfg = c := reach_cfg c s hr
  rw [← hc]; exact inv.fullsOk

/-- **Clause "an accepted message is never overwritten before it has been read"**: no slot
store ever targets a slot that holds an accepted, not yet consumed message
(`overwrites` counts such stores). -/
theorem never_overwrites_unread (hv : Valid c) (hr : Reach step (mkInit c) s) : s.overwrites = 0 :=
  (reach_inv c hv s hr).ow

/-- the ring never holds more than `cap - 2` unread messages, and every unread message is in
its slot: slot `j mod cap` holds `accepted[j]` for every `j` between the cursors -/
theorem unread_messages_are_in_their_slots (hv : Valid c) (hr : Reach step (mkInit c) s) :
    s.delivered.length ≤ s.accepted.length ∧ s.accepted.length ≤ s.delivered.length + (s.cfg.cap - 2) ∧
    ∀ j, s.delivered.length ≤ j → j < s.accepted.length → s.blocks (j % s.cfg.cap) = s.accepted[j]? :=
  let inv := reach_inv c hv s hr
  ⟨inv.le1, inv.le2, inv.slots⟩

/-- **writer serialisation**: whatever the lock kind (mutex, inlined futex lock, inlined spin
lock, or the single-writer promise), at most one writer is between `fn_lock` and `fn_unlock` -/
theorem writers_are_serialised (hv : Valid c) (hr : Reach step (mkInit c) s) (t1 t2 : Nat)
    (h1 : t1 < s.cfg.W) (h2 : t2 < s.cfg.W) (c1 : inCS (s.pc t1) = true) (c2 : inCS (s.pc t2) = true) :
    t1 = t2 := by
  have inv := reach_inv c hv s hr
  have a := (inv.hold t1).2 ⟨h1, c1⟩
  have b := (inv.hold t2).2 ⟨h2, c2⟩
  rw [a] at b; cases b; rfl

/-- **Clause "messages are read in the order their writes took effect, so each writer's
messages keep that writer's order"**: within `accepted` (= the read order, by
`delivered_is_prefix_of_accepted`) the messages of one writer appear with strictly increasing
index, i.e. in that writer's program order. No hypothesis on `c` at all. -/
theorem accepted_keeps_each_writers_order (hr : Reach step (mkInit c) s) :
    s.accepted.Pairwise (fun a b => a.w = b.w → a.k < b.k) :=
  (reach_invE c s hr).e2

theorem accepted_nodup (hr : Reach step (mkInit c) s) : s.accepted.Nodup := by
  have h := (reach_invE c s hr).e2
  refine List.Pairwise.imp ?_ h
  intro a b hab e
  subst e
  exact absurd (hab rfl) (Nat.lt_irrefl _)

/-- **Clause "every message whose write returned success is returned by exactly one read"**,
safety half: no message is returned by two reads (the delivered list has no duplicates and
contains only accepted messages). That an accepted message *is* eventually read is a progress property;
its safety form is `MgProof.C03.Channel.no_global_sleep`. -/
theorem delivered_nodup (hv : Valid c) (hr : Reach step (mkInit c) s) : s.delivered.Nodup := by
  rw [delivered_is_prefix_of_accepted hv hr]
  have h : (s.accepted.take s.delivered.length).Nodup :=
    List.Sublist.nodup (List.take_sublist _ _) (accepted_nodup hr)
  rw [List.Nodup, List.pairwise_map]
  exact List.Pairwise.imp (fun hab e => hab (Option.some.inj e)) h

/-- **success ⇒ accepted**: `muggle_channel_write` reported success only for messages that are
in `accepted` (took effect exactly once, by `accepted_nodup`) -/
theorem success_implies_accepted (hr : Reach step (mkInit c) s) : ∀ m ∈ s.okNotes, m ∈ s.accepted :=
  (reach_invE c s hr).e3

/-- **accepted ⇒ success**: a message that took effect has been reported as success, unless
its writer is still inside that very call, past the publication (between the cursor store and
the return) -/
theorem accepted_implies_success_or_in_flight (hr : Reach step (mkInit c) s) :
    ∀ m ∈ s.accepted, m ∈ s.okNotes ∨ (m.k = s.k m.w ∧ published (s.pc m.w) = true) :=
  (reach_invE c s hr).e5

/-- a refused (FULL) or not yet published call has not taken effect: the current message of a
writer whose pc is not past the publication is not in `accepted` -/
theorem unpublished_not_accepted (hr : Reach step (mkInit c) s) (t : Nat)
    (hp : published (s.pc t) = false) : (⟨t, s.k t⟩ : Msg) ∉ s.accepted := by
  intro hm
  have := ((reach_invE c s hr).e1 _ hm).2
  rcases this with h | ⟨_, h⟩
  · exact Nat.lt_irrefl _ h
  · rw [hp] at h; cases h

/-- **Clause "everything the producer stored in a message before writing it is visible to the
reader that receives it (the hand-over is a happens-before edge)"**: whenever the reader is
about to read the payload of the message `m` it received, the producer's payload store is in
the reader's knowledge set, i.e. there is a chain of release/acquire (or unlock/lock) edges
from that store to this read — through the release store / acquire load of `write_cursor`
(sync and busy readers; with several writers via the write lock hand-over between them), or
through `read_mutex` (mutex reader). Relaxed accesses and futex operations contribute no edge
in the model, so a downgraded order in the model would falsify this theorem; the orders of
the real code are compared with the model's on every run (trace tie + static inventory). -/
theorem handover_is_happens_before (hv : Valid c) (hr : Reach step (mkInit c) s) (m : Msg)
    (hp : s.pc s.cfg.W = .rPay m) : m ∈ s.know s.cfg.W :=
  (reach_all c hv s hr).2.2.rd_at hp

/-- the same as a counter: no payload read ever happened outside the happens-before cone -/
theorem no_unordered_payload_read (hv : Valid c) (hr : Reach step (mkInit c) s) : s.hbViol = 0 :=
  (reach_all c hv s hr).2.2.viol

/-- the slot load of the reader is ordered as well: the message it is about to fetch
is known to it (sync and busy readers; the mutex reader holds `read_mutex`) -/
theorem slot_load_is_ordered (hv : Valid c) (hr : Reach step (mkInit c) s) (rpos : Nat)
    (hp : s.pc s.cfg.W = .rRdB rpos) : ∀ m, s.accepted[s.delivered.length]? = some m → m ∈ s.know s.cfg.W :=
  (reach_all c hv s hr).2.2.rd_at hp

/-! ### non-vacuity: a concrete run with a delivery -/

private def cfg0 : Cfg := { wl := .single, rm := .sync, capLog := 2, tries := 0, reads := 1, ns := [1] }
private def sched0 : List Tok := [0, 0, 0, 0, 0, 0, 0, 1, 1, 1, 1, 1].map fun t => { tid := t }

example : Valid cfg0 := ⟨fun _ => rfl⟩
example : Reach step (mkInit cfg0) (runSched step (mkInit cfg0) sched0).1 :=
  reach_runSched step _ _ Reach.init _
example : (runSched step (mkInit cfg0) sched0).1.delivered = [some ⟨0, 0⟩] := by decide
-- third component of `runSched`: every token of the schedule was accepted
example : (runSched step (mkInit cfg0) sched0).2.2 = true := by decide

private def cfg1 : Cfg := { wl := .single, rm := .busy, capLog := 1, tries := 1, reads := 0, ns := [1] }
-- a permanently full channel (requested capacity 1 or 2) really reports FULL
example : (runSched step (mkInit cfg1) ([0, 0, 0, 0, 0, 0].map fun t => { tid := t })).1.fulls = [0] := by decide

end MgProof.C01
