import MgProof.C01.Lemmas
/-!
# C01 — what the two monitor models share

Over variables: what a thread found on taking the mutex holds while it is inside (`inside_step`; the owner lemmas are in
`MgProof/Conc.lean`), and what changes only under the mutex is known to its holder, or was to the last one (`Handed`;
`mem_joinK` is in `C01/Lemmas.lean`).
-/
namespace MgProof.C01.Monitor
open MgModel.Conc
open MgModel.C01 (Msg joinK)

section owner
variable {α : Type} {inM : α → Bool} {ok : Nat → Prop} {mtx : Option Nat} {pc : Nat → α}
  {t0 : Nat}

/-- `P x p`: what a thread at pc `p`, inside the monitor, found out about `x` when it took the mutex. `x` is
written only by a step that takes the mutex (`hx`), so nobody else is inside then; hence `P` survives every
step, the stepping thread supplying its own (`me`). -/
theorem inside_step {σ : Type} {P : σ → α → Prop} {x x' : σ} {pc' : Nat → α}
    (h : ∀ t, mtx = some t ↔ (ok t ∧ inM (pc t) = true)) (old : ∀ u, ok u → P x (pc u))
    (hout : ∀ p, inM p = false → P x' p) (hfr : ∀ u, u ≠ t0 → pc' u = pc u ∨ inM (pc' u) = false)
    (hx : x' = x ∨ mtx = none) (me : P x' (pc' t0)) : ∀ u, ok u → P x' (pc' u) := by
  intro u hu
  by_cases e : u = t0
  · rw [e]; exact me
  cases hin : inM (pc' u) with
  | false => exact hout _ hin
  | true =>
    have e1 : pc' u = pc u := (hfr u e).resolve_right (by rw [hin]; nofun)
    have e2 : x' = x := hx.resolve_right fun hm => by
      have := outside_of_free h hm hu
      rw [← e1, hin] at this; cases this
    rw [e1, e2]; exact old u hu

end owner

theorem upd_woken {α : Type} {p : α} (pc : Nat → α) {w : Nat} (hw : pc w = p) (p' : α) (u : Nat) :
    upd pc w p' u = pc u ∨ (pc u = p ∧ upd pc w p' u = p') := by
  by_cases e : u = w
  · subst e; exact .inr ⟨hw, upd_same _ _ _⟩
  · exact .inl (upd_other _ _ _ _ e)

/-- every message of `X` is known to the holder of the mutex or, while it is free, was known to the
last holder when it released -/
structure Handed (mtx : Option Nat) (know : Nat → List Msg) (relM X : List Msg) : Prop where
  free : mtx = none → ∀ m ∈ X, m ∈ relM
  held : ∀ t, mtx = some t → ∀ m ∈ X, m ∈ know t

namespace Handed
variable {mtx : Option Nat} {know know' : Nat → List Msg} {relM X X' : List Msg} {t : Nat} {m : Msg}

theorem acquire (h : Handed none know relM X) :
    Handed (some t) (upd know t (joinK (know t) relM)) relM X :=
  ⟨nofun, fun u e m hm => by
    cases e; rw [upd_same]; exact mem_joinK.2 (Or.inr (h.free rfl m hm))⟩

theorem release (h : Handed (some t) know relM X) : Handed none know' (know t) X :=
  ⟨fun _ => h.held t rfl, nofun⟩

theorem sub (h : Handed (some t) know relM X) (hs : ∀ m ∈ X', m ∈ X ∨ m ∈ know t) :
    Handed (some t) know relM X' :=
  ⟨nofun, fun u e m hm => by
    cases e; exact (hs m hm).elim (h.held t rfl m) id⟩

theorem put (h : Handed none know relM X) (hm : m ∈ know t) :
    Handed (some t) (upd know t (joinK (know t) relM)) relM (X ++ [m]) :=
  h.acquire.sub fun m' hm' => (List.mem_append.1 hm').imp_right fun e => by
    rw [List.mem_singleton.1 e, upd_same]; exact mem_joinK.2 (.inl hm)

theorem learn (h : Handed mtx know relM X) : Handed mtx (upd know t (m :: know t)) relM X :=
  ⟨h.free, fun u e m' hm => know_grows (fun _ => List.mem_cons_of_mem _) u (h.held u e m' hm)⟩

end Handed

end MgProof.C01.Monitor
