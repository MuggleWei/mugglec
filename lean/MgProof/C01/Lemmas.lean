import MgModel.C01.Channel
import MgProof.Conc
/-!
# C01 — channel: the inductive invariant `Inv` and its arithmetic

With `A = |accepted|`, `D = |delivered|`, `cap = 2 ^ capLog`, `Inv s` says:
* `hold`, `rmo`: the owner of the write lock / of `read_mutex` is exactly the thread whose pc is inside;
  `lock0`: a zero lock word has no owner;
* `wc_eq`, `rc_eq`, `le1`, `le2`: `write_cursor = A mod cap`, `read_cursor = (D + cap - 1) mod cap`,
  `D ≤ A ≤ D + (cap - 2)`; `slots`: slot `j mod cap` holds `accepted[j]` for every unread `j ∈ [D, A)`;
* `cachedOk`: `cached_r_cur` is the cursor of an earlier `D` that still leaves room for `A`;
* `wloc`, `rloc`: per pc, the locals of the lock holder / the reader (`WLoc`, `RLoc`);
* `fifo`, `fullsOk`, `ow`: reads return `accepted` in order, every FULL verdict saw `cap - 2` unread
  messages, no store hit an unread slot.

Stated for every writer-lock kind, reader mode, `capLog`, workload and thread count at once; `Valid`
only asks what the API documents (`WRITE_SINGLE` ⇒ one writer).
-/
namespace MgProof.C01
open MgModel.Conc MgModel.C01

theorem ring_eq (i k : Nat) : ring i (2 ^ k) = i % 2 ^ k := by
  unfold ring; exact Nat.and_two_pow_sub_one_eq_mod i k

theorem cap_pos (c : Cfg) : 0 < c.cap := Nat.pow_pos (by decide)

theorem ring_cap (i : Nat) (c : Cfg) : ring i c.cap = i % c.cap := ring_eq i c.capLog

/-- the cursor that follows `read_cursor = (D + cap - 1) mod cap` is `D mod cap` -/
theorem next_rc (D n : Nat) (hn : 0 < n) : ((D + (n - 1)) % n + 1) % n = D % n := by
  rw [Nat.mod_add_mod]
  have : D + (n - 1) + 1 = D + n := by omega
  rw [this, Nat.add_mod_right]

/-- the full test of `fn_write`, `wpos == rpos`, succeeds exactly when `cap - 2` messages are unread -/
theorem full_iff {A d n : Nat} (hn : 0 < n) (h1 : d ≤ A) (h2 : A ≤ d + (n - 2)) :
    (A + 1) % n = (d + (n - 1)) % n ↔ A = d + (n - 2) := by
  constructor
  · intro h
    rcases Nat.lt_or_ge n 2 with hlt | hge
    · omega
    · have := Nat.mod_inj_of_lt_add (a := A + 1) (b := d + (n - 1)) h (by omega) (by omega)
      omega
  · intro h
    rcases Nat.lt_or_ge n 2 with hlt | hge
    · have : n = 1 := by omega
      subst this; simp [Nat.mod_one]
    · have : A + 1 = d + (n - 1) := by omega
      rw [this]

/-- the reader's test: the cursors coincide exactly when nothing is unread -/
theorem empty_iff {A D n : Nat} (hn : 0 < n) (h1 : D ≤ A) (h2 : A ≤ D + (n - 2)) : A % n = D % n ↔ A = D :=
  ⟨fun h => (Nat.mod_inj_of_lt_add h.symm h1 (by omega)).symm, fun h => by rw [h]⟩

theorem slot_ne {A D j n : Nat} (h2 : A ≤ D + (n - 2)) (hj1 : D ≤ j) (hj2 : j < A) :
    j % n ≠ A % n := by
  intro h
  have := Nat.mod_inj_of_lt_add (a := j) (b := A) h (by omega) (by omega)
  omega

/-- pcs between the acquisition of the write lock and its release -/
def inCS : Pc → Bool
  | .sLdR | .sRdW _ | .cRdW2 _ | .cWrB _ _ | .cSt _ | .bRdW | .bRdC _ | .bLdR _ | .bWrC _ _ | .bRdC2 _
  | .mLock | .mRdW | .mRdR _ | .mRdW2 _ | .mWrB _ _ | .mWrW _ | .mUnlock _ | .wUnlock _ => true
  | _ => false

/-- pcs holding `read_mutex` -/
def inRM : Pc → Bool
  | .mRdW | .mRdR _ | .mRdW2 _ | .mWrB _ _ | .mWrW _ | .mUnlock _
  | .rmRdR | .rmRdW _ | .rmCvWait | .rmRdB _ | .rmWrR _ _ | .rmUnlock _ => true
  | _ => false

structure Valid (c : Cfg) : Prop where
  single : c.wl = .single → c.W = 1

/-- room for one more message, as the passed full test established it; only the sync and busy writers
pass the pcs that carry it (last conjunct) -/
def Room (n A D cObs : Nat) (rm : RMode) : Prop :=
  A + 1 ≤ D + (n - 2) ∧ (rm = .busy → A + 1 ≤ cObs + (n - 2)) ∧ rm ≠ .mutex

/-- what the holder of the write lock knows at each pc (`n` = capacity, `slot` = contents of
slot `A mod n`, `m` = its message) -/
def WLoc (n A D obsT cObs : Nat) (rm : RMode) (slot : Option Msg) (m : Msg) : Pc → Prop
  | .sLdR => rm = .sync
  | .sRdW rpos => rm = .sync ∧ rpos = (obsT + (n - 1)) % n ∧ obsT ≤ D ∧ A ≤ obsT + (n - 2)
  | .cRdW2 wpos => wpos = (A + 1) % n ∧ Room n A D cObs rm
  | .cWrB wpos idx => wpos = (A + 1) % n ∧ idx = A % n ∧ Room n A D cObs rm
  | .cSt wpos => wpos = (A + 1) % n ∧ slot = some m ∧ Room n A D cObs rm
  | .bRdW => rm = .busy
  | .bRdC wpos => rm = .busy ∧ wpos = (A + 1) % n
  | .bLdR wpos => rm = .busy ∧ wpos = (A + 1) % n
  | .bRdC2 wpos => rm = .busy ∧ wpos = (A + 1) % n
  | .bWrC wpos v => rm = .busy ∧ wpos = (A + 1) % n ∧ v = (obsT + (n - 1)) % n ∧ obsT ≤ D ∧ A ≤ obsT + (n - 2)
  | .mLock => rm = .mutex
  | .mRdW => rm = .mutex
  | .mRdR wpos => rm = .mutex ∧ wpos = (A + 1) % n
  | .mRdW2 wpos => rm = .mutex ∧ wpos = (A + 1) % n ∧ A + 1 ≤ D + (n - 2)
  | .mWrB wpos idx => rm = .mutex ∧ wpos = (A + 1) % n ∧ idx = A % n ∧ A + 1 ≤ D + (n - 2)
  | .mWrW wpos => rm = .mutex ∧ wpos = (A + 1) % n ∧ slot = some m ∧ A + 1 ≤ D + (n - 2)
  | _ => True

/-- what the reader knows at each pc (`nxt` = `accepted[D]?`) -/
def RLoc (n A D : Nat) (nxt : Option Msg) : Pc → Prop
  | .rLdW rpos => rpos = D % n
  | .rFwait rpos _ => rpos = D % n
  | .rBlocked rpos => rpos = D % n
  | .rWoken rpos => rpos = D % n
  | .rRdB rpos => rpos = D % n ∧ D < A
  | .rStR rpos d => rpos = D % n ∧ D < A ∧ d = nxt
  | .rmRdW rpos => rpos = D % n
  | .rmRdB rpos => rpos = D % n ∧ D < A
  | .rmWrR rpos d => rpos = D % n ∧ D < A ∧ d = nxt
  | _ => True

structure Inv (s : St) : Prop where
  valid : Valid s.cfg
  hold : ∀ t, s.holder = some t ↔ (t < s.cfg.W ∧ inCS (s.pc t) = true)
  lock0 : s.cfg.wl = .spin ∨ s.cfg.wl = .sync → s.wlock = 0 → s.holder = none
  rmo : ∀ t, s.rmtx = some t ↔ (t ≤ s.cfg.W ∧ inRM (s.pc t) = true)
  wc_eq : s.wc = s.accepted.length % s.cfg.cap
  rc_eq : s.rc = (s.delivered.length + (s.cfg.cap - 1)) % s.cfg.cap
  le1 : s.delivered.length ≤ s.accepted.length
  le2 : s.accepted.length ≤ s.delivered.length + (s.cfg.cap - 2)
  slots : ∀ j, s.delivered.length ≤ j → j < s.accepted.length →
    s.blocks (j % s.cfg.cap) = s.accepted[j]?
  cachedOk : s.cfg.rm = .busy →
    s.cached = (s.cachedObs + (s.cfg.cap - 1)) % s.cfg.cap ∧ s.cachedObs ≤ s.delivered.length ∧
    s.accepted.length ≤ s.cachedObs + (s.cfg.cap - 2)
  wloc : ∀ t, s.holder = some t →
    WLoc s.cfg.cap s.accepted.length s.delivered.length (s.obs t) s.cachedObs s.cfg.rm
      (s.blocks (s.accepted.length % s.cfg.cap)) (cur s t) (s.pc t)
  rloc : RLoc s.cfg.cap s.accepted.length s.delivered.length s.accepted[s.delivered.length]?
    (s.pc s.cfg.W)
  fifo : s.delivered = (s.accepted.take s.delivered.length).map some
  fullsOk : ∀ u ∈ s.fulls, u = s.cfg.cap - 2
  ow : s.overwrites = 0

theorem Inv.holds {s : St} {t : Nat} {p : Pc} (hi : Inv s) (ht : t < s.cfg.W) (hp : s.pc t = p)
    (hc : inCS p = true) : s.holder = some t :=
  (hi.hold t).2 ⟨ht, hp ▸ hc⟩

theorem Inv.owns {s : St} {t : Nat} {p : Pc} (hi : Inv s) (ht : t ≤ s.cfg.W) (hp : s.pc t = p)
    (hr : inRM p = true) : s.rmtx = some t :=
  (hi.rmo t).2 ⟨ht, hp ▸ hr⟩

theorem Inv.empty_iff {s : St} (hi : Inv s) :
    s.wc = s.delivered.length % s.cfg.cap ↔ s.accepted.length = s.delivered.length := by
  rw [hi.wc_eq]; exact MgProof.C01.empty_iff (cap_pos _) hi.le1 hi.le2

/-- what the writer at `p`, inside the critical section, knows -/
theorem Inv.wloc_at {s : St} {t : Nat} {p : Pc} (hi : Inv s) (ht : t < s.cfg.W) (hp : s.pc t = p)
    (hc : inCS p = true) :
    WLoc s.cfg.cap s.accepted.length s.delivered.length (s.obs t) s.cachedObs s.cfg.rm
      (s.blocks (s.accepted.length % s.cfg.cap)) ⟨t, s.k t⟩ p :=
  hp ▸ hi.wloc t (hi.holds ht hp hc)

theorem Inv.rloc_at {s : St} {p : Pc} (hi : Inv s) (hp : s.pc s.cfg.W = p) :
    RLoc s.cfg.cap s.accepted.length s.delivered.length s.accepted[s.delivered.length]? p :=
  hp ▸ hi.rloc

/-- `D` occurs in `WLoc` only as `obsT ≤ D` and in upper bounds `… ≤ D + (n - 2)` -/
theorem WLoc_mono_D {n A D D' o c : Nat} {rm : RMode} {sl : Option Msg} {m : Msg} {p : Pc} (h : D ≤ D')
    (hw : WLoc n A D o c rm sl m p) : WLoc n A D' o c rm sl m p := by
  cases p <;> simp only [WLoc, Room] at *
  case sRdW | cWrB | cSt => obtain ⟨h1, h2, h3, h4⟩ := hw; exact ⟨h1, h2, by omega, h4⟩
  case cRdW2 => obtain ⟨h1, h2, h3⟩ := hw; exact ⟨h1, by omega, h3⟩
  case bWrC => obtain ⟨h1, h2, h3, h4, h5⟩ := hw; exact ⟨h1, h2, h3, by omega, h5⟩
  case mRdW2 => obtain ⟨h1, h2, h3⟩ := hw; exact ⟨h1, h2, by omega⟩
  case mWrB | mWrW => obtain ⟨h1, h2, h3, h4⟩ := hw; exact ⟨h1, h2, h3, by omega⟩
  all_goals exact hw

theorem RLoc_publish {n D : Nat} {l : List Msg} {m : Msg} {p : Pc} (h : RLoc n l.length D l[D]? p) :
    RLoc n (l.length + 1) D (l ++ [m])[D]? p := by
  cases p <;> simp only [RLoc] at * <;> (try omega)
  all_goals (obtain ⟨h1, h2, h3⟩ := h; refine ⟨h1, by omega, ?_⟩; rw [List.getElem?_append_left h2]; exact h3)

theorem fifo_publish {D : Nat} {l : List Msg} {m : Msg} {dl : List (Option Msg)} (hD : D ≤ l.length)
    (h : dl = (l.take D).map some) : dl = ((l ++ [m]).take D).map some := by
  rw [List.take_append_of_le_length hD]; exact h

theorem fifo_consume {l : List Msg} {dl : List (Option Msg)} (hD : dl.length < l.length)
    (h : dl = (l.take dl.length).map some) :
    dl ++ [l[dl.length]?] = (l.take (dl.length + 1)).map some := by
  rw [List.take_add_one, List.map_append, ← h]
  simp [List.getElem?_eq_getElem hD]

theorem firstBlocked_spec (pc : Nat → Pc) (n i w : Nat) (h : firstBlocked pc n i = some w) : pc w = .wBlocked :=
  (first_some (P := fun i => pc i = .wBlocked) (fun _ => rfl) (fun _ _ => rfl) h).1

theorem firstBlocked_lt (pc : Nat → Pc) (n i w : Nat) (h : firstBlocked pc n i = some w) : w < i + n :=
  (first_some (P := fun i => pc i = .wBlocked) (fun _ => rfl) (fun _ _ => rfl) h).2.2

theorem firstBlocked_none (pc : Nat → Pc) (n i : Nat) (h : firstBlocked pc n i = none) :
    ∀ t, i ≤ t → t < i + n → pc t ≠ .wBlocked :=
  first_none (P := fun i => pc i = .wBlocked) (fun _ _ => rfl) h

theorem mem_joinK {m : Msg} {a b : List Msg} : m ∈ joinK a b ↔ m ∈ a ∨ m ∈ b := mem_merge

theorem liveSlot_false (s : St) (hi2 : s.accepted.length ≤ s.delivered.length + (s.cfg.cap - 2)) :
    liveSlot s (s.accepted.length % s.cfg.cap) = false := by
  unfold liveSlot
  rw [List.any_eq_false]
  intro j hj
  rw [List.mem_range'_1] at hj
  have := slot_ne (n := s.cfg.cap) hi2 hj.1 (by omega)
  simpa using this

/-! Both locks are tracked as `owner = some t ↔ (ok t ∧ inM (pc t))`, the form of `own_same`, `own_acquire`,
`own_release` (`MgProof/Conc.lean`): `ok`/`inM` = `(· < W)`/`inCS` for the write lock, `(· ≤ W)`/`inRM` for `read_mutex`. -/

section generic
variable {t0 : Nat} {pc : Nat → Pc} {p' : Pc}

variable {W n A D c : Nat} {holder : Option Nat} {rm : RMode} {sl : Option Msg} {obs k : Nat → Nat}

theorem wloc_other (h1 : ∀ t, holder = some t ↔ (t < W ∧ inCS (pc t) = true))
    (h10 : ∀ t, holder = some t → WLoc n A D (obs t) c rm sl ⟨t, k t⟩ (pc t))
    (hnot : inCS (pc t0) = false) (obs' k' : Nat → Nat)
    (ho : ∀ t, t ≠ t0 → obs' t = obs t) (hk : ∀ t, t ≠ t0 → k' t = k t) :
    ∀ t, holder = some t → WLoc n A D (obs' t) c rm sl ⟨t, k' t⟩ (upd pc t0 p' t) := by
  intro t hh
  have ht : t ≠ t0 := by
    intro e; subst e
    have := ((h1 t).1 hh).2
    rw [hnot] at this; cases this
  rw [upd_other _ _ _ _ ht, ho t ht, hk t ht]
  exact h10 t hh

theorem wloc_holder {n' A' D' c' : Nat} {sl' : Option Msg} {h' : Option Nat} (obs' k' : Nat → Nat)
    (hh : h' = some t0) (hnew : WLoc n' A' D' (obs' t0) c' rm sl' ⟨t0, k' t0⟩ p') :
    ∀ t, h' = some t → WLoc n' A' D' (obs' t) c' rm sl' ⟨t, k' t⟩ (upd pc t0 p' t) := by
  intro t ht
  rw [hh] at ht; cases ht
  rw [upd_same]; exact hnew

end generic

end MgProof.C01
