import MgProof.C01.Once
/-!
# C01 — channel: the hand-over is a happens-before edge

`know t` = payload stores that happen-before thread `t`'s current point: a release store / unlock
publishes it on the location, an acquire load / lock joins it, relaxed accesses and futex operations
transfer nothing. `InvHB`: whoever holds the write lock (`holdK`)
or `read_mutex` (`rmK`) knows every accepted message, and so does what a free lock (`freeL`, `rmFree`) or
`write_cursor` (`relC`) carries; a writer knows its own messages (`own`, `curK`). Hence (`rd`, `RHB`) when the reader
reads the payload of a message it received, that payload's store is in `know reader` (`viol`).
-/
namespace MgProof.C01
open MgModel.Conc MgModel.C01

/-- what the reader knows about the message it is about to return; elsewhere, which reader loop it is in
(`relC` serves the one, `rmK` the other); `MgProof/C03/Channel.lean` reads the reader mode off this second part -/
def RHB (rm : RMode) (nxt : Option Msg) (kn : List Msg) : Pc → Prop
  | .rRdR => rm ≠ .mutex
  | .rLdW _ => rm ≠ .mutex
  | .rFwait _ _ => rm ≠ .mutex
  | .rBlocked _ => rm ≠ .mutex
  | .rWoken _ => rm ≠ .mutex
  | .rRdB _ => ∀ m, nxt = some m → m ∈ kn
  | .rStR _ _ => ∀ m, nxt = some m → m ∈ kn
  | .rmLock => rm = .mutex
  | .rmRdR => rm = .mutex
  | .rmRdW _ => rm = .mutex
  | .rmCvWait => rm = .mutex
  | .rmCvBlocked => rm = .mutex
  | .rmCvSignaled => rm = .mutex
  | .rmRdB _ => rm = .mutex
  | .rmWrR _ _ => rm = .mutex
  | .rmUnlock d => ∀ m, d = some m → m ∈ kn
  | .rPay m => m ∈ kn
  | _ => True

theorem RHB_publish {rm : RMode} {n D : Nat} {l : List Msg} {m : Msg} {kn : List Msg} {p : Pc}
    (h : RHB rm l[D]? kn p) (hl : RLoc n l.length D l[D]? p) : RHB rm (l ++ [m])[D]? kn p := by
  cases p <;> simp only [RHB, RLoc] at * <;> (try exact h)
  all_goals (intro x hx; rw [List.getElem?_append_left (by omega)] at hx; exact h x hx)

/-- `holdK` with `freeL`, and under `rm = .mutex` `rmK` with `rmFree`, are `Monitor.Handed` (`MgProof/C01/Monitor.lean`)
for the write lock and for `read_mutex` -/
structure InvHB (s : St) : Prop where
  own : ∀ m ∈ s.accepted, m ∈ s.know m.w
  curK : ∀ t, t < s.cfg.W → s.pc t ≠ .wPay → s.pc t ≠ .done → (⟨t, s.k t⟩ : Msg) ∈ s.know t
  holdK : ∀ t, s.holder = some t → ∀ m ∈ s.accepted, m ∈ s.know t
  freeL : s.cfg.wl ≠ .single → s.holder = none → ∀ m ∈ s.accepted, m ∈ s.relWL
  relC : s.cfg.rm ≠ .mutex → ∀ m ∈ s.accepted, m ∈ s.relWC
  rmK : s.cfg.rm = .mutex → ∀ t, s.rmtx = some t → ∀ m ∈ s.accepted, m ∈ s.know t
  rmFree : s.cfg.rm = .mutex → s.rmtx = none → ∀ m ∈ s.accepted, m ∈ s.relRM
  rd : RHB s.cfg.rm s.accepted[s.delivered.length]? (s.know s.cfg.W) (s.pc s.cfg.W)
  viol : s.hbViol = 0

theorem InvHB.rd_at {s : St} {p : Pc} (hi : InvHB s) (hp : s.pc s.cfg.W = p) :
    RHB s.cfg.rm s.accepted[s.delivered.length]? (s.know s.cfg.W) p :=
  hp ▸ hi.rd

theorem RHB_mono {rm : RMode} {nxt : Option Msg} {kn kn' : List Msg} {p : Pc}
    (hk : ∀ m ∈ kn, m ∈ kn') (h : RHB rm nxt kn p) : RHB rm nxt kn' p := by
  cases p <;> simp only [RHB] at *
  case rRdB | rStR | rmUnlock => exact fun m hm => hk m (h m hm)
  case rPay => exact hk _ h
  all_goals exact h

theorem mem_upd_joinK {know : Nat → List Msg} {u : Nat} {l : List Msg} {m : Msg} :
    m ∈ upd know u (joinK (know u) l) u ↔ m ∈ know u ∨ m ∈ l := by
  rw [upd_same]; exact mem_joinK

/-! `InvHB` reads the state only through `hbView`; on that view every `WStep` / `RStep` is a composition of the moves below. -/

def hbView (s : St) :=
  (s.cfg, s.pc, s.k, s.accepted, s.delivered, s.holder, s.rmtx, s.know, s.relWC, s.relWL, s.relRM, s.hbViol)

variable {s s' : St} {t : Nat}

theorem InvHB.congr (hi : InvHB s) (h : hbView s' = hbView s) : InvHB s' := by
  simp only [hbView, Prod.mk.injEq] at h
  obtain ⟨e1, e2, e3, e4, e5, e6, e7, e8, e9, e10, e11, e12⟩ := h
  obtain ⟨o1, o2, o3, o4, o5, o6, o7, o8, o9⟩ := hi
  refine ⟨?_, ?_, ?_, ?_, ?_, ?_, ?_, ?_, ?_⟩ <;> simp only [e1, e2, e3, e4, e5, e6, e7, e8, e9, e10, e11, e12] <;>
    assumption

/-- thread `u` moves to `p'`; a writer's message index may change on arrival at `wPay` / `done` -/
theorem InvHB.setPc (hi : InvHB s) (u : Nat) (p' : Pc) (k' : Nat → Nat) (hk : ∀ v, v ≠ u → k' v = s.k v)
    (hc : u < s.cfg.W → p' ≠ .wPay → p' ≠ .done → (⟨u, k' u⟩ : Msg) ∈ s.know u)
    (hr : u = s.cfg.W → RHB s.cfg.rm s.accepted[s.delivered.length]? (s.know s.cfg.W) p') :
    InvHB { s with pc := upd s.pc u p', k := k' } :=
  { hi with
    curK := fun v hv n1 n2 => by
      dsimp only at n1 n2 ⊢
      by_cases e : v = u
      · subst e; rw [upd_same] at n1 n2; exact hc hv n1 n2
      · rw [upd_other _ _ _ _ e] at n1 n2; rw [hk v e]; exact hi.curK v hv n1 n2
    rd := upd_intro (Q := RHB s.cfg.rm _ (s.know s.cfg.W)) (fun e => hr e.symm) fun _ => hi.rd }

theorem InvHB.wpc (hi : InvHB s) {u : Nat} (hu : u < s.cfg.W) (p' : Pc) (k' : Nat → Nat)
    (hk : ∀ v, v ≠ u → k' v = s.k v)
    (hc : p' ≠ .wPay → p' ≠ .done → (⟨u, k' u⟩ : Msg) ∈ s.know u) :
    InvHB { s with pc := upd s.pc u p', k := k' } :=
  hi.setPc u p' k' hk (fun _ => hc) fun e => absurd e (Nat.ne_of_lt hu)

theorem InvHB.wmove (hi : InvHB s) (ht : t < s.cfg.W) (hc : (⟨t, s.k t⟩ : Msg) ∈ s.know t) (p' : Pc) :
    InvHB { s with pc := upd s.pc t p' } :=
  hi.wpc ht p' s.k (fun _ _ => rfl) fun _ _ => hc

theorem InvHB.rpc (hi : InvHB s) (p' : Pc) (k' : Nat → Nat) (dl : List (Option Msg))
    (hk : ∀ v, v < s.cfg.W → k' v = s.k v)
    (hr : RHB s.cfg.rm s.accepted[dl.length]? (s.know s.cfg.W) p') :
    InvHB { s with pc := upd s.pc s.cfg.W p', k := k', delivered := dl } :=
  { hi with
    curK := fun v hv n1 n2 => by
      dsimp only at n1 n2 ⊢
      rw [upd_other _ _ _ _ (Nat.ne_of_lt hv)] at n1 n2; rw [hk v hv]; exact hi.curK v hv n1 n2
    rd := by dsimp only; rw [upd_same]; exact hr }

/-- every clause of `InvHB` is monotone in the knowledge sets -/
theorem InvHB.learn (hi : InvHB s) (u : Nat) (kn : List Msg) (h : ∀ m ∈ s.know u, m ∈ kn) :
    InvHB { s with know := upd s.know u kn } := by
  have hm : ∀ v m, m ∈ s.know v → m ∈ upd s.know u kn v := fun v _ hm => know_grows h v hm
  exact { hi with
    own := fun m h => hm _ m (hi.own m h)
    curK := fun v hv n1 n2 => hm _ _ (hi.curK v hv n1 n2)
    holdK := fun v hv m h => hm _ m (hi.holdK v hv m h)
    rmK := fun hx v hv m h => hm _ m (hi.rmK hx v hv m h)
    rd := RHB_mono (hm _) hi.rd }

/-- `lock`: the owner field alone; `unlock`: the owner field and a lock word `l` that carries `accepted`;
`acquire` / `release` are these with what the lock word carries -/
theorem InvHB.lock (hi : InvHB s) (u : Nat) (h : ∀ m ∈ s.accepted, m ∈ s.know u) :
    InvHB { s with holder := some u } :=
  { hi with
    holdK := fun v hv => (by cases hv; exact h)
    freeL := fun _ hn => (by cases hn) }

theorem InvHB.unlock (hi : InvHB s) (l : List Msg) (h : s.cfg.wl ≠ .single → ∀ m ∈ s.accepted, m ∈ l) :
    InvHB { s with holder := none, relWL := l } :=
  { hi with
    holdK := fun v hv => (by cases hv)
    freeL := fun hw _ => h hw }

theorem InvHB.acquire (hi : InvHB s) (hw : s.cfg.wl ≠ .single) (hn : s.holder = none) :
    InvHB { s with holder := some t, know := upd s.know t (joinK (s.know t) s.relWL) } :=
  (hi.learn t _ fun _ hm => mem_joinK.2 (Or.inl hm)).lock t
    fun m hm => mem_upd_joinK.2 (Or.inr (hi.freeL hw hn m hm))

theorem InvHB.release (hi : InvHB s) (hh : s.holder = some t) :
    InvHB { s with holder := none, relWL := s.know t } :=
  hi.unlock _ fun _ => hi.holdK t hh

theorem InvHB.rmAcquire (hi : InvHB s) (u : Nat) (hn : s.rmtx = none) :
    InvHB { s with rmtx := some u, know := upd s.know u (joinK (s.know u) s.relRM) } :=
  { hi.learn u _ fun _ hm => mem_joinK.2 (Or.inl hm) with
    rmK := fun hx v hv => (by cases hv; exact fun m hm => mem_upd_joinK.2 (Or.inr (hi.rmFree hx hn m hm)))
    rmFree := fun _ hn => (by cases hn) }

theorem InvHB.rmRelease (hi : InvHB s) (u : Nat) (hh : s.rmtx = some u) :
    InvHB { s with rmtx := none, relRM := s.know u } :=
  { hi with
    rmK := fun _ v hv => (by cases hv)
    rmFree := fun hx _ => hi.rmK hx u hh }

/-- `rel` is what the release store of `write_cursor` carries -/
theorem InvHB.publish (hi : InvHB s) (wpos : Nat) (rel : List Msg) (hh : s.holder = some t)
    (hc : (⟨t, s.k t⟩ : Msg) ∈ s.know t) (hrel : s.cfg.rm ≠ .mutex → rel = s.know t)
    (hrm : s.cfg.rm = .mutex → s.rmtx = some t)
    (hl : RLoc s.cfg.cap s.accepted.length s.delivered.length s.accepted[s.delivered.length]? (s.pc s.cfg.W)) :
    InvHB (publish { s with relWC := rel } t wpos) := by
  have hall : ∀ m ∈ s.accepted ++ [(⟨t, s.k t⟩ : Msg)], m ∈ s.know t := by
    intro m hm
    rcases List.mem_append.1 hm with hm | hm
    · exact hi.holdK t hh m hm
    · rw [List.mem_singleton.1 hm]; exact hc
  exact { hi with
    own := fun m hm => by
      rcases List.mem_append.1 hm with hm | hm
      · exact hi.own m hm
      · rw [List.mem_singleton.1 hm]; exact hc
    holdK := fun v hv => by dsimp only [MgModel.C01.publish] at hv; rw [hh] at hv; cases hv; exact hall
    freeL := fun _ hn => by dsimp only [MgModel.C01.publish] at hn; rw [hh] at hn; cases hn
    relC := fun hx => by dsimp only [MgModel.C01.publish]; rw [hrel hx]; exact hall
    rmK := fun hx v hv => by dsimp only [MgModel.C01.publish] at hv; rw [hrm hx] at hv; cases hv; exact hall
    rmFree := fun hx hn => by dsimp only [MgModel.C01.publish] at hn; rw [hrm hx] at hn; cases hn
    rd := RHB_publish hi.rd hl }

theorem InvHB.finishCall {r : Ret} (hi : InvHB s) (ht : t < s.cfg.W) (hc : (⟨t, s.k t⟩ : Msg) ∈ s.know t) :
    InvHB (finishCall s t r).1 := by
  rw [finishCall_eq]
  refine (hi.wpc ht (fcPc s t r) (upd s.k t (fcK s t r)) (fun v hv => upd_other _ _ _ _ hv) ?_).congr rfl
  intro n1 n2
  rcases fc_next s t r with ⟨-, h | h⟩ | ⟨h, -⟩
  · exact absurd h n1
  · exact absurd h n2
  · rw [upd_same, h]; exact hc

theorem InvHB.afterUnlock {r : Ret} (hi : InvHB s) (ht : t < s.cfg.W) (hc : (⟨t, s.k t⟩ : Msg) ∈ s.know t) :
    InvHB (afterUnlock s t r).1 := by
  unfold MgModel.C01.afterUnlock
  split
  · exact hi.wmove ht hc _
  · exact hi.wmove ht hc _
  · exact hi.finishCall ht hc

theorem InvHB.leaveFn {r : Ret} (hi : InvHB s) (ht : t < s.cfg.W) (hc : (⟨t, s.k t⟩ : Msg) ∈ s.know t) :
    InvHB (leaveFn s t r).1 := by
  unfold MgModel.C01.leaveFn
  split
  next hs => exact (hi.unlock s.relWL fun hw => absurd hs hw).afterUnlock ht hc
  · exact hi.wmove ht hc _

/-- with `WRITE_SINGLE` there is one writer, so every accepted message is its own -/
theorem InvHB.single (hi : InvHB s) (hW : s.cfg.W = 1) (hw : ∀ m ∈ s.accepted, m.w < s.cfg.W) (ht : t < s.cfg.W) :
    ∀ m ∈ s.accepted, m ∈ s.know t := by
  intro m hm
  have e : m.w = t := by have := hw m hm; omega
  rw [← e]; exact hi.own m hm

theorem InvHB.enterCall (hi : InvHB s) (ht : t < s.cfg.W) (hc : (⟨t, s.k t⟩ : Msg) ∈ s.know t)
    (hsg : s.cfg.wl = .single → ∀ m ∈ s.accepted, m ∈ s.know t) : InvHB (enterCall s t) := by
  unfold MgModel.C01.enterCall
  split
  next hs => exact (hi.lock t (hsg hs)).wmove ht hc _
  · exact hi.wmove ht hc _

/-- `rNext`, spelled out as `readReturned` has it -/
theorem RHB_start (rm : RMode) (nxt : Option Msg) (kn : List Msg) (b : Prop) [Decidable b] :
    RHB rm nxt kn (if b then (match rm with | .mutex => .rmLock | _ => .rRdR) else .done) := by
  split
  · cases rm <;> simp [RHB]
  · trivial

theorem Spin.notPay {p p' : Pc} (h : Spin s p p') : p ≠ .wPay := by cases h <;> nofun
theorem Probe.notPay {p p' : Pc} (h : Probe s p p') : p ≠ .wPay := by cases h <;> nofun

theorem WStep.invHB (ht : t < s.cfg.W) (hg : Ready s t) (hI : Inv s) (hE : InvE s) (hi : InvHB s)
    (h : WStep s t s') : InvHB s' := by
  have hsg : s.cfg.wl = .single → ∀ m ∈ s.accepted, m ∈ s.know t :=
    fun hs => hi.single (hI.valid.single hs) (fun m hm => (hE.e1 m hm).1) ht
  -- at `wPay` the writer does not know its current message yet; every other move uses `hc`
  have hc : ∀ {p}, s.pc t = p → p ≠ .wPay → (⟨t, s.k t⟩ : Msg) ∈ s.know t :=
    fun hp hP => hi.curK t ht (hp ▸ hP) hg.alive
  have move : ∀ {p} {s1 : St} (p' : Pc), s.pc t = p → p ≠ .wPay → hbView s1 = hbView { s with pc := upd s.pc t p' } →
      InvHB s1 := fun p' hp hP hv => (hi.wmove ht (hc hp hP) p').congr hv
  cases h with
  | spin hp hl => exact move _ hp hl.notPay rfl
  | probe hp hl => exact move _ hp hl.notPay rfl
  | ldR hp | ldRB hp | slot hp | slotM hp | cache hp | fullM hp => exact move _ hp nofun rfl
  | pay hp =>
    have h1 := hi.learn t (cur s t :: s.know t) fun _ hm => List.mem_cons_of_mem _ hm
    exact h1.enterCall ht (by dsimp only; rw [upd_same]; exact List.mem_cons_self) fun hs =>
      h1.single (hI.valid.single hs) (fun m hm => (hE.e1 m hm).1) ht
  | yield hp => exact hi.enterCall ht (hc hp nofun) hsg
  | acquire hp hq =>
    have hw : s.cfg.wl ≠ .single ∧ s.holder = none := by
      rcases hq with ⟨hx, h0, -⟩ | ⟨hwl, -⟩
      · exact ⟨by rcases hx with hx | hx <;> rw [hx] <;> nofun, hI.lock0 hx h0⟩
      · exact ⟨by rw [hwl]; nofun, hg.wm hp hwl⟩
    exact ((hi.acquire hw.1 hw.2).wpc ht _ _ (fun _ _ => rfl) fun _ _ => mem_upd_joinK.2 (Or.inl (hc hp nofun))).congr rfl
  | full hp | fullB hp => exact InvHB.leaveFn (hi.congr rfl) ht (hc hp nofun)  -- `fulls` is not in `hbView`
  | @publish wpos hp =>
    have hw := hI.wloc_at ht hp rfl
    exact InvHB.leaveFn (hi.publish wpos _ (hI.holds ht hp rfl) (hc hp nofun) (fun _ => rfl) (fun hx => absurd hx hw.2.2.2.2) hI.rloc) ht
      (hc hp nofun)
  | @publishM wpos hp =>
    have hw := hI.wloc_at ht hp rfl
    exact (hi.publish wpos s.relWC (hI.holds ht hp rfl) (hc hp nofun) (fun hx => absurd hw.1 hx)
      (fun _ => hI.owns (Nat.le_of_lt ht) hp rfl) hI.rloc).wpc ht _ _ (fun _ _ => rfl) fun _ _ => hc hp nofun
  | rmLock hp =>
    exact (hi.rmAcquire t (hg.rm _ hp (.inl rfl))).wpc ht _ _ (fun _ _ => rfl) fun _ _ => mem_upd_joinK.2 (Or.inl (hc hp nofun))
  | rmUnlock hp => exact InvHB.leaveFn (hi.rmRelease t (hI.owns (Nat.le_of_lt ht) hp rfl)) ht (hc hp nofun)
  | unlock hp _ => exact InvHB.afterUnlock ((hi.release (hI.holds ht hp rfl)).congr rfl) ht (hc hp nofun)
  | unlockSync hp _ => exact ((hi.release (hI.holds ht hp rfl)).wmove ht (hc hp nofun) _).congr rfl
  | @handOver r w hp hlt _ hb =>
    exact InvHB.afterUnlock (hi.wpc hlt _ _ (fun _ _ => rfl) fun _ _ => hi.curK w hlt (by simp [hb]) (by simp [hb]))
      ht (hc hp nofun)
  | noWaiter hp _ => exact InvHB.afterUnlock hi ht (hc hp nofun)
  | wake hp hq =>
    -- the woken reader stays in its loop
    refine InvHB.finishCall (hi.rpc _ _ _ (fun _ _ => rfl) ?_) ht (hc hp nofun)
    obtain ⟨_, ⟨hrm, -, rfl⟩ | ⟨hrm, -, rfl⟩⟩ := hq
    · show s.cfg.rm ≠ .mutex
      rw [hrm]; nofun
    · exact hrm
  | noSleeper hp _ => exact InvHB.finishCall hi ht (hc hp nofun)

theorem RStep.invHB (hg : Ready s s.cfg.W) (hI : Inv s) (hi : InvHB s) (h : RStep s s.cfg.W s') : InvHB s' := by
  have hrd := hi.rd
  have hl := hI.rloc
  have move : ∀ {s1 : St} (p' : Pc), hbView s1 = hbView { s with pc := upd s.pc s.cfg.W p' } →
      RHB s.cfg.rm s.accepted[s.delivered.length]? (s.know s.cfg.W) p' → InvHB s1 :=
    fun p' hv hr => (hi.rpc p' s.k s.delivered (fun _ _ => rfl) hr).congr hv
  cases h with
  | look hp hl' =>
    -- no `Look` leaves the class of pcs of which `RHB` says the same
    rw [hp] at hrd; cases hl' <;> exact move _ rfl hrd
  | ldW hp hq =>
    -- the acquire load joins what the release store of `write_cursor` carried: every accepted message
    rw [hp] at hrd
    have h1 := hi.learn s.cfg.W (joinK (s.know s.cfg.W) s.relWC) fun _ hm => mem_joinK.2 (Or.inl hm)
    rcases hq with ⟨-, rfl⟩ | ⟨-, ⟨-, rfl⟩ | ⟨-, rfl⟩⟩
    · exact h1.rpc _ _ _ (fun _ _ => rfl) fun m hm =>
        mem_upd_joinK.2 (Or.inr (hi.relC hrd m (List.mem_of_getElem? hm)))
    · exact h1.rpc _ _ _ (fun _ _ => rfl) hrd
    · exact h1.rpc _ _ _ (fun _ _ => rfl) hrd
  | @consume rpos d hp =>
    rw [hp] at hrd hl
    cases d <;> simp only [readReturned]
    · exact (hi.rpc _ _ _ (fun v hv => upd_other _ _ _ _ (Nat.ne_of_lt hv)) (RHB_start _ _ _ _)).congr rfl
    · exact (hi.rpc (.rPay _) s.k _ (fun _ _ => rfl) (hrd _ hl.2.2.symm)).congr rfl
  | @pay m hp =>
    rw [hp] at hrd
    rw [if_pos (show m ∈ s.know s.cfg.W from hrd)]
    exact (hi.rpc _ _ _ (fun v hv => upd_other _ _ _ _ (Nat.ne_of_lt hv)) (RHB_start _ _ _ _)).congr rfl
  | rmLock hp hq =>
    rw [hp] at hrd
    exact (hi.rmAcquire _ (hg.rm _ hp (.inr hq))).rpc _ _ _ (fun _ _ => rfl) (by rcases hq with rfl | rfl | rfl <;> exact hrd)
  | cvWait hp =>
    rw [hp] at hrd
    exact (hi.rmRelease _ (hI.owns (Nat.le_refl _) hp rfl)).rpc _ _ _ (fun _ _ => rfl) hrd
  | @consumeM rpos d hp =>
    rw [hp] at hrd hl
    exact (hi.rpc (.rmUnlock d) s.k _ (fun _ _ => rfl) fun m hm =>
      hi.rmK hrd _ (hI.owns (Nat.le_refl _) hp rfl) m (List.mem_of_getElem? (hl.2.2.symm.trans hm))).congr rfl
  | @rmUnlock d hp =>
    rw [hp] at hrd
    have hr := hi.rmRelease _ (hI.owns (Nat.le_refl _) hp rfl)
    cases d <;> simp only [readReturned]
    · exact hr.rpc _ _ _ (fun v hv => upd_other _ _ _ _ (Nat.ne_of_lt hv)) (RHB_start _ _ _ _)
    · exact hr.rpc (.rPay _) _ _ (fun _ _ => rfl) (hrd _ rfl)

theorem spur_invHB {s : St} {t : Nat} {q : Pc} (hi : InvHB s)
    (hq : (∃ rpos, s.pc t = .rBlocked rpos ∧ q = .rLdW rpos) ∨ (s.pc t = .wBlocked ∧ q = .wLock)) :
    InvHB { s with pc := upd s.pc t q } :=
  hi.setPc t q s.k (fun _ _ => rfl)
    (fun ht _ _ => hi.curK t ht (by rcases hq with ⟨_, hp, -⟩ | ⟨hp, -⟩ <;> rw [hp] <;> exact Pc.noConfusion)
      (by rcases hq with ⟨_, hp, -⟩ | ⟨hp, -⟩ <;> rw [hp] <;> exact Pc.noConfusion))
    fun e => by
      have h := hi.rd
      rcases hq with ⟨rpos, hp, rfl⟩ | ⟨hp, rfl⟩
      · rw [← e, hp] at h; exact h
      · trivial

theorem Step.invHB {s s' : St} (hI : Inv s) (hE : InvE s) (hi : InvHB s) (h : Step s s') : InvHB s' := by
  cases h with
  | spur _ hq => exact spur_invHB hi hq
  | w ht hg h => exact h.invHB ht hg hI hE hi
  | r hg h => exact h.invHB hg hI hi

theorem step_invHB {s s' : St} {tok : Tok} {ev : List String} (hI : Inv s) (hE : InvE s) (hi : InvHB s)
    (h : step s tok = some (s', ev)) : InvHB s' :=
  (step_sound h).invHB hI hE hi

theorem init_invHB (c : Cfg) : InvHB (mkInit c) := by
  refine ⟨nofun, fun t ht h1 h2 => ?_, nofun, fun _ _ => nofun, fun _ => nofun, fun _ => nofun, fun _ _ => nofun, ?_, rfl⟩
  · exact ((init_pc c).1 t ht).elim (absurd · h2) (absurd · h1)
  · show RHB c.rm _ _ ((mkInit c).pc c.W)
    rcases (init_pc c).2 with h | ⟨h, hm⟩ | ⟨h, hm⟩ <;> rw [h]
    · trivial
    · exact hm
    · exact hm

/-- `step_invHB` needs `Inv` and `InvE` of the same state -/
theorem reach_all (c : Cfg) (hv : Valid c) (s : St) (hr : Reach step (mkInit c) s) :
    Inv s ∧ InvE s ∧ InvHB s :=
  ⟨reach_inv c hv s hr, reach_invE c s hr,
    Reach.inv_of (P := fun s => Inv s ∧ InvE s) (fun s hr => ⟨reach_inv c hv s hr, reach_invE c s hr⟩) (init_invHB c)
      (fun _ _ _ _ hP hQ h => step_invHB hP.1 hP.2 hQ h) s hr⟩

end MgProof.C01
