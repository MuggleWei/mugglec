import MgProof.C01.InvR
/-!
# C01 — channel: exactly-once acceptance, per-writer order, success ⇔ accepted

`InvE`: every accepted message belongs to a real writer and is either one of its earlier
messages or its current one whose call has passed the publication (`e1`); `accepted` is strictly
increasing per writer, hence duplicate free (`e2`); `write=ok` was only ever reported for accepted
messages (`e3`); a call that has published will find its message in `accepted` (`e4`); an accepted
message has its ok-note or is still in flight (`e5`).
-/
namespace MgProof.C01
open MgModel.Conc MgModel.C01

structure InvE (s : St) : Prop where
  e1 : ∀ m ∈ s.accepted, m.w < s.cfg.W ∧
    (m.k < s.k m.w ∨ (m.k = s.k m.w ∧ published (s.pc m.w) = true))
  e2 : s.accepted.Pairwise (fun a b => a.w = b.w → a.k < b.k)
  e3 : ∀ m ∈ s.okNotes, m ∈ s.accepted
  e4 : ∀ t, t < s.cfg.W → published (s.pc t) = true → (⟨t, s.k t⟩ : Msg) ∈ s.accepted
  e5 : ∀ m ∈ s.accepted, m ∈ s.okNotes ∨ (m.k = s.k m.w ∧ published (s.pc m.w) = true)

/-! `InvE` reads the state through `eView` only; a `WStep` is `pcs`, `publish`, `exit` or two of them in a row. -/

def eView (s : St) := (s.cfg, s.pc, s.k, s.accepted, s.okNotes)

variable {s s' : St} {t : Nat}

theorem InvE.congr (hi : InvE s) (h : eView s' = eView s) : InvE s' := by
  simp only [eView, Prod.mk.injEq] at h
  obtain ⟨e1, e2, e3, e4, e5⟩ := h
  obtain ⟨o1, o2, o3, o4, o5⟩ := hi
  refine ⟨?_, ?_, ?_, ?_, ?_⟩ <;> simp only [e1, e2, e3, e4, e5] <;> assumption

theorem published_upd {pc : Nat → Pc} {p' : Pc} (h : published p' = published (pc t)) (u : Nat) :
    published (upd pc t p' u) = published (pc u) :=
  upd_forall (P := fun u p => published p = published (pc u)) (fun _ _ => rfl) h u

theorem InvE.pcs (hi : InvE s) (pc' : Nat → Pc) (h : ∀ u, u < s.cfg.W → published (pc' u) = published (s.pc u)) :
    InvE { s with pc := pc' } := by
  obtain ⟨e1, e2, e3, e4, e5⟩ := hi
  refine ⟨fun m hm => ⟨(e1 m hm).1, ?_⟩, e2, e3, fun u hu hp => e4 u hu ?_, fun m hm => ?_⟩ <;> dsimp only at *
  · rw [h _ (e1 m hm).1]; exact (e1 m hm).2
  · rw [← h u hu]; exact hp
  · rw [h _ (e1 m hm).1]; exact e5 m hm

theorem InvE.publish (hi : InvE s) (ht : t < s.cfg.W) {p0 : Pc} (hp : s.pc t = p0) (p' : Pc)
    (h0 : published p0 = false) (h1 : published p' = true) : InvE { s with accepted := s.accepted ++ [⟨t, s.k t⟩], pc := upd s.pc t p' } := by
  subst hp
  obtain ⟨e1, e2, e3, e4, e5⟩ := hi
  -- the earlier messages of `t` have smaller indices: its current one is not in `accepted` yet
  have fresh : ∀ a ∈ s.accepted, a.w = t → a.k < s.k t := by
    intro a ha hw
    rcases (e1 a ha).2 with h | ⟨_, h⟩
    · rw [← hw]; exact h
    · rw [hw, h0] at h; cases h
  have old : ∀ m ∈ s.accepted, m.w ≠ t → upd s.pc t p' m.w = s.pc m.w := fun m _ hw => upd_other _ _ _ _ hw
  refine ⟨?_, ?_, fun m hm => List.mem_append_left _ (e3 m hm), ?_, ?_⟩ <;> dsimp only
  · intro m hm
    rcases List.mem_append.1 hm with hm | hm
    · refine ⟨(e1 m hm).1, ?_⟩
      by_cases hw : m.w = t
      · rw [hw]; exact Or.inl (fresh m hm hw)
      · rw [old m hm hw]; exact (e1 m hm).2
    · rw [List.mem_singleton.1 hm]; exact ⟨ht, Or.inr ⟨rfl, by dsimp only; rw [upd_same]; exact h1⟩⟩
  · exact List.pairwise_concat e2 fresh
  · intro u hu hp
    by_cases hw : u = t
    · subst hw; exact List.mem_append_right _ (List.mem_singleton.2 rfl)
    · rw [upd_other _ _ _ _ hw] at hp; exact List.mem_append_left _ (e4 u hu hp)
  · intro m hm
    rcases List.mem_append.1 hm with hm | hm
    · by_cases hw : m.w = t
      · rcases e5 m hm with h | ⟨_, h⟩
        · exact Or.inl h
        · rw [hw, h0] at h; cases h
      · rw [old m hm hw]; exact e5 m hm
    · rw [List.mem_singleton.1 hm]; exact Or.inr ⟨rfl, by dsimp only; rw [upd_same]; exact h1⟩

/-- the exit helpers are reached at `wUnlock r`, `wUnlockWake r`, `wWake` (callers first move the pc to `wUnlock r`;
`publish` through `InvE.publish`): there "has published" and `r = ok` coincide (`hpub`) -/
theorem InvE.exit (hi : InvE s) (ht : t < s.cfg.W) {k' : Nat} {p' : Pc} {ok' : List Msg} {r : Ret}
    {p0 : Pc} (hp : s.pc t = p0) (hs : ExitSpec s t k' p' ok' r) (hpub : published p0 = (r == .ok)) :
    InvE { s with pc := upd s.pc t p', k := upd s.k t k', okNotes := ok' } := by
  subst hp
  rcases hs with ⟨rfl, hp, rfl⟩ | ⟨rfl, rfl, hp⟩
  · have hp' : published p' = false := by rcases hp with h | h <;> rw [h] <;> rfl
    obtain ⟨e1, e2, e3, e4, e5⟩ := hi
    have old : ∀ u, u ≠ t → upd s.pc t p' u = s.pc u ∧ upd s.k t (s.k t + 1) u = s.k u :=
      fun u hu => ⟨upd_other _ _ _ _ hu, upd_other _ _ _ _ hu⟩
    have hsub : ∀ m ∈ s.okNotes, m ∈ (if r = .ok then s.okNotes ++ [cur s t] else s.okNotes) := by
      intro m hm; split
      · exact List.mem_append_left _ hm
      · exact hm
    refine ⟨fun m hm => ⟨(e1 m hm).1, ?_⟩, e2, ?_, ?_, ?_⟩ <;> dsimp only
    · by_cases hw : m.w = t
      · rw [hw, upd_same]; left
        have := (e1 m hm).2; rw [hw] at this
        rcases this with h | ⟨h, _⟩ <;> omega
      · rw [(old _ hw).1, (old _ hw).2]; exact (e1 m hm).2
    · intro m hm
      split at hm
      next hr =>
        rcases List.mem_append.1 hm with hm | hm
        · exact e3 m hm
        · rw [List.mem_singleton.1 hm]; exact e4 t ht (by rw [hpub, hr]; rfl)
      · exact e3 m hm
    · intro u hu hpu
      by_cases hw : u = t
      · subst hw; rw [upd_same, hp'] at hpu; cases hpu
      · rw [(old _ hw).1] at hpu; rw [(old _ hw).2]; exact e4 u hu hpu
    · intro m hm
      by_cases hw : m.w = t
      · left
        rcases e5 m hm with h | ⟨hk, hpm⟩
        · exact hsub m h
        · rw [hw, hpub] at hpm
          have hr : r = .ok := by cases r <;> first | rfl | cases hpm
          rw [if_pos hr]
          refine List.mem_append_right _ (List.mem_singleton.2 ?_)
          cases m; simp only [cur] at hw hk ⊢; rw [hw] at hk; rw [hw, hk]
      · rw [(old _ hw).1, (old _ hw).2]
        exact (e5 m hm).imp (hsub m) id
  · have hp' : published p' = published (s.pc t) := by
      rw [hpub]
      rcases hp with ⟨h, rfl⟩ | ⟨h, rfl⟩ | h <;> rw [h]
      · rfl
      · rfl
      · cases r <;> rfl
    rw [upd_self]
    exact (hi.pcs _ fun u _ => published_upd hp' u).congr rfl

variable {r : Ret} {p0 : Pc}

theorem InvE.finishCall (hi : InvE s) (ht : t < s.cfg.W) (hp : s.pc t = p0) (hpub : published p0 = (r == .ok)) :
    InvE (finishCall s t r).1 := by
  rw [finishCall_eq]; exact (hi.exit ht hp (fc_spec s t r) hpub).congr rfl

theorem InvE.afterUnlock (hi : InvE s) (ht : t < s.cfg.W) (hp : s.pc t = p0) (hpub : published p0 = (r == .ok)) :
    InvE (afterUnlock s t r).1 := by
  rw [afterUnlock_eq]; exact (hi.exit ht hp (au_spec s t r) hpub).congr rfl

/-- as `Inv.leaveFn` -/
theorem InvE.leaveFn (ht : t < s.cfg.W) (hi : InvE { s with pc := upd s.pc t (.wUnlock r) }) :
    InvE (leaveFn s t r).1 := by
  rw [leaveFn_eq, ← upd_upd (α := Pc) s.pc t (.wUnlock r)]
  exact (hi.exit ht (upd_same _ _ _) (lf_spec s t r) (by cases r <;> rfl)).congr rfl

theorem Spin.pub {p p' : Pc} (h : Spin s p p') : published p' = published p := by cases h <;> rfl
theorem Probe.pub {p p' : Pc} (h : Probe s p p') : published p' = published p := by cases h <;> rfl

theorem WStep.invE (ht : t < s.cfg.W) (hi : InvE s) (h : WStep s t s') : InvE s' := by
  have move : ∀ {p0 : Pc} {s1 : St}, s.pc t = p0 → ∀ p', eView s1 = eView { s with pc := upd s.pc t p' } →
      published p' = published p0 → InvE s1 :=
    fun hp0 p' hv hp => (hi.pcs _ fun u _ => published_upd (hp.trans (congrArg published hp0.symm)) u).congr hv
  have enter : ∀ {s1 : St}, eView s1 = eView s → published (s.pc t) = false → InvE (enterCall s1 t) :=
    fun {s1} hv hp => by
      rw [enterCall_eq]
      refine ((hi.congr hv).pcs _ fun u _ => published_upd ?_ u).congr rfl
      simp only [eView, Prod.mk.injEq] at hv
      rw [hv.2.1, hp]
      split
      · exact entryFn_pub _
      · rfl
  cases h with
  | spin hp hl => exact move hp _ rfl hl.pub
  | probe hp hl => exact move hp _ rfl hl.pub
  | ldR hp | ldRB hp => exact move hp _ rfl rfl
  | pay hp => exact enter rfl (by rw [hp]; rfl)
  | yield hp => exact enter rfl (by rw [hp]; rfl)
  | acquire hp _ => exact move hp _ rfl (entryFn_pub _)
  | slot hp | slotM hp => exact move hp _ rfl rfl
  | cache hp => exact move hp _ rfl rfl
  | full hp | fullB hp => exact InvE.leaveFn ht (move hp _ rfl rfl)  -- `fulls` is not in `eView`
  | fullM hp => exact move hp _ rfl rfl
  | publish hp => exact InvE.leaveFn ht ((hi.publish ht hp (.wUnlock .ok) rfl rfl).congr rfl)
  | publishM hp => exact (hi.publish ht hp _ rfl rfl).congr rfl
  | rmLock hp => exact move hp _ rfl rfl
  | @rmUnlock r hp => exact InvE.leaveFn ht (move hp _ rfl (by cases r <;> rfl))
  | @unlock r _ hp _ => exact InvE.afterUnlock (hi.congr rfl) ht hp (by cases r <;> rfl)
  | @unlockSync r hp _ => exact move hp _ rfl (by cases r <;> rfl)
  | @handOver r w hp _ hne hb =>
    -- the woken writer was parked: not published
    exact InvE.afterUnlock (hi.pcs _ fun u _ => published_upd (t := w) (by rw [hb]; rfl) u) ht
      ((upd_other _ _ _ _ hne.symm).trans hp) (by cases r <;> rfl)
  | @noWaiter r hp _ => exact hi.afterUnlock ht hp (by cases r <;> rfl)
  | wake hp _ =>
    exact InvE.finishCall (hi.pcs _ fun u hu => by rw [upd_other _ _ _ _ (Nat.ne_of_lt hu)]) ht
      ((upd_other _ _ _ _ (Nat.ne_of_lt ht)).trans hp) rfl
  | noSleeper hp _ => exact hi.finishCall ht hp rfl

/-- the reader touches nothing of what `InvE` reads -/
theorem RStep.invE (hi : InvE s) (h : RStep s s.cfg.W s') : InvE s' := by
  obtain ⟨hc, ha, ho, hf⟩ := h.frame
  obtain ⟨e1, e2, e3, e4, e5⟩ := hi
  refine ⟨?_, by rw [ha]; exact e2, by rw [ha, ho]; exact e3, ?_, ?_⟩
  · intro m hm; rw [ha] at hm
    have := e1 m hm
    have hne : m.w ≠ s.cfg.W := Nat.ne_of_lt this.1
    rw [hc, (hf _ hne).1, (hf _ hne).2]; exact this
  · intro t ht hp
    rw [hc] at ht
    have hne : t ≠ s.cfg.W := Nat.ne_of_lt ht
    rw [(hf _ hne).2] at hp
    rw [ha, (hf _ hne).1]; exact e4 t ht hp
  · intro m hm; rw [ha] at hm
    have hne : m.w ≠ s.cfg.W := Nat.ne_of_lt (e1 m hm).1
    rw [ho, (hf _ hne).1, (hf _ hne).2]; exact e5 m hm

/-- the interrupted futex wait touches nothing `InvE` mentions (a parked thread has not published) -/
theorem spur_invE {s : St} {t : Nat} {q : Pc} (hi : InvE s)
    (hq : (∃ rpos, s.pc t = .rBlocked rpos ∧ q = .rLdW rpos) ∨ (s.pc t = .wBlocked ∧ q = .wLock)) :
    InvE { s with pc := upd s.pc t q } :=
  hi.pcs _ fun u _ => published_upd (by rcases hq with ⟨rpos, h1, rfl⟩ | ⟨h1, rfl⟩ <;> rw [h1] <;> rfl) u

theorem Step.invE {s s' : St} (hi : InvE s) (h : Step s s') : InvE s' := by
  cases h with
  | spur _ hq => exact spur_invE hi hq
  | w ht _ h => exact h.invE ht hi
  | r _ h => exact h.invE hi

theorem step_invE {s s' : St} {tok : Tok} {ev : List String} (hi : InvE s)
    (h : step s tok = some (s', ev)) : InvE s' :=
  (step_sound h).invE hi

theorem init_invE (c : Cfg) : InvE (mkInit c) := by
  refine ⟨nofun, List.Pairwise.nil, nofun, fun t ht hp => ?_, nofun⟩
  rcases (init_pc c).1 t ht with h | h <;> rw [h] at hp <;> cases hp

theorem reach_invE (c : Cfg) (s : St) (hr : Reach step (mkInit c) s) : InvE s :=
  Reach.inv InvE (init_invE c) (fun _ _ _ _ hi h => step_invE hi h) s hr

end MgProof.C01
