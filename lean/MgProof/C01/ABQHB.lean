import MgProof.C01.ABQInv
/-!
# C01 — array blocking queue: the hand-over is a happens-before edge (through the mutex)

`invK_iff` is how `Step.invK` reads and rebuilds `InvK` (`cTake` also reads its field `free`): each thread knows
what its pc implies (`Knows`), the puts are handed over through the mutex (`Monitor.Handed`), no payload was read
without being known.
-/
namespace MgProof.C01.ABQ
open MgModel.Conc MgModel.C01.ABQ
open MgModel.C01 (Msg joinK)

/-- what a consumer knows about the message it holds -/
def CHB (kn : List Msg) : Pc → Prop
  | .cSignal d => ∀ m, d = some m → m ∈ kn
  | .cUnlock d => ∀ m, d = some m → m ∈ kn
  | .cPay m => m ∈ kn
  | _ => True

structure InvK (s : St) : Prop where
  curK : ∀ t, t < s.cfg.P + s.cfg.C → s.pc t ≠ .pPay → s.pc t ≠ .done →
    (∀ m, s.pc t ≠ .cPay m) → (∀ d, s.pc t ≠ .cSignal d) → (∀ d, s.pc t ≠ .cUnlock d) →
    s.pc t ≠ .cLock → s.pc t ≠ .cCvWait → s.pc t ≠ .cCvBlocked → s.pc t ≠ .cCvSignaled →
    (⟨t, s.k t⟩ : Msg) ∈ s.know t
  free : s.mtx = none → ∀ m ∈ s.puts, m ∈ s.relM
  held : ∀ t, s.mtx = some t → ∀ m ∈ s.puts, m ∈ s.know t
  cons : ∀ t, t < s.cfg.P + s.cfg.C → CHB (s.know t) (s.pc t)
  viol : s.hbViol = 0

/-- pcs of a producer after it wrote the payload of its current message -/
def wrote : Pc → Bool
  | .pLock | .pCvWait | .pCvBlocked | .pCvSignaled | .pSignal | .pUnlock => true
  | _ => false

def Knows (me : Msg) (kn : List Msg) (p : Pc) : Prop := (wrote p = true → me ∈ kn) ∧ CHB kn p

theorem wrote_of_ne {p : Pc} (h1 : p ≠ .pPay) (h2 : p ≠ .done) (h3 : ∀ m, p ≠ .cPay m)
    (h4 : ∀ d, p ≠ .cSignal d) (h5 : ∀ d, p ≠ .cUnlock d) (h6 : p ≠ .cLock) (h7 : p ≠ .cCvWait)
    (h8 : p ≠ .cCvBlocked) (h9 : p ≠ .cCvSignaled) : wrote p = true := by
  cases p
  case pPay => exact absurd rfl h1
  case done => exact absurd rfl h2
  case cPay m => exact absurd rfl (h3 m)
  case cSignal d => exact absurd rfl (h4 d)
  case cUnlock d => exact absurd rfl (h5 d)
  case cLock => exact absurd rfl h6
  case cCvWait => exact absurd rfl h7
  case cCvBlocked => exact absurd rfl h8
  case cCvSignaled => exact absurd rfl h9
  all_goals rfl

theorem invK_iff {s : St} : InvK s ↔
    (∀ t, t < s.cfg.P + s.cfg.C → Knows ⟨t, s.k t⟩ (s.know t) (s.pc t)) ∧
    Monitor.Handed s.mtx s.know s.relM s.puts ∧ s.hbViol = 0 := by
  constructor
  · intro ⟨k1, k2, k3, k4, k5⟩
    refine ⟨fun t ht => ⟨fun hw => ?_, k4 t ht⟩, ⟨k2, k3⟩, k5⟩
    apply k1 t ht <;> intros <;> intro e <;> rw [e] at hw <;> cases hw
  · intro ⟨k, ⟨k2, k3⟩, k5⟩
    exact ⟨fun t ht h1 h2 h3 h4 h5 h6 h7 h8 h9 => (k t ht).1 (wrote_of_ne h1 h2 h3 h4 h5 h6 h7 h8 h9), k2, k3,
      fun t ht => (k t ht).2, k5⟩

variable {s s' : St} {tok : Tok} {ev : List String} {t : Nat}

theorem Knows.prod {me : Msg} {kn kn' : List Msg} {p q : Pc} (h : Knows me kn p) (hp : wrote p = true)
    (hs : ∀ m ∈ kn, m ∈ kn') (hq : CHB kn' q) : Knows me kn' q :=
  ⟨fun _ => hs _ (h.1 hp), hq⟩

theorem WantsP.wrote {p : Pc} (h : WantsP p) : wrote p = true := by
  rcases h with e | e | e <;> rw [e] <;> rfl

theorem knows_idle {me : Msg} {kn : List Msg} {q : Pc} (hw : wrote q = false) (hq : CHB kn q) :
    Knows me kn q :=
  ⟨fun e => Bool.noConfusion (hw.symm.trans e), hq⟩

theorem knows_start {me : Msg} {kn : List Msg} {q : Pc} (h : Idle q) :
    Knows me kn q := by
  rcases h with e | e | e <;> rw [e] <;> exact knows_idle rfl trivial

open Monitor in
theorem Step.invK (hi : Inv s) (hk : InvK s) (ht : t < s.cfg.P + s.cfg.C) (h : Step s t s') : InvK s' := by
  obtain ⟨kn, hd, hv⟩ := invK_iff.1 hk
  have me := kn t ht
  have mine := holder_of_inside hi.own ht
  have sub : ∀ m ∈ s.know t, m ∈ joinK (s.know t) s.relM := fun m hm => mem_joinK.2 (.inl hm)
  -- acquiring and releasing hand the puts over; the put itself adds a known message
  have hd' : Handed s'.mtx s'.know s'.relM s'.puts := by
    cases h
    case pPay => exact hd.learn
    case pFull _ hm _ | cEmpty _ hm _ | cTake _ hm _ => rw [hm] at hd; exact hd.acquire
    case pPut hpc hm _ => rw [hm] at hd; exact hd.put (me.1 hpc.wrote)
    case pWait hpc | pUnlock hpc | cWait hpc | cUnlock _ hpc | cUnlockBad hpc =>
      rw [mine (by rw [hpc]; rfl)] at hd; exact hd.release
    all_goals exact hd
  have hv' : s'.hbViol = 0 := by
    cases h
    case cPay m hpc =>
      have : m ∈ s.know t := by rw [hpc] at me; exact me.2
      show s.hbViol + (if m ∈ s.know t then 0 else 1) = 0
      rw [if_pos this, hv]
    all_goals exact hv
  refine invK_iff.2 ⟨fun u hu => ?_, hd', hv'⟩
  by_cases e : u = t
  case neg =>
    obtain ⟨f1, f2, f3⟩ := h.frame e
    have old := kn u (by rw [← h.cfg_eq]; exact hu)
    rw [f1, f2]
    rcases f3 with f3 | ⟨f3, f4⟩ | ⟨f3, f4⟩
    · rw [f3]; exact old
    · rw [f4]; exact knows_idle rfl trivial
    · rw [f3] at old; rw [f4]; exact old.prod rfl (fun _ h => h) trivial
  rw [e]
  cases h <;> simp only [upd_same]
  case pPay => exact ⟨fun _ => List.mem_cons_self, trivial⟩
  case pFull hpc _ _ | pPut hpc _ _ =>
    exact me.prod hpc.wrote sub trivial
  case pWait hpc | pWake hpc _ _ _ | pNoWake hpc _ =>
    rw [hpc] at me; exact me.prod rfl (fun _ h => h) trivial
  case pUnlock => exact knows_start (nextP_idle s t)
  case cUnlockBad | cPay => exact knows_start (nextC_idle s t)
  case cEmpty | cWait => exact knows_idle rfl trivial
  case cWake hpc _ _ _ | cNoWake hpc _ => rw [hpc] at me; exact knows_idle rfl me.2
  case cUnlock m hpc => rw [hpc] at me; exact knows_idle rfl (me.2 m rfl)
  case cTake _ hm hc =>
    -- the dequeued slot holds `puts[|taken|]`, which the last release handed over
    refine knows_idle rfl fun m hd => mem_joinK.2 (.inr (hk.free hm m ?_))
    have hlt : s.taken.length < s.puts.length := by have := hi.count; omega
    rw [hi.takeI, hi.slots _ (Nat.le_refl _) hlt] at hd
    exact List.mem_of_getElem? hd

theorem stepK (hi : Inv s) (hk : InvK s) (h : step s tok = some (s', ev)) : InvK s' :=
  (step_sound h).2.invK hi hk (step_sound h).1

theorem initK (c : Cfg) : InvK (mkInit c) := by
  refine invK_iff.2 ⟨fun t _ => ?_, ⟨fun _ _ h => (nomatch h), nofun⟩, rfl⟩
  exact knows_start (mkInit_idle c t)

theorem reachK (c : Cfg) (hc : 0 < c.cap) (s : St) (hr : Reach step (mkInit c) s) : Inv s ∧ InvK s :=
  Reach.inv (fun s => Inv s ∧ InvK s) ⟨init_inv c hc, initK c⟩
    (fun _ _ _ _ hi h => ⟨step_inv hi.1 h, stepK hi.1 hi.2 h⟩) s hr

end MgProof.C01.ABQ
