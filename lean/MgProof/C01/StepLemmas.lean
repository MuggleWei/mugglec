import MgProof.C01.Lemmas
/-!
# C01 — channel: the helper functions of the step model

`enterCall`, `leaveFn`, `afterUnlock`, `finishCall`, `readReturned` only touch the acting thread's pc,
message index and attempt counter, the note counters and (for `WRITE_SINGLE`) the ghost lock owner: one
equation per helper; then where the thread ends up, in two forms: the pcs alone (`…Pc_cases`), for an invariant
that reads a pc through a class, and `ExitSpec`, which ties them to the message index and the ok-notes, for `InvE`.
The equations are for `rw`: the fields they do not spell out (`att`, the note counters, the reader's `k`) stand on the right
as the helper's own, so `simp` loops on them.
-/
namespace MgProof.C01
open MgModel.Conc MgModel.C01

/-- the write call of the thread's current message has published it -/
def published : Pc → Bool
  | .mUnlock .ok | .wUnlock .ok | .wUnlockWake .ok | .wWake => true
  | _ => false

def fcPc (s : St) (t : Nat) (r : Ret) : Pc := (finishCall s t r).1.pc t
def fcK (s : St) (t : Nat) (r : Ret) : Nat := (finishCall s t r).1.k t
def auPc (s : St) (t : Nat) (r : Ret) : Pc := (afterUnlock s t r).1.pc t
def auK (s : St) (t : Nat) (r : Ret) : Nat := (afterUnlock s t r).1.k t
def lfPc (s : St) (t : Nat) (r : Ret) : Pc := (leaveFn s t r).1.pc t
def lfK (s : St) (t : Nat) (r : Ret) : Nat := (leaveFn s t r).1.k t
def rrPc (s : St) (t : Nat) (d : Option Msg) : Pc := (readReturned s t d).1.pc t

theorem finishCall_eq (s : St) (t : Nat) (r : Ret) :
    (finishCall s t r).1 =
      { s with pc := upd s.pc t (fcPc s t r), k := upd s.k t (fcK s t r), att := (finishCall s t r).1.att,
               okNotes := (finishCall s t r).1.okNotes, fullNotes := (finishCall s t r).1.fullNotes } := by
  unfold fcPc fcK finishCall
  cases r <;> simp only <;> (try split) <;> simp only [upd_same, upd_self]

theorem afterUnlock_eq (s : St) (t : Nat) (r : Ret) :
    (afterUnlock s t r).1 =
      { s with pc := upd s.pc t (auPc s t r), k := upd s.k t (auK s t r), att := (afterUnlock s t r).1.att,
               okNotes := (afterUnlock s t r).1.okNotes, fullNotes := (afterUnlock s t r).1.fullNotes } := by
  unfold auPc auK afterUnlock
  split
  · simp only [upd_same, upd_self]
  · simp only [upd_same, upd_self]
  · exact finishCall_eq s t _

theorem leaveFn_eq (s : St) (t : Nat) (r : Ret) :
    (leaveFn s t r).1 =
      { s with holder := if s.cfg.wl = .single then none else s.holder,
               pc := upd s.pc t (lfPc s t r), k := upd s.k t (lfK s t r), att := (leaveFn s t r).1.att,
               okNotes := (leaveFn s t r).1.okNotes, fullNotes := (leaveFn s t r).1.fullNotes } := by
  unfold lfPc lfK leaveFn
  split
  next h => rw [if_pos h]; exact afterUnlock_eq { s with holder := none } t r
  next h => rw [if_neg h]; simp only [upd_same, upd_self]

theorem enterCall_eq (s : St) (t : Nat) :
    enterCall s t =
      { s with holder := if s.cfg.wl = .single then some t else s.holder,
               pc := upd s.pc t (if s.cfg.wl = .single then entryFn s.cfg.rm else .wLock) } := by
  unfold enterCall
  split
  next h => rw [if_pos h, if_pos h]
  next h => rw [if_neg h, if_neg h]

theorem readReturned_eq (s : St) (t : Nat) (d : Option Msg) :
    (readReturned s t d).1 = { s with pc := upd s.pc t (rrPc s t d), k := (readReturned s t d).1.k } := by
  unfold rrPc readReturned
  cases d <;> simp only [upd_same]

theorem finishCall_cfg (s : St) (t : Nat) (r : Ret) : (finishCall s t r).1.cfg = s.cfg := by rw [finishCall_eq]
theorem afterUnlock_cfg (s : St) (t : Nat) (r : Ret) : (afterUnlock s t r).1.cfg = s.cfg := by rw [afterUnlock_eq]
theorem leaveFn_cfg (s : St) (t : Nat) (r : Ret) : (leaveFn s t r).1.cfg = s.cfg := by rw [leaveFn_eq]
theorem enterCall_cfg (s : St) (t : Nat) : (enterCall s t).cfg = s.cfg := by rw [enterCall_eq]

theorem enterCall_rc (s : St) (t : Nat) : (enterCall s t).rc = s.rc := by rw [enterCall_eq]
theorem enterCall_cached (s : St) (t : Nat) : (enterCall s t).cached = s.cached := by rw [enterCall_eq]
theorem enterCall_blocks (s : St) (t : Nat) : (enterCall s t).blocks = s.blocks := by rw [enterCall_eq]
theorem enterCall_fulls (s : St) (t : Nat) : (enterCall s t).fulls = s.fulls := by rw [enterCall_eq]
theorem enterCall_overwrites (s : St) (t : Nat) : (enterCall s t).overwrites = s.overwrites := by rw [enterCall_eq]
theorem enterCall_obs (s : St) (t : Nat) : (enterCall s t).obs = s.obs := by rw [enterCall_eq]
theorem enterCall_cachedObs (s : St) (t : Nat) : (enterCall s t).cachedObs = s.cachedObs := by rw [enterCall_eq]
theorem enterCall_att (s : St) (t : Nat) : (enterCall s t).att = s.att := by rw [enterCall_eq]
theorem enterCall_fullNotes (s : St) (t : Nat) : (enterCall s t).fullNotes = s.fullNotes := by rw [enterCall_eq]

theorem leaveFn_rc (s : St) (t : Nat) (r : Ret) : (leaveFn s t r).1.rc = s.rc := by rw [leaveFn_eq]
theorem leaveFn_cached (s : St) (t : Nat) (r : Ret) : (leaveFn s t r).1.cached = s.cached := by rw [leaveFn_eq]
theorem leaveFn_blocks (s : St) (t : Nat) (r : Ret) : (leaveFn s t r).1.blocks = s.blocks := by rw [leaveFn_eq]
theorem leaveFn_fulls (s : St) (t : Nat) (r : Ret) : (leaveFn s t r).1.fulls = s.fulls := by rw [leaveFn_eq]
theorem leaveFn_overwrites (s : St) (t : Nat) (r : Ret) : (leaveFn s t r).1.overwrites = s.overwrites := by rw [leaveFn_eq]
theorem leaveFn_obs (s : St) (t : Nat) (r : Ret) : (leaveFn s t r).1.obs = s.obs := by rw [leaveFn_eq]
theorem leaveFn_cachedObs (s : St) (t : Nat) (r : Ret) : (leaveFn s t r).1.cachedObs = s.cachedObs := by rw [leaveFn_eq]

theorem readReturned_att (s : St) (t : Nat) (d : Option Msg) : (readReturned s t d).1.att = s.att := by rw [readReturned_eq]
theorem readReturned_fullNotes (s : St) (t : Nat) (d : Option Msg) : (readReturned s t d).1.fullNotes = s.fullNotes := by rw [readReturned_eq]

theorem finishCall_upd (s : St) (t : Nat) (q : Pc) (r : Ret) :
    (finishCall { s with pc := upd s.pc t q } t r).1 = (finishCall s t r).1 := by
  unfold finishCall
  cases r <;> simp only [upd_upd, cur] <;> (try split) <;> (try simp only [upd_upd])

theorem afterUnlock_upd (s : St) (t : Nat) (q : Pc) (r : Ret) :
    (afterUnlock { s with pc := upd s.pc t q } t r).1 = (afterUnlock s t r).1 := by
  unfold afterUnlock
  cases r <;> cases s.cfg.rm <;> simp only [upd_upd, finishCall_upd]

theorem leaveFn_upd (s : St) (t : Nat) (q : Pc) (r : Ret) :
    (leaveFn { s with pc := upd s.pc t q } t r).1 = (leaveFn s t r).1 := by
  unfold leaveFn
  cases s.cfg.wl <;> simp only [upd_upd]
  exact afterUnlock_upd { s with holder := none } t q r

theorem readReturned_upd (s : St) (t : Nat) (q : Pc) (d : Option Msg) :
    (readReturned { s with pc := upd s.pc t q } t d).1 = (readReturned s t d).1 := by
  unfold readReturned
  cases d <;> simp only [upd_upd]

theorem fc_next (s : St) (t : Nat) (r : Ret) :
    (fcK s t r = s.k t + 1 ∧ (fcPc s t r = .wPay ∨ fcPc s t r = .done)) ∨
    (fcK s t r = s.k t ∧ fcPc s t r = .wYield ∧ r = .full) := by
  unfold fcK fcPc finishCall; cases r <;> simp only <;> (try split) <;> simp only [upd_same] <;> (try split) <;> simp

theorem fcPc_cases (s : St) (t : Nat) (r : Ret) :
    fcPc s t r = .wPay ∨ fcPc s t r = .done ∨ (fcPc s t r = .wYield ∧ r = .full) :=
  (fc_next s t r).elim (fun h => h.2.elim Or.inl fun h => Or.inr (Or.inl h)) fun h => Or.inr (Or.inr h.2)

theorem finishCall_okNotes (s : St) (t : Nat) (r : Ret) :
    (finishCall s t r).1.okNotes = if r = .ok then s.okNotes ++ [cur s t] else s.okNotes := by
  unfold finishCall; cases r <;> simp only <;> (try split) <;> simp_all

theorem auPc_cases (s : St) (t : Nat) (r : Ret) :
    (auPc s t r = .wWake ∧ r = .ok ∧ s.cfg.rm ≠ .busy) ∨ auPc s t r = .wPay ∨
    auPc s t r = .done ∨ (auPc s t r = .wYield ∧ r = .full) := by
  unfold auPc afterUnlock
  split
  next hrm => exact Or.inl ⟨upd_same _ _ _, rfl, by rw [hrm]; decide⟩
  next hrm => exact Or.inl ⟨upd_same _ _ _, rfl, by rw [hrm]; decide⟩
  next => exact Or.inr (fcPc_cases s t _)

theorem lfPc_cases (s : St) (t : Nat) (r : Ret) :
    (s.cfg.wl ≠ .single ∧ lfPc s t r = .wUnlock r) ∨
    (s.cfg.wl = .single ∧ ((lfPc s t r = .wWake ∧ r = .ok ∧ s.cfg.rm ≠ .busy) ∨ lfPc s t r = .wPay ∨
      lfPc s t r = .done ∨ (lfPc s t r = .wYield ∧ r = .full))) := by
  unfold lfPc leaveFn
  split
  next h => exact Or.inr ⟨h, auPc_cases { s with holder := none } t r⟩
  next h => exact Or.inl ⟨h, upd_same _ _ _⟩

/-- where the harness sends the reader after a read -/
def rNext (s : St) (t : Nat) : Pc :=
  if s.k t + 1 < s.cfg.reads then (match s.cfg.rm with | .mutex => .rmLock | _ => .rRdR) else .done

theorem rNext_cases (s : St) (t : Nat) :
    rNext s t = .rmLock ∧ s.cfg.rm = .mutex ∨ rNext s t = .rRdR ∧ s.cfg.rm ≠ .mutex ∨ rNext s t = .done := by
  unfold rNext
  split
  · cases hrm : s.cfg.rm <;> simp
  · exact .inr (.inr rfl)

theorem rrPc_none (s : St) (t : Nat) : rrPc s t none = rNext s t := upd_same _ _ _
theorem rrPc_some (s : St) (t : Nat) (m : Msg) : rrPc s t (some m) = .rPay m := upd_same _ _ _

/-- what the exit helpers do to (message index, pc, ok-notes) of the acting thread: on to the next message
(with an ok-note for the old one iff `r = ok`), or the same message again -/
def ExitSpec (s : St) (t : Nat) (k' : Nat) (p' : Pc) (ok' : List Msg) (r : Ret) : Prop :=
  (k' = s.k t + 1 ∧ (p' = .wPay ∨ p' = .done) ∧
      ok' = (if r = .ok then s.okNotes ++ [cur s t] else s.okNotes)) ∨
  (k' = s.k t ∧ ok' = s.okNotes ∧
      ((p' = .wYield ∧ r = .full) ∨ (p' = .wWake ∧ r = .ok) ∨ p' = .wUnlock r))

theorem fc_spec (s : St) (t : Nat) (r : Ret) :
    ExitSpec s t (fcK s t r) (fcPc s t r) (finishCall s t r).1.okNotes r := by
  rcases fc_next s t r with ⟨hk, hp⟩ | ⟨hk, hp, hr⟩
  · exact Or.inl ⟨hk, hp, finishCall_okNotes s t r⟩
  · exact Or.inr ⟨hk, by rw [finishCall_okNotes, hr]; rfl, Or.inl ⟨hp, hr⟩⟩

theorem au_spec (s : St) (t : Nat) (r : Ret) :
    ExitSpec s t (auK s t r) (auPc s t r) (afterUnlock s t r).1.okNotes r := by
  unfold auK auPc afterUnlock
  split
  · exact Or.inr ⟨rfl, rfl, Or.inr (Or.inl ⟨upd_same _ _ _, rfl⟩)⟩
  · exact Or.inr ⟨rfl, rfl, Or.inr (Or.inl ⟨upd_same _ _ _, rfl⟩)⟩
  · exact fc_spec s t _

theorem lf_spec (s : St) (t : Nat) (r : Ret) :
    ExitSpec s t (lfK s t r) (lfPc s t r) (leaveFn s t r).1.okNotes r := by
  unfold lfK lfPc leaveFn
  split
  · exact au_spec { s with holder := none } t r
  · exact Or.inr ⟨rfl, rfl, Or.inr (Or.inr (upd_same _ _ _))⟩

theorem auPc_ok_wake (s : St) (t : Nat) (h : s.cfg.rm ≠ .busy) : auPc s t .ok = .wWake := by
  unfold auPc afterUnlock; cases hrm : s.cfg.rm <;> simp_all

theorem lfPc_ok_pub (s : St) (t : Nat) (h : s.cfg.rm ≠ .busy) : published (lfPc s t .ok) = true := by
  unfold lfPc leaveFn
  split
  · show published (auPc { s with holder := none } t .ok) = true
    rw [auPc_ok_wake { s with holder := none } t h]; rfl
  · show published (upd s.pc t (.wUnlock .ok) t) = true
    rw [upd_same]; rfl

theorem readReturned_k_other (s : St) (t t' : Nat) (d : Option Msg) (h : t' ≠ t) :
    (readReturned s t d).1.k t' = s.k t' := by
  unfold readReturned; cases d <;> simp [upd, h]

theorem rNext_inRM (s : St) (t : Nat) : inRM (rNext s t) = false := by
  rcases rNext_cases s t with ⟨h, -⟩ | ⟨h, -⟩ | h <;> rw [h] <;> rfl

theorem rNext_RLoc (s : St) (t : Nat) (n A D : Nat) (nxt : Option Msg) : RLoc n A D nxt (rNext s t) := by
  rcases rNext_cases s t with ⟨h, -⟩ | ⟨h, -⟩ | h <;> rw [h] <;> trivial

theorem rrPc_inRM (s : St) (t : Nat) (d : Option Msg) : inRM (rrPc s t d) = false := by
  cases d with
  | none => rw [rrPc_none]; exact rNext_inRM s t
  | some m => rw [rrPc_some]; rfl

theorem rrPc_RLoc (s : St) (t : Nat) (d : Option Msg) (n A D : Nat) (nxt : Option Msg) :
    RLoc n A D nxt (rrPc s t d) := by
  cases d with
  | none => rw [rrPc_none]; exact rNext_RLoc s t _ _ _ _
  | some m => rw [rrPc_some]; trivial

theorem init_pc (c : Cfg) :
    (∀ t, t < c.W → (mkInit c).pc t = .done ∨ (mkInit c).pc t = .wPay) ∧
    ((mkInit c).pc c.W = .done ∨ (mkInit c).pc c.W = .rmLock ∧ c.rm = .mutex ∨
      (mkInit c).pc c.W = .rRdR ∧ c.rm ≠ .mutex) := by
  constructor
  · intro t ht
    simp only [mkInit, ht, if_true]
    split
    · exact .inl rfl
    · exact .inr rfl
  · simp only [mkInit, Nat.lt_irrefl, if_false, if_true]
    split
    · exact .inl rfl
    · cases hrm : c.rm <;> simp

theorem entryFn_inCS (rm : RMode) : inCS (entryFn rm) = true := by cases rm <;> rfl
theorem entryFn_inRM (rm : RMode) : inRM (entryFn rm) = false := by cases rm <;> rfl
theorem entryFn_pub (rm : RMode) : published (entryFn rm) = false := by cases rm <;> rfl
theorem entryFn_WLoc (rm : RMode) (n A D o c : Nat) (sl : Option Msg) (m : Msg) :
    WLoc n A D o c rm sl m (entryFn rm) := by cases rm <;> simp [entryFn, WLoc]

end MgProof.C01
