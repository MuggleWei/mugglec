import MgProof.C01.Step
/-!
# C01 — channel: every writer step preserves `Inv`

Each of a handful of moves preserves `Inv`; a `WStep` is one of them, followed for the exit steps by one of the
harness helpers.
-/
namespace MgProof.C01
open MgModel.Conc MgModel.C01

theorem rloc_w {n A D W t0 : Nat} {nxt : Option Msg} {pc : Nat → Pc} {p' : Pc}
    (h11 : RLoc n A D nxt (pc W)) (ht : t0 < W) : RLoc n A D nxt (upd pc t0 p' W) := by
  rw [upd_other _ _ _ _ (by omega)]; exact h11

structure SameRing (s s' : St) : Prop where
  cfg : s'.cfg = s.cfg
  wc : s'.wc = s.wc
  rc : s'.rc = s.rc
  cached : s'.cached = s.cached
  blocks : s'.blocks = s.blocks
  wlock : s'.wlock = s.wlock
  holder : s'.holder = s.holder
  rmtx : s'.rmtx = s.rmtx
  accepted : s'.accepted = s.accepted
  delivered : s'.delivered = s.delivered
  fulls : s'.fulls = s.fulls
  overwrites : s'.overwrites = s.overwrites
  cachedObs : s'.cachedObs = s.cachedObs

variable {s s' : St} {t0 : Nat}

theorem Inv_congr (hi : Inv s) (hr : SameRing s s') (hobs : s'.obs = s.obs)
    (hpc' : s'.pc = s.pc) (hk : s'.k = s.k) : Inv s' := by
  obtain ⟨e1, e2, e3, e4, e5, e6, e7, e8, e10, e11, e12, e13, e14⟩ := hr
  obtain ⟨hv, h1, h2, h3, h4, h5, h6, h7, h8, h9, h10, h11, h12, h13, h14⟩ := hi
  refine Inv.mk ?_ ?_ ?_ ?_ ?_ ?_ ?_ ?_ ?_ ?_ ?_ ?_ ?_ ?_ ?_
  all_goals simp only [e1, e2, e3, e4, e5, e6, e7, e8, e10, e11, e12, e13, e14, hobs, hpc', hk, cur] at *
  all_goals assumption

def ringView (s : St) :=
  (s.cfg, s.wc, s.rc, s.cached, s.blocks, s.wlock, s.holder, s.rmtx, s.accepted, s.delivered, s.fulls, s.overwrites,
    s.cachedObs, s.obs, s.pc, s.k)

theorem Inv.congr (hi : Inv s) (h : ringView s' = ringView s) : Inv s' := by
  simp only [ringView, Prod.mk.injEq] at h
  obtain ⟨e1, e2, e3, e4, e5, e6, e7, e8, e9, e10, e11, e12, e13, e14, e15, e16⟩ := h
  exact Inv_congr hi ⟨e1, e2, e3, e4, e5, e6, e7, e8, e9, e10, e11, e12, e13⟩ e14 e15 e16

/-! Thread `t0` goes from `p0` to `p'`; for the lock holder `hnew` is what `WLoc` asks at `p'`. -/

variable {p0 : Pc}

/-- any thread `u`, not only a writer, moves between pcs outside the critical section -/
theorem Inv.setPc (hi : Inv s) (u : Nat) (p' : Pc) (k' : Nat → Nat) (hk : ∀ v, v ≠ u → k' v = s.k v)
    (c0 : inCS (s.pc u) = false) (c1 : inCS p' = false) (r1 : inRM p' = inRM (s.pc u))
    (hr : s.cfg.W = u → RLoc s.cfg.cap s.accepted.length s.delivered.length s.accepted[s.delivered.length]? p') :
    Inv { s with pc := upd s.pc u p', k := k' } :=
  { hi with
    hold := own_same hi.hold (c1.trans c0.symm)
    rmo := own_same hi.rmo r1
    wloc := wloc_other hi.hold hi.wloc c0 s.obs k' (fun _ _ => rfl) hk
    rloc := upd_intro (Q := RLoc _ _ _ _) hr fun _ => hi.rloc }

theorem Inv.move_out (hi : Inv s) (ht0 : t0 < s.cfg.W) (hp : s.pc t0 = p0) (p' : Pc) (k' : Nat → Nat)
    (hk : ∀ t, t ≠ t0 → k' t = s.k t) (c0 : inCS p0 = false) (c1 : inCS p' = false)
    (r0 : inRM p0 = false) (r1 : inRM p' = false) :
    Inv { s with pc := upd s.pc t0 p', k := k' } :=
  hi.setPc t0 p' k' hk (hp ▸ c0) c1 (r1.trans (hp ▸ r0).symm) fun e => absurd e (Nat.ne_of_gt ht0)

theorem Inv.move_in (hi : Inv s) (ht0 : t0 < s.cfg.W) (hp : s.pc t0 = p0) (p' : Pc)
    (obs' : Nat → Nat) (c0 : inCS p0 = true) (c1 : inCS p' = true) (r1 : inRM p' = inRM p0)
    (hnew : WLoc s.cfg.cap s.accepted.length s.delivered.length (obs' t0) s.cachedObs s.cfg.rm
      (s.blocks (s.accepted.length % s.cfg.cap)) ⟨t0, s.k t0⟩ p') :
    Inv { s with pc := upd s.pc t0 p', obs := obs' } := by
  subst hp
  exact { hi with
    hold := own_same hi.hold (c1.trans c0.symm)
    rmo := own_same hi.rmo r1
    wloc := wloc_holder obs' s.k (hi.holds ht0 rfl c0) hnew
    rloc := rloc_w hi.rloc ht0 }

theorem Inv.acquire (hi : Inv s) (ht0 : t0 < s.cfg.W) (hn : s.holder = none) (hp : s.pc t0 = p0) (w' : Nat)
    (r0 : inRM p0 = false) (hl : s.cfg.wl = .spin ∨ s.cfg.wl = .sync → w' ≠ 0) :
    Inv { s with holder := some t0, wlock := w', pc := upd s.pc t0 (entryFn s.cfg.rm) } := by
  subst hp
  exact { hi with
    hold := own_acquire hi.hold hn ht0 (entryFn_inCS _)
    lock0 := fun hx h0 => absurd h0 (hl hx)
    rmo := own_same hi.rmo ((entryFn_inRM _).trans r0.symm)
    wloc := wloc_holder s.obs s.k rfl (entryFn_WLoc _ _ _ _ _ _ _ _)
    rloc := rloc_w hi.rloc ht0 }

/-- `t0` leaves the critical section; `w'` and `k'` are free, since nobody holds the lock afterwards -/
theorem Inv.release (hi : Inv s) (ht0 : t0 < s.cfg.W) (hp : s.pc t0 = p0) (w' : Nat)
    (p' : Pc) (k' : Nat → Nat) (c0 : inCS p0 = true) (c1 : inCS p' = false) (r0 : inRM p0 = false) (r1 : inRM p' = false) :
    Inv { s with holder := none, wlock := w', pc := upd s.pc t0 p', k := k' } := by
  subst hp
  exact { hi with
    hold := own_release hi.hold (hi.holds ht0 rfl c0) c1
    lock0 := fun _ _ => rfl
    rmo := own_same hi.rmo (r1.trans r0.symm)
    wloc := nofun
    rloc := rloc_w hi.rloc ht0 }

theorem Inv.full (hi : Inv s) (u : Nat) (hu : u = s.cfg.cap - 2) : Inv { s with fulls := s.fulls ++ [u] } :=
  { hi with
    fullsOk := fun u' hu' => (List.mem_append.1 hu').elim (hi.fullsOk u') fun h => (List.mem_singleton.1 h).trans hu }

theorem Inv.store (hi : Inv s) (ht0 : t0 < s.cfg.W) (hp : s.pc t0 = p0) (p' : Pc)
    (c0 : inCS p0 = true) (c1 : inCS p' = true) (r1 : inRM p' = inRM p0)
    (hnew : WLoc s.cfg.cap s.accepted.length s.delivered.length (s.obs t0) s.cachedObs s.cfg.rm
      (some ⟨t0, s.k t0⟩) ⟨t0, s.k t0⟩ p') :
    Inv { s with blocks := upd s.blocks (s.accepted.length % s.cfg.cap) (some ⟨t0, s.k t0⟩),
                 overwrites := s.overwrites + (if liveSlot s (s.accepted.length % s.cfg.cap) then 1 else 0),
                 pc := upd s.pc t0 p' } := by
  subst hp
  exact { hi with
    hold := own_same hi.hold (c1.trans c0.symm)
    rmo := own_same hi.rmo r1
    slots := by
      dsimp only
      intro j hj1 hj2
      rw [upd_other _ _ _ _ (slot_ne hi.le2 hj1 hj2)]; exact hi.slots j hj1 hj2
    wloc := wloc_holder s.obs s.k (hi.holds ht0 rfl c0) (by dsimp only; rw [upd_same]; exact hnew)
    rloc := rloc_w hi.rloc ht0
    ow := by dsimp only; rw [liveSlot_false s hi.le2, hi.ow]; rfl }

/-- `p'` is a pc at which `WLoc` asks nothing -/
theorem Inv.publish (hi : Inv s) (ht0 : t0 < s.cfg.W) (hp : s.pc t0 = p0) (p' : Pc)
    (c0 : inCS p0 = true) (c1 : inCS p' = true) (r1 : inRM p' = inRM p0)
    (hslot : s.blocks (s.accepted.length % s.cfg.cap) = some ⟨t0, s.k t0⟩)
    (hroom1 : s.accepted.length + 1 ≤ s.delivered.length + (s.cfg.cap - 2))
    (hroom2 : s.cfg.rm = .busy → s.accepted.length + 1 ≤ s.cachedObs + (s.cfg.cap - 2))
    (hnew : ∀ n A D o c rm sl m, WLoc n A D o c rm sl m p') :
    Inv { s with wc := (s.accepted.length + 1) % s.cfg.cap, accepted := s.accepted ++ [⟨t0, s.k t0⟩],
                 pc := upd s.pc t0 p' } := by
  subst hp
  have hlen : (s.accepted ++ [(⟨t0, s.k t0⟩ : Msg)]).length = s.accepted.length + 1 := by simp
  exact { hi with
    hold := own_same hi.hold (c1.trans c0.symm)
    rmo := own_same hi.rmo r1
    wc_eq := by dsimp only; rw [hlen]
    le1 := by dsimp only; rw [hlen]; exact Nat.le_succ_of_le hi.le1
    le2 := by dsimp only; rw [hlen]; exact hroom1
    slots := by
      dsimp only; rw [hlen]
      intro j hj1 hj2
      rcases Nat.lt_or_ge j s.accepted.length with hlt | hge
      · rw [List.getElem?_append_left hlt]; exact hi.slots j hj1 hlt
      · have : j = s.accepted.length := by omega
        subst this
        rw [hslot]; simp
    cachedOk := by
      dsimp only; rw [hlen]
      intro hb
      have := hi.cachedOk hb
      have := hroom2 hb
      omega
    wloc := wloc_holder s.obs s.k (hi.holds ht0 rfl c0) (hnew _ _ _ _ _ _ _ _)
    rloc := by
      dsimp only; rw [hlen, upd_other _ _ _ _ (Nat.ne_of_gt ht0)]; exact RLoc_publish hi.rloc
    fifo := fifo_publish hi.le1 hi.fifo }

theorem Inv.cache (hi : Inv s) (ht0 : t0 < s.cfg.W) (hp : s.pc t0 = p0) (p' : Pc)
    (v o : Nat) (c0 : inCS p0 = true) (c1 : inCS p' = true) (r1 : inRM p' = inRM p0)
    (hc : v = (o + (s.cfg.cap - 1)) % s.cfg.cap ∧ o ≤ s.delivered.length ∧ s.accepted.length ≤ o + (s.cfg.cap - 2))
    (hnew : WLoc s.cfg.cap s.accepted.length s.delivered.length (s.obs t0) o s.cfg.rm
      (s.blocks (s.accepted.length % s.cfg.cap)) ⟨t0, s.k t0⟩ p') :
    Inv { s with cached := v, cachedObs := o, pc := upd s.pc t0 p' } := by
  subst hp
  exact { hi with
    hold := own_same hi.hold (c1.trans c0.symm)
    rmo := own_same hi.rmo r1
    cachedOk := fun _ => hc
    wloc := wloc_holder s.obs s.k (hi.holds ht0 rfl c0) hnew
    rloc := rloc_w hi.rloc ht0 }

/-- the holder of the write lock takes or gives back `read_mutex`; `rm'` is the new owner word -/
theorem Inv.rm (hi : Inv s) (ht0 : t0 < s.cfg.W) (hp : s.pc t0 = p0) (p' : Pc) (c0 : inCS p0 = true)
    (c1 : inCS p' = true)
    (rm' : Option Nat) (hrm : ∀ t, rm' = some t ↔ (t ≤ s.cfg.W ∧ inRM (upd s.pc t0 p' t) = true))
    (hnew : WLoc s.cfg.cap s.accepted.length s.delivered.length (s.obs t0) s.cachedObs s.cfg.rm
      (s.blocks (s.accepted.length % s.cfg.cap)) ⟨t0, s.k t0⟩ p') :
    Inv { s with rmtx := rm', pc := upd s.pc t0 p' } := by
  subst hp
  exact { hi with
    hold := own_same hi.hold (c1.trans c0.symm)
    rmo := hrm
    wloc := wloc_holder s.obs s.k (hi.holds ht0 rfl c0) hnew
    rloc := rloc_w hi.rloc ht0 }

theorem Inv.move_reader (hi : Inv s) (p' : Pc) (k' : Nat → Nat) (hk : ∀ t, t ≠ s.cfg.W → k' t = s.k t)
    (rm' : Option Nat) (hrm : ∀ t, rm' = some t ↔ (t ≤ s.cfg.W ∧ inRM (upd s.pc s.cfg.W p' t) = true))
    (hnew : RLoc s.cfg.cap s.accepted.length s.delivered.length s.accepted[s.delivered.length]? p') :
    Inv { s with rmtx := rm', pc := upd s.pc s.cfg.W p', k := k' } := by
  -- the reader never holds the write lock
  have hne : ∀ t, s.holder = some t → t ≠ s.cfg.W := fun t hh => Nat.ne_of_lt ((hi.hold t).1 hh).1
  exact { hi with
    hold := fun t => by
      dsimp only
      by_cases ht : t = s.cfg.W
      · subst ht
        exact ⟨fun hh => absurd rfl (hne _ hh), fun hh => absurd hh.1 (Nat.lt_irrefl _)⟩
      · rw [upd_other _ _ _ _ ht]; exact hi.hold t
    rmo := hrm
    wloc := fun t hh => by
      dsimp only [cur]
      rw [upd_other _ _ _ _ (hne t hh), hk t (hne t hh)]; exact hi.wloc t hh
    rloc := by dsimp only; rw [upd_same]; exact hnew }

theorem fcPc_out (s : St) (t : Nat) (r : Ret) : inCS (fcPc s t r) = false ∧ inRM (fcPc s t r) = false := by
  rcases fcPc_cases s t r with h | h | ⟨h, -⟩ <;> rw [h] <;> exact ⟨rfl, rfl⟩

theorem auPc_out (s : St) (t : Nat) (r : Ret) : inCS (auPc s t r) = false ∧ inRM (auPc s t r) = false := by
  rcases auPc_cases s t r with ⟨h, -⟩ | h | h | ⟨h, -⟩ <;> rw [h] <;> exact ⟨rfl, rfl⟩

variable {t : Nat} {r : Ret}

theorem Inv.finishCall (hi : Inv s) (ht : t < s.cfg.W) (hp : s.pc t = p0) (c0 : inCS p0 = false)
    (r0 : inRM p0 = false) : Inv (finishCall s t r).1 := by
  rw [finishCall_eq]
  exact (hi.move_out ht hp _ _ (fun _ h => upd_other _ _ _ _ h) c0 (fcPc_out s t r).1 r0 (fcPc_out s t r).2).congr rfl

theorem Inv.afterUnlock (hi : Inv s) (ht : t < s.cfg.W) (hp : s.pc t = p0) (c0 : inCS p0 = false)
    (r0 : inRM p0 = false) : Inv (afterUnlock s t r).1 := by
  rw [afterUnlock_eq]
  exact (hi.move_out ht hp _ _ (fun _ h => upd_other _ _ _ _ h) c0 (auPc_out s t r).1 r0 (auPc_out s t r).2).congr rfl

/-- a step of the holder that ends in `leaveFn` is judged in the state in which it sits at `wUnlock r`: the exit is
one more move from there -/
theorem Inv.leaveFn (ht : t < s.cfg.W) (hi : Inv { s with pc := upd s.pc t (.wUnlock r) }) :
    Inv (leaveFn s t r).1 := by
  unfold MgModel.C01.leaveFn
  split
  · rw [afterUnlock_eq, ← upd_upd s.pc t (.wUnlock r)]
    exact (hi.release ht (upd_same _ _ _) s.wlock _ _ rfl (auPc_out _ t r).1 rfl (auPc_out _ t r).2).congr rfl
  · exact hi

theorem Inv.enterCall (hi : Inv s) (ht : t < s.cfg.W) (hp : s.pc t = p0) (c0 : inCS p0 = false)
    (r0 : inRM p0 = false) : Inv (enterCall s t) := by
  subst hp
  unfold MgModel.C01.enterCall
  split
  next hwl =>
    -- the one writer is outside
    have hW := hi.valid.single hwl
    have hn : s.holder = none := free_of_outside hi.hold fun t' ht' => by rw [show t' = t by omega]; exact c0
    exact hi.acquire ht hn rfl s.wlock r0 fun hx => by rw [hwl] at hx; rcases hx with hx | hx <;> cases hx
  · exact hi.move_out ht rfl _ _ (fun _ _ => rfl) c0 rfl r0 rfl

theorem Spin.out {p p' : Pc} (h : Spin s p p') :
    inCS p = false ∧ inCS p' = false ∧ inRM p = false ∧ inRM p' = false := by cases h <;> exact ⟨rfl, rfl, rfl, rfl⟩

theorem WStep.inv (ht : t < s.cfg.W) (hg : Ready s t) (hi : Inv s) (h : WStep s t s') : Inv s' := by
  have hwc : ring (s.wc + 1) s.cfg.cap = (s.accepted.length + 1) % s.cfg.cap := by
    rw [ring_cap, hi.wc_eq, Nat.mod_add_mod]
  cases h with
  | spin hp hl => exact hi.move_out ht hp _ _ (fun _ _ => rfl) hl.out.1 hl.out.2.1 hl.out.2.2.1 hl.out.2.2.2
  | probe hp hl =>
    -- each probe hands on what its pc carried and what it read; a passed full test gives `Room`
    -- (mutex writer: its first conjunct)
    cases hl with
    | sRoom hne =>
      obtain ⟨hm, hr, ho, ha⟩ := hi.wloc_at ht hp rfl
      have hfull := full_iff (cap_pos s.cfg) (Nat.le_trans ho hi.le1) ha
      rw [hwc] at hne ⊢
      have hA : ¬ s.accepted.length = s.obs t + (s.cfg.cap - 2) := fun e => hne (by rw [hr]; exact hfull.2 e)
      exact hi.move_in ht hp _ s.obs rfl rfl rfl
        ⟨rfl, by omega, fun hb => (by rw [hm] at hb; cases hb), by rw [hm]; decide⟩
    | cIdx =>
      have hw := hi.wloc_at ht hp rfl
      exact hi.move_in ht hp _ s.obs rfl rfl rfl ⟨hw.1, hi.wc_eq, hw.2⟩
    | bPos | mPos =>
      have hw := hi.wloc_at ht hp rfl
      exact hi.move_in ht hp _ s.obs rfl rfl rfl ⟨hw, hwc⟩
    | bRoom hne | bRoom2 hne =>
      obtain ⟨hm, hwp⟩ := hi.wloc_at ht hp rfl
      obtain ⟨hc1, hc2, hc3⟩ := hi.cachedOk hm
      have hfull := full_iff (cap_pos s.cfg) (Nat.le_trans hc2 hi.le1) hc3
      have hA : ¬ s.accepted.length = s.cachedObs + (s.cfg.cap - 2) :=
        fun e => hne (by rw [hwp, hc1]; exact hfull.2 e)
      exact hi.move_in ht hp _ s.obs rfl rfl rfl ⟨hwp, by omega, fun _ => by omega, by rw [hm]; decide⟩
    | bStale _ =>
      obtain ⟨hm, hwp⟩ := hi.wloc_at ht hp rfl
      exact hi.move_in ht hp _ s.obs rfl rfl rfl ⟨hm, hwp⟩
    | mRoom hne =>
      obtain ⟨hm, hwp⟩ := hi.wloc_at ht hp rfl
      have hfull := full_iff (cap_pos s.cfg) hi.le1 hi.le2
      have hA : ¬ s.accepted.length = s.delivered.length + (s.cfg.cap - 2) :=
        fun e => hne (by rw [hwp, hi.rc_eq]; exact hfull.2 e)
      have := hi.le2
      exact hi.move_in ht hp _ s.obs rfl rfl rfl ⟨hm, hwp, by omega⟩
    | mIdx =>
      have hw := hi.wloc_at ht hp rfl
      exact hi.move_in ht hp _ s.obs rfl rfl rfl ⟨hw.1, hw.2.1, hi.wc_eq, hw.2.2⟩
  | ldR hp =>
    have hw := hi.wloc_at ht hp rfl
    exact hi.move_in ht hp _ _ rfl rfl rfl (by rw [upd_same]; exact ⟨hw, hi.rc_eq, Nat.le_refl _, hi.le2⟩)
  | ldRB hp =>
    have hw := hi.wloc_at ht hp rfl
    exact hi.move_in ht hp _ _ rfl rfl rfl (by rw [upd_same]; exact ⟨hw.1, hw.2, hi.rc_eq, Nat.le_refl _, hi.le2⟩)
  | pay hp => exact Inv.enterCall (hi.congr rfl) ht hp rfl rfl  -- `know` is not in `ringView`
  | yield hp => exact hi.enterCall ht hp rfl rfl
  | acquire hp hq =>
    rcases hq with ⟨hx, h0, rfl⟩ | ⟨hwl, rfl⟩
    · exact (hi.acquire ht (hi.lock0 hx h0) hp 1 rfl fun _ => Nat.one_ne_zero).congr rfl
    · exact (hi.acquire ht (hg.wm hp hwl) hp s.wlock rfl fun hx => by rw [hwl] at hx; rcases hx with hx | hx <;> cases hx).congr rfl
  | slot hp =>
    obtain ⟨hw1, hw2, hw3⟩ := hi.wloc_at ht hp rfl
    subst hw2; exact hi.store ht hp _ rfl rfl rfl ⟨hw1, rfl, hw3⟩
  | slotM hp =>
    obtain ⟨hm, hw1, hw2, hw3⟩ := hi.wloc_at ht hp rfl
    subst hw2; exact hi.store ht hp _ rfl rfl rfl ⟨hm, hw1, rfl, hw3⟩
  | cache hp =>
    obtain ⟨hm, hwp, hv, ho, ha⟩ := hi.wloc_at ht hp rfl
    exact hi.cache ht hp _ _ _ rfl rfl rfl ⟨hv, ho, ha⟩ ⟨hm, hwp⟩
  | full hp =>
    -- the cursor compared with stands for `obs t` (here) resp. `cachedObs` (`fullB`) delivered messages: `full_iff`
    obtain ⟨hm, hr, ho, ha⟩ := hi.wloc_at ht hp rfl
    have hA := (full_iff (cap_pos s.cfg) (Nat.le_trans ho hi.le1) ha).1 (by rw [← hwc]; exact hr)
    exact Inv.leaveFn ht ((hi.full _ (by omega)).move_in ht hp _ s.obs rfl rfl rfl trivial)
  | fullB hp =>
    obtain ⟨hm, hwp⟩ := hi.wloc_at ht hp rfl
    obtain ⟨hc1, hc2, hc3⟩ := hi.cachedOk hm
    have hA := (full_iff (cap_pos s.cfg) (Nat.le_trans hc2 hi.le1) hc3).1 (by rw [← hwp, hc1])
    exact Inv.leaveFn ht ((hi.full _ (by omega)).move_in ht hp _ s.obs rfl rfl rfl trivial)
  | fullM hp =>
    obtain ⟨hm, hwp⟩ := hi.wloc_at ht hp rfl
    have hA := (full_iff (cap_pos s.cfg) hi.le1 hi.le2).1 (by rw [← hwp, hi.rc_eq])
    exact (hi.full _ (by omega)).move_in ht hp _ s.obs rfl rfl rfl trivial
  | publish hp =>
    obtain ⟨hw1, hw2, hw3, hw4, -⟩ := hi.wloc_at ht hp rfl
    subst hw1
    exact Inv.leaveFn ht
      ((hi.publish ht hp (.wUnlock .ok) rfl rfl rfl hw2 hw3 hw4 fun _ _ _ _ _ _ _ _ => trivial).congr rfl)
  | publishM hp =>
    obtain ⟨hm, hw1, hw2, hw3⟩ := hi.wloc_at ht hp rfl
    subst hw1
    exact hi.publish ht hp _ rfl rfl rfl hw2 hw3 (fun hb => (by rw [hm] at hb; cases hb))
      fun _ _ _ _ _ _ _ _ => trivial
  | rmLock hp =>
    have hw := hi.wloc_at ht hp rfl
    exact (hi.rm ht hp .mRdW rfl rfl _ (own_acquire hi.rmo (hg.rm _ hp (.inl rfl)) (Nat.le_of_lt ht) rfl) hw).congr rfl
  | @rmUnlock r hp =>
    exact Inv.leaveFn ht ((hi.rm ht hp (.wUnlock r) rfl rfl _
      (own_release hi.rmo (hi.owns (Nat.le_of_lt ht) hp rfl) rfl) trivial).congr rfl)
  | @unlock r _ hp _ =>
    rw [afterUnlock_eq]
    exact (hi.release ht hp _ _ _ rfl (auPc_out _ _ r).1 rfl (auPc_out _ _ r).2).congr rfl
  | unlockSync hp _ =>
    exact (hi.release ht hp 0 _ s.k rfl rfl rfl rfl).congr rfl
  | handOver hp hlt hne hb =>
    exact Inv.afterUnlock (hi.move_out hlt hb .wWoken s.k (fun _ _ => rfl) rfl rfl rfl rfl) ht
      ((upd_other _ _ _ _ hne.symm).trans hp) rfl rfl
  | noWaiter hp _ => exact hi.afterUnlock ht hp rfl rfl
  | wake hp hq =>
    obtain ⟨rpos, ⟨-, hr, rfl⟩ | ⟨-, hr, rfl⟩⟩ := hq <;>
      exact Inv.finishCall
        (hi.move_reader _ s.k (fun _ _ => rfl) _ (own_same hi.rmo (by rw [hr]; rfl)) (by have := hi.rloc; rwa [hr] at this))
        ht ((upd_other _ _ _ _ (Nat.ne_of_lt ht)).trans hp) rfl rfl
  | noSleeper hp _ => exact hi.finishCall ht hp rfl rfl

end MgProof.C01
