import MgProof.C01.StepLemmas
/-!
# C01 — channel: what a step does

`WStep s t s'` / `RStep s t s'` list the moves of `wstep` / `rstep` for a thread `t`, one constructor per kind
of move, each with its guard and its post-state written out; what `St.enabled` adds is `Ready`; `Step` is a step
of the system. The step functions are taken apart here only (the soundness theorems); the invariants are proved
by cases on the relations. The moves that change nothing but the pc of the thread are tabulated apart (`Spin`,
`Probe`, `Look`), since most invariants treat a table alike.
-/
namespace MgProof.C01
open MgModel.Conc MgModel.C01

/-- `fn_lock` failing, waiting and retrying: `p → p'` under the guard read from `s` -/
inductive Spin (s : St) : Pc → Pc → Prop
  | spinYield : Spin s .wSpinYield .wLock
  | woken : Spin s .wWoken .wLock
  | park {e} : s.wlock = e → Spin s (.wFwait e) .wBlocked
  | eagain {e} : s.wlock ≠ e → Spin s (.wFwait e) .wLock
  | spinBusy : s.cfg.wl = .spin → s.wlock ≠ 0 → Spin s .wLock .wSpinYield
  | syncBusy : s.cfg.wl = .sync → s.wlock ≠ 0 → Spin s .wLock (.wFwait s.wlock)

/-- the reads of `fn_write` up to a passed or undecided full test, and the slot-index read after it; the pc
carries what was read -/
inductive Probe (s : St) : Pc → Pc → Prop
  | sRoom {rpos} : ring (s.wc + 1) s.cfg.cap ≠ rpos → Probe s (.sRdW rpos) (.cRdW2 (ring (s.wc + 1) s.cfg.cap))
  | cIdx {wpos} : Probe s (.cRdW2 wpos) (.cWrB wpos s.wc)
  | bPos : Probe s .bRdW (.bRdC (ring (s.wc + 1) s.cfg.cap))
  | bRoom {wpos} : wpos ≠ s.cached → Probe s (.bRdC wpos) (.cRdW2 wpos)
  | bStale {wpos} : wpos = s.cached → Probe s (.bRdC wpos) (.bLdR wpos)
  | bRoom2 {wpos} : wpos ≠ s.cached → Probe s (.bRdC2 wpos) (.cRdW2 wpos)
  | mPos : Probe s .mRdW (.mRdR (ring (s.wc + 1) s.cfg.cap))
  | mRoom {wpos} : wpos ≠ s.rc → Probe s (.mRdR wpos) (.mRdW2 wpos)
  | mIdx {wpos} : Probe s (.mRdW2 wpos) (.mWrB wpos s.wc)

inductive WStep (s : St) (t : Nat) : St → Prop
  | spin {p p'} : s.pc t = p → Spin s p p' → WStep s t { s with pc := upd s.pc t p' }
  | probe {p p'} : s.pc t = p → Probe s p p' → WStep s t { s with pc := upd s.pc t p' }
  /-- the relaxed load of `read_cursor`, sync and busy -/
  | ldR : s.pc t = .sLdR →
      WStep s t { s with obs := upd s.obs t s.delivered.length, pc := upd s.pc t (.sRdW s.rc) }
  | ldRB {wpos} : s.pc t = .bLdR wpos →
      WStep s t { s with obs := upd s.obs t s.delivered.length, pc := upd s.pc t (.bWrC wpos s.rc) }
  | pay : s.pc t = .wPay → WStep s t (enterCall { s with know := upd s.know t (cur s t :: s.know t) } t)
  | yield : s.pc t = .wYield → WStep s t (enterCall s t)
  /-- `w'` is the lock word afterwards; that a pthread mutex is free is the scheduler's business (`Ready`).
  `acquired s t`: `holder := some t`, `know t` joined with `relWL`, `pc t := entryFn s.cfg.rm` -/
  | acquire {w'} : s.pc t = .wLock →
      ((s.cfg.wl = .spin ∨ s.cfg.wl = .sync) ∧ s.wlock = 0 ∧ w' = 1 ∨ s.cfg.wl = .mutex ∧ w' = s.wlock) →
      WStep s t (acquired { s with wlock := w' } t)
  | slot {wpos idx} : s.pc t = .cWrB wpos idx →
      WStep s t { s with blocks := upd s.blocks idx (some (cur s t)),
                         overwrites := s.overwrites + (if liveSlot s idx then 1 else 0), pc := upd s.pc t (.cSt wpos) }
  | slotM {wpos idx} : s.pc t = .mWrB wpos idx →
      WStep s t { s with blocks := upd s.blocks idx (some (cur s t)),
                         overwrites := s.overwrites + (if liveSlot s idx then 1 else 0), pc := upd s.pc t (.mWrW wpos) }
  | cache {wpos v} : s.pc t = .bWrC wpos v →
      WStep s t { s with cached := v, cachedObs := s.obs t, pc := upd s.pc t (.bRdC2 wpos) }
  /-- FULL decided on the loaded resp. the refreshed cached cursor; recorded: the unread messages at that load -/
  | full : s.pc t = .sRdW (ring (s.wc + 1) s.cfg.cap) →
      WStep s t (leaveFn { s with fulls := s.fulls ++ [s.accepted.length - s.obs t] } t .full).1
  | fullB : s.pc t = .bRdC2 s.cached →
      WStep s t (leaveFn { s with fulls := s.fulls ++ [s.accepted.length - s.cachedObs] } t .full).1
  | fullM : s.pc t = .mRdR s.rc →
      WStep s t { s with fulls := s.fulls ++ [s.accepted.length - s.delivered.length], pc := upd s.pc t (.mUnlock .full) }
  /-- `publish s t wpos`: `wc := wpos`, `accepted ++ [cur s t]` -/
  | publish {wpos} : s.pc t = .cSt wpos → WStep s t (leaveFn (publish { s with relWC := s.know t } t wpos) t .ok).1
  | publishM {wpos} : s.pc t = .mWrW wpos → WStep s t { publish s t wpos with pc := upd s.pc t (.mUnlock .ok) }
  | rmLock : s.pc t = .mLock →
      WStep s t { s with rmtx := some t, know := upd s.know t (joinK (s.know t) s.relRM), pc := upd s.pc t .mRdW }
  | rmUnlock {r} : s.pc t = .mUnlock r → WStep s t (leaveFn { s with rmtx := none, relRM := s.know t } t r).1
  | unlock {r w'} : s.pc t = .wUnlock r → (s.cfg.wl = .spin ∧ w' = 0 ∨ s.cfg.wl = .mutex ∧ w' = s.wlock) →
      WStep s t (afterUnlock { s with wlock := w', holder := none, relWL := s.know t } t r).1
  | unlockSync {r} : s.pc t = .wUnlock r → s.cfg.wl = .sync →
      WStep s t { s with wlock := 0, holder := none, relWL := s.know t, pc := upd s.pc t (.wUnlockWake r) }
  /-- `futex_wake(wlock, 1)`: which of the parked writers is woken (the lowest, `firstBlocked`) no invariant asks -/
  | handOver {r w} : s.pc t = .wUnlockWake r → w < s.cfg.W → w ≠ t → s.pc w = .wBlocked →
      WStep s t (afterUnlock { s with pc := upd s.pc w .wWoken } t r).1
  | noWaiter {r} : s.pc t = .wUnlockWake r → (∀ u, u < s.cfg.W → s.pc u ≠ .wBlocked) →
      WStep s t (afterUnlock s t r).1
  | wake {q} : s.pc t = .wWake →
      (∃ rpos, s.cfg.rm = .sync ∧ s.pc s.cfg.W = .rBlocked rpos ∧ q = .rWoken rpos ∨
        s.cfg.rm = .mutex ∧ s.pc s.cfg.W = .rmCvBlocked ∧ q = .rmCvSignaled) →
      WStep s t (finishCall { s with pc := upd s.pc s.cfg.W q } t .ok).1
  | noSleeper : s.pc t = .wWake → (s.cfg.rm = .sync ∧ (∀ rpos, s.pc s.cfg.W ≠ .rBlocked rpos) ∨
        s.cfg.rm = .mutex ∧ s.pc s.cfg.W ≠ .rmCvBlocked) → WStep s t (finishCall s t .ok).1

variable {s s' : St} {t : Nat} {f : Flag} {ev : List String}

theorem wstep_sound (h : wstep s t = some (s', ev)) : WStep s t s' := by
  cases hpc : s.pc t <;> simp only [wstep, hpc] at h
  case wSpinYield => cases h; exact .spin hpc .spinYield
  case wWoken => cases h; exact .spin hpc .woken
  case wFwait e =>
    split at h <;> cases h
    next he => exact .spin hpc (.park he)
    next he => exact .spin hpc (.eagain he)
  case wLock =>
    cases hwl : s.cfg.wl <;> simp only [hwl] at h
    case single => cases h
    case mutex =>
      cases h; exact .acquire hpc (.inr ⟨hwl, rfl⟩)
    case spin =>
      split at h <;> cases h
      next h0 => exact .acquire hpc (.inl ⟨.inl hwl, h0, rfl⟩)
      next h0 => exact .spin hpc (.spinBusy hwl h0)
    case sync =>
      split at h <;> cases h
      next h0 => exact .acquire hpc (.inl ⟨.inr hwl, h0, rfl⟩)
      next h0 => exact .spin hpc (.syncBusy hwl h0)
  case wPay => cases h; exact .pay hpc
  case wYield => cases h; exact .yield hpc
  case sLdR => cases h; exact .ldR hpc
  case bLdR => cases h; exact .ldRB hpc
  case sRdW rpos =>
    split at h <;> cases h
    next he => subst he; exact .full hpc
    next he => exact .probe hpc (.sRoom he)
  case cRdW2 => cases h; exact .probe hpc .cIdx
  case bRdW => cases h; exact .probe hpc .bPos
  case bRdC wpos =>
    split at h <;> cases h
    next he => exact .probe hpc (.bRoom he)
    next he => exact .probe hpc (.bStale (Classical.not_not.1 he))
  case bRdC2 wpos =>
    split at h <;> cases h
    next he => exact .probe hpc (.bRoom2 he)
    next he => cases Classical.not_not.1 he; exact .fullB hpc
  case mRdW => cases h; exact .probe hpc .mPos
  case mRdR wpos =>
    split at h <;> cases h
    next he => subst he; exact .fullM hpc
    next he => exact .probe hpc (.mRoom he)
  case mRdW2 => cases h; exact .probe hpc .mIdx
  case cWrB => cases h; exact .slot hpc
  case mWrB => cases h; exact .slotM hpc
  case bWrC => cases h; exact .cache hpc
  case cSt => cases h; exact .publish hpc
  case mWrW => cases h; exact .publishM hpc
  case mLock => cases h; exact .rmLock hpc
  case mUnlock => cases h; exact .rmUnlock hpc
  case wUnlock r =>
    cases hwl : s.cfg.wl <;> simp only [hwl] at h
    case single => cases h
    case sync => cases h; exact .unlockSync hpc hwl
    case spin => cases h; exact .unlock hpc (.inl ⟨hwl, rfl⟩)
    case mutex => cases h; exact .unlock hpc (.inr ⟨hwl, rfl⟩)
  case wUnlockWake =>
    split at h <;> cases h
    next w hw =>
      have hb := firstBlocked_spec _ _ _ _ hw
      exact .handOver hpc (by simpa using firstBlocked_lt _ _ _ _ hw) (fun e => by rw [e, hpc] at hb; cases hb) hb
    next hw =>
      exact .noWaiter hpc fun u hu => firstBlocked_none _ _ _ hw u (Nat.zero_le _) (by simpa using hu)
  case wWake =>
    cases hrm : s.cfg.rm <;> simp only [hrm, Cfg.reader] at h
    case busy => cases h
    case sync =>
      split at h <;> cases h
      next rpos hr => exact .wake hpc ⟨rpos, .inl ⟨hrm, hr, rfl⟩⟩
      next hr => exact .noSleeper hpc (.inl ⟨hrm, hr⟩)
    case mutex =>
      split at h <;> cases h
      next hr => exact .wake hpc ⟨0, .inr ⟨hrm, hr, rfl⟩⟩
      next hr => exact .noSleeper hpc (.inr ⟨hrm, hr⟩)
  all_goals cases h

/-- the reader's moves that change its pc only -/
inductive Look (s : St) : Pc → Pc → Prop
  | pos : Look s .rRdR (.rLdW (ring (s.rc + 1) s.cfg.cap))
  | park {rpos wpos} : s.wc = wpos → Look s (.rFwait rpos wpos) (.rBlocked rpos)
  | eagain {rpos wpos} : s.wc ≠ wpos → Look s (.rFwait rpos wpos) (.rLdW rpos)
  | woken {rpos} : Look s (.rWoken rpos) (.rLdW rpos)
  | slot {rpos} : Look s (.rRdB rpos) (.rStR rpos (s.blocks rpos))
  | mPos : Look s .rmRdR (.rmRdW (ring (s.rc + 1) s.cfg.cap))
  | mSome {rpos} : rpos ≠ s.wc → Look s (.rmRdW rpos) (.rmRdB rpos)
  | mEmpty {rpos} : rpos = s.wc → Look s (.rmRdW rpos) .rmCvWait
  | mSlot {rpos} : Look s (.rmRdB rpos) (.rmWrR rpos (s.blocks rpos))

/-- the reader is `t = s.cfg.W` -/
inductive RStep (s : St) (t : Nat) : St → Prop
  | look {p p'} : s.pc t = p → Look s p p' → RStep s t { s with pc := upd s.pc t p' }
  /-- the acquire load of `write_cursor`; the busy reader spins on it -/
  | ldW {rpos p'} : s.pc t = .rLdW rpos →
      (s.wc ≠ rpos ∧ p' = .rRdB rpos ∨
        s.wc = rpos ∧ (s.cfg.rm = .busy ∧ p' = .rLdW rpos ∨ s.cfg.rm ≠ .busy ∧ p' = .rFwait rpos s.wc)) →
      RStep s t { s with know := upd s.know t (joinK (s.know t) s.relWC), pc := upd s.pc t p' }
  | consume {rpos d} : s.pc t = .rStR rpos d →
      RStep s t (readReturned { s with rc := rpos, delivered := s.delivered ++ [d] } t d).1
  | pay {m} : s.pc t = .rPay m →
      RStep s t { s with k := upd s.k t (s.k t + 1),
                         hbViol := s.hbViol + (if m ∈ s.know t then 0 else 1), pc := upd s.pc t (rNext s t) }
  /-- also the return from `cond_wait`, signalled or spurious -/
  | rmLock {p} : s.pc t = p → (p = .rmLock ∨ p = .rmCvSignaled ∨ p = .rmCvBlocked) →
      RStep s t { s with rmtx := some t, know := upd s.know t (joinK (s.know t) s.relRM),
                         pc := upd s.pc t .rmRdR }
  | cvWait : s.pc t = .rmCvWait →
      RStep s t { s with rmtx := none, relRM := s.know t, pc := upd s.pc t .rmCvBlocked }
  | consumeM {rpos d} : s.pc t = .rmWrR rpos d →
      RStep s t { s with rc := rpos, delivered := s.delivered ++ [d], pc := upd s.pc t (.rmUnlock d) }
  | rmUnlock {d} : s.pc t = .rmUnlock d →
      RStep s t (readReturned { s with rmtx := none, relRM := s.know t } t d).1

theorem rstep_sound (h : rstep s t f = some (s', ev)) : RStep s t s' := by
  cases hpc : s.pc t <;> simp only [rstep, hpc] at h
  case rRdR => cases h; exact .look hpc .pos
  case rLdW rpos =>
    split at h
    next hne =>
      cases h
      exact .ldW hpc (.inl ⟨hne, rfl⟩)
    next heq =>
      have heq := Classical.not_not.1 heq
      cases hrm : s.cfg.rm <;> simp only [hrm] at h <;> cases h
      · exact .ldW hpc (.inr ⟨heq, .inr ⟨by rw [hrm]; nofun, rfl⟩⟩)
      · exact .ldW hpc (.inr ⟨heq, .inr ⟨by rw [hrm]; nofun, rfl⟩⟩)
      · have := RStep.ldW hpc (.inr ⟨heq, .inl ⟨hrm, rfl⟩⟩)
        rwa [upd_eq_self hpc] at this
  case rFwait =>
    split at h <;> cases h
    next he => exact .look hpc (.park he)
    next he => exact .look hpc (.eagain he)
  case rWoken => cases h; exact .look hpc .woken
  case rRdB => cases h; exact .look hpc .slot
  case rStR => cases h; exact .consume hpc
  case rPay => cases h; exact .pay hpc
  case rmLock => cases h; exact .rmLock hpc (.inl rfl)
  case rmCvSignaled => cases h; exact .rmLock hpc (.inr (.inl rfl))
  case rmCvBlocked =>
    split at h
    · cases h
      exact .rmLock hpc (.inr (.inr rfl))
    · cases h
  case rmRdR => cases h; exact .look hpc .mPos
  case rmRdW =>
    split at h <;> cases h
    next he => exact .look hpc (.mSome he)
    next he => exact .look hpc (.mEmpty (Classical.not_not.1 he))
  case rmRdB => cases h; exact .look hpc .mSlot
  case rmCvWait => cases h; exact .cvWait hpc
  case rmWrR => cases h; exact .consumeM hpc
  case rmUnlock => cases h; exact .rmUnlock hpc
  all_goals cases h

/-- what the scheduler guarantees of a thread it lets run (`St.enabled`): it has not finished, and the pthread mutex
it is about to lock is free -/
structure Ready (s : St) (t : Nat) : Prop where
  alive : s.pc t ≠ .done
  wm : s.pc t = .wLock → s.cfg.wl = .mutex → s.holder = none
  rm : ∀ p, s.pc t = p → p = .mLock ∨ p = .rmLock ∨ p = .rmCvSignaled ∨ p = .rmCvBlocked → s.rmtx = none

theorem ready_of_enabled (hen : s.enabled ⟨t, f⟩ = true) : Ready s t where
  alive e := by simp [St.enabled, e] at hen
  wm hp hwl := by
    simp only [St.enabled, hp, hwl, Bool.and_eq_true, Option.isNone_iff_eq_none] at hen
    exact hen.2.1
  rm p hp hq := by
    rcases hq with rfl | rfl | rfl | rfl <;>
      simp only [St.enabled, hp, Bool.and_eq_true, Option.isNone_iff_eq_none] at hen <;> exact hen.2.1

/-- a step of the system: the interrupted futex wait (`~` on a parked thread goes straight to the re-load of
`write_cursor` / the retry of the lock), a writer's step or the reader's -/
inductive Step (s : St) : St → Prop
  | spur {t q} : t ≤ s.cfg.W →
      ((∃ rpos, s.pc t = .rBlocked rpos ∧ q = .rLdW rpos) ∨ (s.pc t = .wBlocked ∧ q = .wLock)) →
      Step s { s with pc := upd s.pc t q }
  | w {t : Nat} {s1 : St} : t < s.cfg.W → Ready s t → WStep s t s1 → Step s s1
  | r {s1 : St} : Ready s s.cfg.W → RStep s s.cfg.W s1 → Step s s1

theorem step_sound {tok : Tok} (h : step s tok = some (s', ev)) : Step s s' := by
  unfold step at h
  split at h
  next hc =>
    unfold spurStep at h
    split at h
    next rpos hp => cases h; exact .spur hc.2.1 (.inl ⟨rpos, hp, rfl⟩)
    next hp => cases h; exact .spur hc.2.1 (.inr ⟨hp, rfl⟩)
    next => cases h
  next =>
    unfold stepMain at h
    split at h
    · cases h
    next hen =>
      have hen : s.enabled tok = true := by simpa using hen
      split at h
      next hlt => exact .w hlt (ready_of_enabled hen) (wstep_sound h)
      next hge =>
        -- the scheduler runs no thread beyond the reader
        have hle : tok.tid ≤ s.cfg.W := by
          simp only [St.enabled, Bool.and_eq_true, decide_eq_true_eq] at hen
          exact hen.1
        have hW : tok.tid = s.cfg.W := Nat.le_antisymm hle (Nat.le_of_not_lt hge)
        exact .r (hW ▸ ready_of_enabled hen) (hW ▸ rstep_sound h)

theorem WStep.cfg (h : WStep s t s') : s'.cfg = s.cfg := by
  cases h <;> simp only [leaveFn_cfg, afterUnlock_cfg, finishCall_cfg, enterCall_cfg, MgModel.C01.publish, MgModel.C01.acquired]

theorem RStep.frame (h : RStep s t s') : s'.cfg = s.cfg ∧ s'.accepted = s.accepted ∧ s'.okNotes = s.okNotes ∧
    ∀ u, u ≠ t → s'.k u = s.k u ∧ s'.pc u = s.pc u := by
  cases h
  case consume | rmUnlock =>
    rw [readReturned_eq]
    exact ⟨rfl, rfl, rfl, fun u hu => ⟨readReturned_k_other _ _ _ _ hu, upd_other _ _ _ _ hu⟩⟩
  case pay => exact ⟨rfl, rfl, rfl, fun u hu => ⟨upd_other _ _ _ _ hu, upd_other _ _ _ _ hu⟩⟩
  all_goals exact ⟨rfl, rfl, rfl, fun u hu => ⟨rfl, upd_other _ _ _ _ hu⟩⟩

theorem Step.cfg (h : Step s s') : s'.cfg = s.cfg := by
  cases h with
  | spur _ _ => rfl
  | w _ _ h => exact h.cfg
  | r _ h => exact h.frame.1

theorem step_cfg {s s' : St} {tok : Tok} {ev : List String} (h : step s tok = some (s', ev)) : s'.cfg = s.cfg :=
  (step_sound h).cfg

theorem reach_cfg (c : Cfg) (s : St) (hr : Reach step (mkInit c) s) : s.cfg = c :=
  Reach.inv (fun s => s.cfg = c) rfl (fun _ _ _ _ hi h => by rw [step_cfg h]; exact hi) s hr

end MgProof.C01
