import MgProof.C01.DBufInv
/-!
# C01 — double buffer: the hand-over is a happens-before edge (through the mutex)

The back buffer is handed over through the mutex (`Monitor.Handed`); the swap turns what the consumer
learns on acquiring into knowledge of the front buffer.
-/
namespace MgProof.C01.DBuf
open MgModel.Conc MgModel.C01.DBuf
open MgModel.C01 (Msg joinK)

/-- after the swap (and until its next `read`) the consumer knows every item of the front buffer -/
def frontKnown (front kn : List Msg) : Pc → Prop
  | .rSignal => ∀ m ∈ front, m ∈ kn
  | .rUnlock => ∀ m ∈ front, m ∈ kn
  | .rItem _ => ∀ m ∈ front, m ∈ kn
  | _ => True

structure InvK (s : St) : Prop where
  curK : ∀ t, t < s.cfg.W → s.pc t ≠ .dPay → s.pc t ≠ .done → (⟨t, s.k t⟩ : Msg) ∈ s.know t
  free : s.mtx = none → ∀ m ∈ s.back, m ∈ s.relM
  held : ∀ t, s.mtx = some t → ∀ m ∈ s.back, m ∈ s.know t
  cons : frontKnown s.front (s.know s.cfg.W) (s.pc s.cfg.W)
  viol : s.hbViol = 0

variable {s s' : St} {tok : Tok} {ev : List String} {t : Nat}

theorem frontKnown_of_all {front kn : List Msg} (h : ∀ m ∈ front, m ∈ kn) : ∀ q, frontKnown front kn q := by
  intro q; cases q <;> first | exact h | trivial

open Monitor in
theorem Step.invK (hi : Inv s) (hk : InvK s) (ht : t ≤ s.cfg.W) (h : Step s t s') : InvK s' := by
  obtain ⟨k1, k2, k3, k4, hv⟩ := hk
  have hd : Handed s.mtx s.know s.relM s.back := ⟨k2, k3⟩
  have mine := holder_of_inside hi.own ht
  have sub : ∀ m ∈ s.know t, m ∈ joinK (s.know t) s.relM := fun m hm => mem_joinK.2 (.inl hm)
  have ltW := hi.lt_of_isW ht
  have eqW := hi.reader_of_isR ht
  have hcur : t < s.cfg.W → s.pc t ≠ .dPay → s.pc t ≠ .done → cur s t ∈ s.know t := k1 t
  have hd' : Handed s'.mtx s'.know s'.relM s'.back := by
    cases h
    case dPay => exact hd.learn
    case dRefuse _ hm _ _ | dFull _ hm _ _ | rEmpty _ hm _ => rw [hm] at hd; exact hd.acquire
    case dWrite hpc hm _ =>
      rw [hm] at hd; exact hd.put (hcur (hi.lt_of_wantsD ht hpc) hpc.ne.1 hpc.ne.2)
    case rSwap _ hm _ => rw [hm] at hd; exact hd.acquire.sub fun _ h => nomatch h
    case dWait hpc | dNext _ hpc _ | dRetry hpc _ | rWait hpc | rUnlock hpc =>
      rw [mine (by rw [hpc]; rfl)] at hd; exact hd.release
    all_goals exact hd
  have hv' : s'.hbViol = 0 := by
    cases h
    case rItem i hpc m hm =>
      cases eqW (by rw [hpc]; rfl)
      rw [hpc] at k4
      show s.hbViol + (if m ∈ s.know s.cfg.W then 0 else 1) = 0
      rw [if_pos (k4 m (List.mem_of_getElem? hm)), hv]
    all_goals exact hv
  -- a producer supplies its clause of `curK`, the consumer `cons`
  suffices hnew : (t < s.cfg.W ∧ s'.front = s.front ∧
        (s'.pc t ≠ .dPay → s'.pc t ≠ .done → (⟨t, s'.k t⟩ : Msg) ∈ s'.know t)) ∨
      (t = s.cfg.W ∧ frontKnown s'.front (s'.know t) (s'.pc t)) by
    refine ⟨fun u hu => ?_, hd'.free, hd'.held, ?_, hv'⟩
    · rw [h.cfg_eq] at hu
      by_cases e : u = t
      · rcases hnew with ⟨_, _, hme⟩ | ⟨e', _⟩
        · rw [e]; exact hme
        · omega
      · obtain ⟨f1, f2, f3⟩ := h.frame e
        rw [f1, f2]
        rcases f3 with f3 | ⟨f3, f4⟩ | ⟨f3, f4⟩
        · rw [f3]; exact k1 u hu
        · exact fun _ _ => k1 u hu (by rw [f3]; nofun) (by rw [f3]; nofun)
        · exact fun _ _ => k1 u hu (by rw [f3]; nofun) (by rw [f3]; nofun)
    · rw [h.cfg_eq]
      rcases hnew with ⟨hlt, hf, _⟩ | ⟨e, hme⟩
      · obtain ⟨_, f2, f3⟩ := h.frame (Nat.ne_of_gt hlt)
        rw [hf, f2]
        rcases f3 with f3 | ⟨_, f4⟩ | ⟨_, f4⟩
        · rw [f3]; exact k4
        · rw [f4]; trivial
        · rw [f4]; trivial
      · rw [← e]; exact hme
  cases h
  case dPay hpc =>
    refine .inl ⟨ltW (by rw [hpc]; rfl), rfl, fun _ _ => ?_⟩
    show cur s t ∈ upd s.know t (cur s t :: s.know t) t
    rw [upd_same]; exact List.mem_cons_self
  case dRefuse hpc _ _ _ | dFull hpc _ _ _ | dWrite hpc _ _ =>
    refine .inl ⟨hi.lt_of_wantsD ht hpc, rfl, fun _ _ => ?_⟩
    show cur s t ∈ upd s.know t _ t
    rw [upd_same]
    exact sub _ (hcur (hi.lt_of_wantsD ht hpc) hpc.ne.1 hpc.ne.2)
  case dWait hpc | dWake hpc _ | dNoWake hpc _ | dRetry hpc _ | dYield hpc =>
    have htW := ltW (by rw [hpc]; rfl)
    exact .inl ⟨htW, rfl, fun _ _ => hcur htW (by rw [hpc]; nofun) (by rw [hpc]; nofun)⟩
  case dNext _ hpc _ =>
    refine .inl ⟨ltW (by rw [hpc]; rfl), rfl, fun h1 h2 => ?_⟩
    simp only [upd_same] at h1 h2
    exact ((nextW_cases s t).elim h1 h2).elim
  case rEmpty hpc _ _ =>
    exact .inr ⟨hi.reader_of_wantsR ht hpc, by simp only [upd_same]; trivial⟩
  case rSwap hpc hm _ =>
    -- what the last release handed over is now the front buffer
    refine .inr ⟨hi.reader_of_wantsR ht hpc, ?_⟩
    simp only [upd_same]
    exact fun m hb => mem_joinK.2 (.inr (k2 hm m hb))
  case rWait hpc => exact .inr ⟨eqW (by rw [hpc]; rfl), by simp only [upd_same]; trivial⟩
  case rWake hpc _ _ _ | rNoWake hpc _ =>
    have e := eqW (by rw [hpc]; rfl)
    rw [← e, hpc] at k4
    exact .inr ⟨e, by simp only [upd_same]; exact k4⟩
  case rUnlock hpc | rItem _ hpc _ _ =>
    have e := eqW (by rw [hpc]; rfl)
    rw [← e, hpc] at k4
    exact .inr ⟨e, frontKnown_of_all k4 _⟩

theorem stepK (hi : Inv s) (hk : InvK s) (h : step s tok = some (s', ev)) : InvK s' :=
  (step_sound h).2.invK hi hk (step_sound h).1

theorem initK (c : Cfg) : InvK (mkInit c) := by
  refine ⟨fun t (ht : t < c.W) h1 h2 => ?_, fun _ _ h => (nomatch h), nofun, ?_, rfl⟩
  · rcases mkInit_pc c t with ⟨_, e | e⟩ | ⟨e, _⟩ | e
    · exact absurd e h1
    · exact absurd e h2
    · omega
    · exact absurd e h2
  · show frontKnown [] [] ((mkInit c).pc c.W)
    exact frontKnown_of_all (fun _ h => absurd h List.not_mem_nil) _

theorem reachK (c : Cfg) (s : St) (hr : Reach step (mkInit c) s) : Inv s ∧ InvK s :=
  Reach.inv (fun s => Inv s ∧ InvK s) ⟨init_inv c, initK c⟩
    (fun _ _ _ _ hi h => ⟨step_inv hi.1 h, stepK hi.1 hi.2 h⟩) s hr

end MgProof.C01.DBuf
