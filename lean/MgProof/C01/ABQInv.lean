import MgModel.C01.ABQ
import MgProof.C01.Monitor
/-!
# C01 — array blocking queue: FIFO, count and capacity invariant

`puts` = messages in enqueue order, `taken` = results of the dequeues in order; `Inv` ties them to
`cnt`, the indices and the slots, for every capacity ≥ 1, any number of threads, every schedule.
`Step` is `step` in relational form (`step_sound`); every invariant of the queue is proved against it.
-/
namespace MgProof.C01.ABQ
open MgModel.Conc MgModel.C01.ABQ
open MgModel.C01 (Msg joinK)

/-- `if (++idx == capacity) idx = 0` -/
theorem succ_mod_wrap (a n : Nat) (hn : 0 < n) :
    (if a % n + 1 = n then 0 else a % n + 1) = (a + 1) % n := by
  have h : (a + 1) % n = (a % n + 1) % n := (Nat.mod_add_mod a n 1).symm
  have hlt : a % n < n := Nat.mod_lt _ hn
  split
  next e => rw [h, e, Nat.mod_self]
  next ne =>
    have : a % n + 1 < n := by omega
    rw [h, Nat.mod_eq_of_lt this]

/-- pcs holding the mutex -/
def inM : Pc → Bool
  | .pCvWait | .pSignal | .pUnlock | .cCvWait | .cSignal _ | .cUnlock _ => true
  | _ => false

structure Inv (s : St) : Prop where
  capPos : 0 < s.cfg.cap
  own : ∀ t, s.mtx = some t ↔ (t < s.cfg.P + s.cfg.C ∧ inM (s.pc t) = true)
  count : s.cnt + s.taken.length = s.puts.length
  bound : s.cnt ≤ s.cfg.cap
  putI : s.putIdx = s.puts.length % s.cfg.cap
  takeI : s.takeIdx = s.taken.length % s.cfg.cap
  slots : ∀ j, s.taken.length ≤ j → j < s.puts.length → s.datas (j % s.cfg.cap) = s.puts[j]?
  fifo : s.taken = (s.puts.take s.taken.length).map some

theorem firstWaiting_some (pc : Nat → Pc) (which : Pc) (n i w : Nat)
    (h : firstWaiting pc which n i = some w) : pc w = which ∧ w < i + n :=
  let ⟨h1, _, h2⟩ := first_some (P := fun i => pc i = which) (fun _ => rfl) (fun _ _ => rfl) h
  ⟨h1, h2⟩

theorem firstWaiting_none (pc : Nat → Pc) (which : Pc) (n i : Nat) (h : firstWaiting pc which n i = none) :
    ∀ u, i ≤ u → u < i + n → pc u ≠ which :=
  first_none (P := fun i => pc i = which) (fun _ _ => rfl) h

/-- where a producer takes the mutex next: before `mtx-lock`, or parked / notified in `cond_wait` -/
abbrev WantsP (p : Pc) : Prop := p = .pLock ∨ p = .pCvBlocked ∨ p = .pCvSignaled

abbrev WantsC (p : Pc) : Prop := p = .cLock ∨ p = .cCvBlocked ∨ p = .cCvSignaled

def nextP (s : St) (t : Nat) : Pc := if s.k t + 1 < s.cfg.n t then .pPay else .done

def nextC (s : St) (t : Nat) : Pc := if s.k t + 1 < s.cfg.kk t then .cLock else .done

/-- between two operations -/
def Idle (q : Pc) : Prop := q = .pPay ∨ q = .cLock ∨ q = .done

theorem nextP_idle (s : St) (t : Nat) : Idle (nextP s t) := by
  unfold nextP; split
  · exact .inl rfl
  · exact .inr (.inr rfl)

theorem nextC_idle (s : St) (t : Nat) : Idle (nextC s t) := by
  unfold nextC; split
  · exact .inr (.inl rfl)
  · exact .inr (.inr rfl)

theorem mkInit_idle (c : Cfg) (t : Nat) : Idle ((mkInit c).pc t) := by
  simp only [mkInit]
  repeat' split
  all_goals simp [Idle]

theorem Idle.outside {q : Pc} (h : Idle q) : inM q = false := by
  rcases h with e | e | e <;> rw [e] <;> rfl

/-- One step of thread `t`; the step that takes the mutex evaluates the loop condition and, if it fails,
enqueues / dequeues. `notify_one` may wake any parked thread, `step` picks the lowest-numbered one. -/
inductive Step (s : St) (t : Nat) : St → Prop
  | pPay (hpc : s.pc t = .pPay) :
    Step s t { s with know := upd s.know t (cur s t :: s.know t), pc := upd s.pc t .pLock }
  | pFull (hpc : WantsP (s.pc t)) (hm : s.mtx = none)
      (hc : s.cnt = s.cfg.cap) :
    Step s t { s with mtx := some t, know := upd s.know t (joinK (s.know t) s.relM),
                      pc := upd s.pc t .pCvWait }
  | pPut (hpc : WantsP (s.pc t)) (hm : s.mtx = none)
      (hc : s.cnt ≠ s.cfg.cap) :
    Step s t { s with mtx := some t, know := upd s.know t (joinK (s.know t) s.relM),
                      datas := upd s.datas s.putIdx (some (cur s t)),
                      putIdx := if s.putIdx + 1 = s.cfg.cap then 0 else s.putIdx + 1,
                      cnt := s.cnt + 1, puts := s.puts ++ [cur s t], pc := upd s.pc t .pSignal }
  | pWait (hpc : s.pc t = .pCvWait) :
    Step s t { s with mtx := none, relM := s.know t, pc := upd s.pc t .pCvBlocked }
  | pWake (hpc : s.pc t = .pSignal) (w : Nat) (hw : w < s.cfg.P + s.cfg.C) (hwpc : s.pc w = .cCvBlocked) :
    Step s t { s with pc := upd (upd s.pc w .cCvSignaled) t .pUnlock }
  | pNoWake (hpc : s.pc t = .pSignal) (hno : ∀ u, u < s.cfg.P + s.cfg.C → s.pc u ≠ .cCvBlocked) :
    Step s t { s with pc := upd s.pc t .pUnlock }
  | pUnlock (hpc : s.pc t = .pUnlock) :
    Step s t { s with mtx := none, relM := s.know t, k := upd s.k t (s.k t + 1),
                      pc := upd s.pc t (nextP s t) }
  | cEmpty (hpc : WantsC (s.pc t)) (hm : s.mtx = none)
      (hc : s.cnt = 0) :
    Step s t { s with mtx := some t, know := upd s.know t (joinK (s.know t) s.relM),
                      pc := upd s.pc t .cCvWait }
  | cTake (hpc : WantsC (s.pc t)) (hm : s.mtx = none)
      (hc : s.cnt ≠ 0) :
    Step s t { s with mtx := some t, know := upd s.know t (joinK (s.know t) s.relM),
                      takeIdx := if s.takeIdx + 1 = s.cfg.cap then 0 else s.takeIdx + 1,
                      cnt := s.cnt - 1, taken := s.taken ++ [s.datas s.takeIdx],
                      pc := upd s.pc t (.cSignal (s.datas s.takeIdx)) }
  | cWait (hpc : s.pc t = .cCvWait) :
    Step s t { s with mtx := none, relM := s.know t, pc := upd s.pc t .cCvBlocked }
  | cWake (d : Option Msg) (hpc : s.pc t = .cSignal d) (w : Nat) (hw : w < s.cfg.P + s.cfg.C)
      (hwpc : s.pc w = .pCvBlocked) :
    Step s t { s with pc := upd (upd s.pc w .pCvSignaled) t (.cUnlock d) }
  | cNoWake (d : Option Msg) (hpc : s.pc t = .cSignal d)
      (hno : ∀ u, u < s.cfg.P + s.cfg.C → s.pc u ≠ .pCvBlocked) :
    Step s t { s with pc := upd s.pc t (.cUnlock d) }
  | cUnlock (m : Msg) (hpc : s.pc t = .cUnlock (some m)) :
    Step s t { s with mtx := none, relM := s.know t, pc := upd s.pc t (.cPay m) }
  | cUnlockBad (hpc : s.pc t = .cUnlock none) :
    Step s t { s with mtx := none, relM := s.know t, k := upd s.k t (s.k t + 1),
                      pc := upd s.pc t (nextC s t) }
  | cPay (m : Msg) (hpc : s.pc t = .cPay m) :
    Step s t { s with hbViol := s.hbViol + (if m ∈ s.know t then 0 else 1), k := upd s.k t (s.k t + 1),
                      pc := upd s.pc t (nextC s t) }

variable {s s' : St} {tok : Tok} {ev : List String} {t : Nat}

theorem lt_of_enabled (hen : s.enabled tok = true) : tok.tid < s.cfg.P + s.cfg.C := by
  simp only [St.enabled, Bool.and_eq_true, decide_eq_true_eq] at hen; exact hen.1

theorem free_of_enabled (hen : s.enabled tok = true)
    (hpc : WantsP (s.pc tok.tid) ∨ WantsC (s.pc tok.tid)) : s.mtx = none := by
  rcases hpc with (h | h | h) | (h | h | h) <;>
    (simp only [St.enabled, h, Bool.and_eq_true, Option.isNone_iff_eq_none] at hen; exact hen.2.1)

theorem pEnter_of_full (hc : s.cnt = s.cfg.cap) :
    pEnter s t = { s with mtx := some t, know := upd s.know t (joinK (s.know t) s.relM),
                          pc := upd s.pc t .pCvWait } :=
  if_pos hc

theorem pEnter_of_room (hc : s.cnt ≠ s.cfg.cap) :
    pEnter s t = { s with mtx := some t, know := upd s.know t (joinK (s.know t) s.relM),
                          datas := upd s.datas s.putIdx (some (cur s t)),
                          putIdx := if s.putIdx + 1 = s.cfg.cap then 0 else s.putIdx + 1,
                          cnt := s.cnt + 1, puts := s.puts ++ [cur s t], pc := upd s.pc t .pSignal } :=
  if_neg hc

theorem cEnter_of_empty (hc : s.cnt = 0) :
    cEnter s t = { s with mtx := some t, know := upd s.know t (joinK (s.know t) s.relM),
                          pc := upd s.pc t .cCvWait } :=
  if_pos hc

theorem cEnter_of_some (hc : s.cnt ≠ 0) :
    cEnter s t = { s with mtx := some t, know := upd s.know t (joinK (s.know t) s.relM),
                          takeIdx := if s.takeIdx + 1 = s.cfg.cap then 0 else s.takeIdx + 1,
                          cnt := s.cnt - 1, taken := s.taken ++ [s.datas s.takeIdx],
                          pc := upd s.pc t (.cSignal (s.datas s.takeIdx)) } :=
  if_neg hc

theorem pEnter_step (hpc : WantsP (s.pc t)) (hm : s.mtx = none) : Step s t (pEnter s t) := by
  by_cases hc : s.cnt = s.cfg.cap
  · rw [pEnter_of_full hc]; exact .pFull hpc hm hc
  · rw [pEnter_of_room hc]; exact .pPut hpc hm hc

theorem cEnter_step (hpc : WantsC (s.pc t)) (hm : s.mtx = none) : Step s t (cEnter s t) := by
  by_cases hc : s.cnt = 0
  · rw [cEnter_of_empty hc]; exact .cEmpty hpc hm hc
  · rw [cEnter_of_some hc]; exact .cTake hpc hm hc

theorem step_sound (h : step s tok = some (s', ev)) :
    tok.tid < s.cfg.P + s.cfg.C ∧ Step s tok.tid s' := by
  unfold step at h
  split at h
  · cases h
  next hen =>
    have hen : s.enabled tok = true := by simpa using hen
    have hfree := free_of_enabled hen
    refine ⟨lt_of_enabled hen, ?_⟩
    cases hpc : s.pc tok.tid <;> simp only [hpc] at h hfree
    case done => cases h
    case pPay => cases h; exact .pPay hpc
    case pLock => cases h; exact pEnter_step (.inl hpc) (hfree (.inl (.inl rfl)))
    case pCvBlocked => cases h; exact pEnter_step (.inr (.inl hpc)) (hfree (.inl (.inr (.inl rfl))))
    case pCvSignaled => cases h; exact pEnter_step (.inr (.inr hpc)) (hfree (.inl (.inr (.inr rfl))))
    case pCvWait => cases h; exact .pWait hpc
    case pSignal =>
      split at h <;> cases h
      next w hw =>
        have := firstWaiting_some _ _ _ _ _ hw
        exact .pWake hpc w (by omega) this.1
      next hw => exact .pNoWake hpc fun u hu => firstWaiting_none _ _ _ _ hw u (Nat.zero_le _) (by omega)
    case pUnlock => cases h; exact .pUnlock hpc
    case cLock => cases h; exact cEnter_step (.inl hpc) (hfree (.inr (.inl rfl)))
    case cCvBlocked => cases h; exact cEnter_step (.inr (.inl hpc)) (hfree (.inr (.inr (.inl rfl))))
    case cCvSignaled => cases h; exact cEnter_step (.inr (.inr hpc)) (hfree (.inr (.inr (.inr rfl))))
    case cCvWait => cases h; exact .cWait hpc
    case cSignal d =>
      split at h <;> cases h
      next w hw =>
        have := firstWaiting_some _ _ _ _ _ hw
        exact .cWake d hpc w (by omega) this.1
      next hw => exact .cNoWake d hpc fun u hu => firstWaiting_none _ _ _ _ hw u (Nat.zero_le _) (by omega)
    case cUnlock d =>
      cases d <;> cases h
      · exact .cUnlockBad hpc
      · exact .cUnlock _ hpc
    case cPay m => cases h; exact .cPay m hpc

def Framed (s s' : St) (u : Nat) : Prop :=
  s'.k u = s.k u ∧ s'.know u = s.know u ∧
  (s'.pc u = s.pc u ∨ (s.pc u = .cCvBlocked ∧ s'.pc u = .cCvSignaled) ∨ (s.pc u = .pCvBlocked ∧ s'.pc u = .pCvSignaled))

theorem Step.frame (h : Step s t s') {u : Nat} (hu : u ≠ t) : Framed s s' u := by
  unfold Framed
  cases h
  case pWake _ w _ hw =>
    simp only [upd_other _ _ _ _ hu, true_and]; exact (Monitor.upd_woken s.pc hw _ u).imp_right .inl
  case cWake _ _ w _ hw =>
    simp only [upd_other _ _ _ _ hu, true_and]; exact (Monitor.upd_woken s.pc hw _ u).imp_right .inr
  all_goals simp only [upd_other _ _ _ _ hu, true_or, and_self]

theorem Step.cfg_eq (h : Step s t s') : s'.cfg = s.cfg := by cases h <;> rfl

theorem Framed.inside {u : Nat} (h : Framed s s' u) : s'.pc u = s.pc u ∨ inM (s'.pc u) = false := by
  obtain ⟨-, -, f | ⟨-, f⟩ | ⟨-, f⟩⟩ := h
  · exact .inl f
  · exact .inr (by rw [f]; rfl)
  · exact .inr (by rw [f]; rfl)

theorem Step.cnt_eq (h : Step s t s') : s'.cnt = s.cnt ∨ s.mtx = none := by
  cases h
  case pPut _ hm _ | cTake _ hm _ => exact .inr hm
  all_goals exact .inl rfl

/-- the new element lands on a slot no untaken element occupies: fewer than `cap` are untaken -/
theorem Inv.put (hi : Inv s) (ht : t < s.cfg.P + s.cfg.C) (hm : s.mtx = none) (hc : s.cnt ≠ s.cfg.cap) :
    Inv { s with mtx := some t, know := upd s.know t (joinK (s.know t) s.relM),
                 datas := upd s.datas s.putIdx (some (cur s t)),
                 putIdx := if s.putIdx + 1 = s.cfg.cap then 0 else s.putIdx + 1,
                 cnt := s.cnt + 1, puts := s.puts ++ [cur s t], pc := upd s.pc t .pSignal } := by
  have h1 := hi.own
  obtain ⟨h0, -, h2, h3, h4, h5, h6, h7⟩ := hi
  refine ⟨h0, own_acquire h1 hm ht rfl, ?_, ?_, ?_, h5, ?_, ?_⟩
  all_goals simp only [List.length_append, List.length_cons, List.length_nil]
  · omega
  · omega
  · rw [h4]; exact succ_mod_wrap _ _ h0
  · intro j hj1 hj2
    rw [h4]
    rcases Nat.lt_or_ge j s.puts.length with hlt | hge
    · have hne : j % s.cfg.cap ≠ s.puts.length % s.cfg.cap := fun e => by
        have := Nat.mod_inj_of_lt_add (a := j) (b := s.puts.length) e (by omega) (by omega)
        omega
      rw [upd_other _ _ _ _ hne, List.getElem?_append_left hlt]; exact h6 j hj1 hlt
    · have : j = s.puts.length := by omega
      subst this
      rw [upd_same, List.getElem?_append_right (Nat.le_refl _), Nat.sub_self]; rfl
  · rw [List.take_append_of_le_length (by omega)]; exact h7

theorem Inv.take (hi : Inv s) (ht : t < s.cfg.P + s.cfg.C) (hm : s.mtx = none) (hc : s.cnt ≠ 0) :
    Inv { s with mtx := some t, know := upd s.know t (joinK (s.know t) s.relM),
                 takeIdx := if s.takeIdx + 1 = s.cfg.cap then 0 else s.takeIdx + 1,
                 cnt := s.cnt - 1, taken := s.taken ++ [s.datas s.takeIdx],
                 pc := upd s.pc t (.cSignal (s.datas s.takeIdx)) } := by
  have h1 := hi.own
  obtain ⟨h0, -, h2, h3, h4, h5, h6, h7⟩ := hi
  have hlt : s.taken.length < s.puts.length := by omega
  refine ⟨h0, own_acquire h1 hm ht rfl, ?_, ?_, h4, ?_, ?_, ?_⟩
  all_goals simp only [List.length_append, List.length_cons, List.length_nil]
  · omega
  · omega
  · rw [h5]; exact succ_mod_wrap _ _ h0
  · exact fun j hj1 hj2 => h6 j (by omega) hj2
  · rw [h5, h6 _ (Nat.le_refl _) hlt]
    exact fifo_consume hlt h7

theorem Step.inv (hi : Inv s) (ht : t < s.cfg.P + s.cfg.C) (h : Step s t s') : Inv s' := by
  have mine := holder_of_inside hi.own ht
  have h1 := hi.own
  cases h
  case pPay hpc | pNoWake hpc _ | cNoWake _ hpc _ =>
    exact { hi with own := own_same h1 (by rw [hpc]; rfl) }
  case pFull _ hm _ | cEmpty _ hm _ => exact { hi with own := own_acquire h1 hm ht rfl }
  case pPut _ hm hc => exact hi.put ht hm hc
  case cTake _ hm hc => exact hi.take ht hm hc
  case pWait hpc | cWait hpc | cUnlock _ hpc =>
    exact { hi with own := own_release h1 (mine (by rw [hpc]; rfl)) rfl }
  case pUnlock hpc =>
    exact { hi with own := own_release h1 (mine (by rw [hpc]; rfl)) (nextP_idle s t).outside }
  case cUnlockBad hpc =>
    exact { hi with own := own_release h1 (mine (by rw [hpc]; rfl)) (nextC_idle s t).outside }
  case cPay _ hpc =>
    exact { hi with own := own_same h1 (by rw [hpc]; exact (nextC_idle s t).outside) }
  case pWake hpc w _ hw | cWake _ hpc w _ hw =>
    have hne : t ≠ w := fun e => by rw [e, hw] at hpc; cases hpc
    exact { hi with own := own_same (own_same h1 (by rw [hw]; rfl)) (by rw [upd_other _ _ _ _ hne, hpc]; rfl) }

theorem step_inv (hi : Inv s) (h : step s tok = some (s', ev)) : Inv s' :=
  (step_sound h).2.inv hi (step_sound h).1

theorem init_inv (c : Cfg) (hc : 0 < c.cap) : Inv (mkInit c) := by
  refine ⟨hc, fun t => ⟨nofun, fun h => ?_⟩, rfl, Nat.zero_le _, (Nat.zero_mod _).symm,
    (Nat.zero_mod _).symm, fun j _ h => (nomatch h), rfl⟩
  have h2 := h.2
  rw [(mkInit_idle c t).outside] at h2; cases h2

theorem reach_inv (c : Cfg) (hc : 0 < c.cap) (s : St) (hr : Reach step (mkInit c) s) : Inv s :=
  Reach.inv Inv (init_inv c hc) (fun _ _ _ _ hi h => step_inv hi h) s hr

end MgProof.C01.ABQ
