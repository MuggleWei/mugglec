import MgProof.C08.Lemmas
/-! What the writer-crash clause needs of a step, from any state: the other threads stay where they are,
and a thread that only fetches commits nothing and can only append to `delivered`. -/
namespace MgProof.C08
open MgModel.Conc MgModel.C08

variable {s s' s1 : St} {t : Nat}

def PureReader (t : Nat) (s : St) : Prop :=
  (∀ op, op ∈ s.prog t → isFetch op = true) ∧ asec (s.pc t) = false

theorem PureReader.frame {rt : Nat} (hp : PureReader rt s) (e : s'.pc rt = s.pc rt ∧ s'.prog rt = s.prog rt) :
    PureReader rt s' := by
  unfold PureReader at *
  rw [e.1, e.2]; exact hp

structure Ctl (s : St) (t : Nat) (s' : St) : Prop where
  other : ∀ t', t' ≠ t → s'.pc t' = s.pc t' ∧ s'.prog t' = s.prog t'
  pure  : PureReader t s →
            PureReader t s' ∧ s'.committed = s.committed ∧ ∃ d, s'.delivered = s.delivered ++ d

theorem Begin.log (h : Begin s t s') : s'.committed = s.committed ∧ s'.delivered = s.delivered := by
  cases h <;> exact ⟨rfl, rfl⟩

theorem Begin.frame (h : Begin s t s') {t' : Nat} (ht : t' ≠ t) : s'.pc t' = s.pc t' ∧ s'.prog t' = s.prog t' := by
  cases h <;> simp [upd, ht]

theorem Begin.pure (h : Begin s t s') (hf : ∀ op, op ∈ s.prog t → isFetch op = true) : PureReader t s' := by
  cases h with
  | done hp => exact ⟨by simp [hp], by simp [asec, wsec]⟩
  | fetch hp =>
    refine ⟨?_, by simp [asec, wsec]⟩
    intro o ho
    simp only [upd_same] at ho
    exact hf o (by rw [hp]; exact List.mem_cons_of_mem _ ho)
  | alloc hp => have := hf _ (by rw [hp]; exact List.mem_cons_self); simp [isFetch] at this

theorem beginOp_log (s : St) (t : Nat) :
    (beginOp s t).1.committed = s.committed ∧ (beginOp s t).1.delivered = s.delivered :=
  (beginOp_begin s t).log

theorem beginOp_frame (s : St) (t : Nat) {t' : Nat} (h : t' ≠ t) :
    (beginOp s t).1.pc t' = s.pc t' ∧ (beginOp s t).1.prog t' = s.prog t' :=
  (beginOp_begin s t).frame h

theorem release_frame (s : St) (t : Nat) {t' : Nat} (h : t' ≠ t) :
    (release s t).1.pc t' = s.pc t' ∧ (release s t).1.prog t' = s.prog t' := by
  rw [release_eq]; split
  · exact ⟨upd_other _ _ _ _ h, rfl⟩
  · exact beginOp_frame s t h

theorem beginOp_pure (h : ∀ op, op ∈ s.prog t → isFetch op = true) : PureReader t (beginOp s t).1 :=
  (beginOp_begin s t).pure h

theorem Ctl.alloc {p' : Pc} (hin : asec (s.pc t) = true) (hpc : s'.pc = upd s.pc t p' := by rfl)
    (hprog : s'.prog = s.prog := by rfl) : Ctl s t s' :=
  ⟨fun t' h => ⟨by rw [hpc, upd_other _ _ _ _ h], by rw [hprog]⟩, fun hp => by rw [hp.2] at hin; cases hin⟩

theorem Ctl.release (hin : asec (s.pc t) = true) (hpc : s1.pc = s.pc := by rfl)
    (hprog : s1.prog = s.prog := by rfl) : Ctl s t (release s1 t).1 :=
  ⟨fun t' h => by rw [← hpc, ← hprog]; exact release_frame s1 t h, fun hp => by rw [hp.2] at hin; cases hin⟩

theorem Ctl.read {p' : Pc} (hpc : s'.pc = upd s.pc t p' := by rfl) (hp' : asec p' = false := by rfl)
    (hprog : s'.prog = s.prog := by rfl) (hc : s'.committed = s.committed := by rfl)
    (hd : s'.delivered = s.delivered := by rfl) : Ctl s t s' :=
  ⟨fun t' h => ⟨by rw [hpc, upd_other _ _ _ _ h], by rw [hprog]⟩,
   fun hp => ⟨⟨by rw [hprog]; exact hp.1, by rw [hpc, upd_same]; exact hp'⟩, hc, [], by rw [hd, List.append_nil]⟩⟩

theorem Ctl.beginOp (d : List Msg) (hd : s1.delivered = s.delivered ++ d) (hpc : s1.pc = s.pc := by rfl)
    (hprog : s1.prog = s.prog := by rfl) (hc : s1.committed = s.committed := by rfl) :
    Ctl s t (beginOp s1 t).1 :=
  ⟨fun t' h => by rw [← hpc, ← hprog]; exact beginOp_frame s1 t h,
   fun hp => ⟨beginOp_pure (by rw [hprog]; exact hp.1), (beginOp_log s1 t).1.trans hc, d,
     (beginOp_log s1 t).2.trans hd⟩⟩

theorem Ctl.afterPayload (hin : asec (s.pc t) = true) (hpc : s1.pc = s.pc := by rfl)
    (hprog : s1.prog = s.prog := by rfl) : Ctl s t (afterPayload s1 t).1 := by
  rw [afterPayload_eq]
  split
  · exact .alloc hin (p' := .m1) (by rw [← hpc]) hprog
  · exact .release hin hpc hprog

/-- only `m6` touches `committed`, and it is inside an allocation -/
theorem WStep.ctl (h : WStep s t s') : Ctl s t s' := by
  cases h with
  | lk_free hpc | lk_busy hpc | lkY hpc | um4 hpc | h4 hpc | m2 hpc => exact .alloc (by rw [hpc]; rfl)
  | wloc hpc h | wcr hpc h | whb hpc h | whc hpc h => exact .alloc (by rw [hpc]; exact asec_of_wsec h.sec.1)
  | a2_fail hpc | m6 hpc => exact .release (by rw [hpc]; rfl)
  | h4_empty hpc | p1 hpc => exact .afterPayload (by rw [hpc]; rfl)
  | unl => exact .beginOp [] (List.append_nil _).symm

/-- only `r4` appends to `delivered` -/
theorem RStep.ctl (h : RStep s t s') : Ctl s t s' := by
  cases h with
  | f0 | g3_empty | rp | k1 => exact .read
  | rloc _ h | rrh _ h | rload _ h => exact .read (hp' := asec_of_rsec h.sec.2)
  | rnone => exact .beginOp [] (List.append_nil _).symm
  | r4 => exact .beginOp _ rfl

theorem Step.ctl (h : Step s t s') : Ctl s t s' := by
  cases h with
  | fail => exact .read
  | w h => exact h.ctl
  | r h => exact h.ctl

theorem step_ctl {tok : Tok} {ev : List String} (hs : step s tok = some (s', ev)) : Ctl s tok.tid s' :=
  (step_sound hs).ctl

end MgProof.C08
