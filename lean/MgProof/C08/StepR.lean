import MgProof.C08.HB
/-! Both invariants across the reader's moves: `r_fetch` and `r_move` (`RStep`). -/
namespace MgProof.C08
open MgModel.Conc MgModel.C08

variable {wt rt : Nat} {s s' : St} {t : Nat} {p p' : Pc}

theorem RInv.next (h : RLoc s p p') (hr : RInv s p) : RInv s p' := by
  cases h with
  | f1 hwr => exact ⟨hwr, hr⟩
  | f2 | k2 | r3 => exact ⟨rfl, hr⟩
  | f4 hRH | g1 hRH | k4 hRH | g3 hRH => rw [hr.1] at hRH; cases hRH; exact ⟨rfl, hr⟩
  | r1 hRH => rw [hr.1] at hRH; cases hRH; exact ⟨rfl, hr.2⟩

theorem HR.next (h : RLoc s p p') (hh : HR s t p) : HR s t p' := by
  cases h <;> exact hh

/-- what the reader learns from the header word it loads; the read is not stale because the cell was seen when
`write_cursor` was loaded (`seen_at_R`) or belongs to the head of `q1` (`head_fresh`) -/
theorem RLoad.next {c : Nat} (inv : Inv wt rt s) (h : RLoad s p c p') (hr : RInv s p) :
    RInv s p' ∧ (HR s t p → staleRead s t c = 0 ∧ HR s t p') := by
  cases h with
  | f5_msg _ hhb hne =>
    obtain ⟨rfl, hRH, hwr, hf⟩ := hr
    rcases inv.hdr_R hf hwr with ⟨m, l, hq, -, -⟩ | ⟨-, -, hhb', -⟩
    · exact ⟨⟨hRH, by simp [hq]⟩,
        fun hk => ⟨(seen_at_R inv hk hf hwr).1, m, l, hq, (seen_at_R inv hk hf hwr).2.1 m l hq⟩⟩
    · rw [hhb'] at hhb; cases hhb; exact absurd rfl hne
  | f5_mark _ hhb hnb hw0 =>
    obtain ⟨rfl, hRH, hwr, hf⟩ := hr
    rcases inv.hdr_R hf hwr with ⟨m, l, -, hhb', hm⟩ | ⟨hq, hmk, -, hmk0⟩
    · rw [hhb'] at hhb; cases hhb; omega
    · exact ⟨⟨hRH, hq, hmk, hf.2.2.2.1 hmk0 hw0⟩,
        fun hk => ⟨(seen_at_R inv hk hf hwr).1, (seen_at_R inv hk hf hwr).2.2 hq hw0⟩⟩
  | g2 _ hhb =>
    obtain ⟨rfl, hRH, hne⟩ := hr
    obtain ⟨m, l, hq, hhb', -⟩ := inv.hdr_head hne
    rw [hhb'] at hhb; cases hhb
    exact ⟨⟨hRH, m, l, hq, rfl⟩, fun hh => ⟨head_fresh inv hh, hh⟩⟩
  | k5 _ hhb hnb =>
    obtain ⟨rfl, hRH, hne⟩ := hr
    exact ⟨⟨hRH, hne⟩, fun hh => ⟨head_fresh inv hh, hh⟩⟩
  | r2 _ hhc =>
    obtain ⟨rfl, hheld⟩ := hr
    obtain ⟨m, l, hq, -⟩ := id hheld
    obtain ⟨hcell, ⟨-, -, -, hhc', -⟩, -⟩ := inv.head hq
    rw [← hcell, hhc'] at hhc; cases hhc
    exact ⟨⟨hheld, m, l, hq, rfl⟩, fun hh => ⟨head_fresh inv hh, trivial⟩⟩

/-- `r_fetch` returns `NULL` only if nothing was pending when it loaded `write_cursor` -/
theorem RNone.next {st : Nat} (inv : Inv wt rt s) (h : RNone s t p st) (hr : RInv s p) :
    s.rP0 = 0 ∧ (HR s t p → st = s.stale) := by
  cases h with
  | f1 hwr => exact ⟨hr.1 hwr, fun _ => rfl⟩
  | f5 _ hhb hnb hw0 =>
    obtain ⟨rfl, hRH, hwr, hf⟩ := hr
    refine ⟨?_, fun hk => by rw [(seen_at_R inv hk hf hwr).1]; rfl⟩
    rcases inv.hdr_R hf hwr with ⟨m, l, -, hhb', hm⟩ | ⟨hq, -, -, hmk0⟩
    · rw [hhb'] at hhb; cases hhb; omega
    · rw [hf.2.2.1 hmk0 hw0, hq]; rfl
  | k5 _ hhb hnb =>
    obtain ⟨rfl, hRH, hne⟩ := hr
    obtain ⟨m, l, hq, hhb', hm⟩ := inv.hdr_head hne
    rw [hhb'] at hhb; cases hhb; omega

/-- `Fw` when `r_fetch` loads `write_cursor`, from `Geo` -/
theorem RInv.load {pc : Nat → Pc} {know : Nat → List Nat} (inv : Inv wt rt s) :
    RInv { s with pc := pc, rP0 := s.pend.length, rMk0 := s.mark.isSome, know := know } (.f1 s.W) := by
  simp only [RInv, Fw, inv.pend]
  cases hmk : s.mark with
  | none =>
    have g := inv.geo_none hmk
    refine ⟨?_, by simp, by simp, by simp, ?_⟩
    · intro h; rw [h] at g; rw [chain_self_nil g.1, g.2]; rfl
    · intro _ h; exact chain_ne_nil g.1 (fun e => h e.symm)
  | some M =>
    have g := inv.geo_some hmk
    refine ⟨?_, by simp, ?_, ?_, by simp⟩
    · intro h; omega
    · intro _ h; rw [h] at g; rw [chain_self_nil g.2.1]; simp
    · intro _ h; exact chain_ne_nil g.2.1 (fun e => h e.symm)

/-- `HK` at the acquire load, from `pub` and `mrk` -/
theorem HR.load {pc : Nat → Pc} (inv : Inv wt rt s) (h : HInv wt s) :
    HR { s with pc := pc, rP0 := s.pend.length, rMk0 := s.mark.isSome,
                know := upd s.know t (kmerge (s.know t) s.relW) } t (.f1 s.W) := by
  have seen : ∀ m, m ∈ s.q1 ++ s.q2 → ∀ i, i < spanCells m.nb →
      Knows s (upd s.know t (kmerge (s.know t) s.relW) t) (m.cell + i) := by
    intro m hm i hi; rw [upd_same]; exact (h.pub m hm i hi).mono fun _ hx => mem_kmerge_right _ hx
  simp only [HR, HK, Seen]
  cases hmk : s.mark with
  | none =>
    have g := inv.geo_none hmk
    refine ⟨fun _ hw => ?_, fun hc => by simp at hc⟩
    cases hq : s.q1 with
    | nil => rw [hq] at g; simp only [chain] at g; exact absurd g.1.symm hw
    | cons m l => exact ⟨m, l, rfl, seen m (by simp [hq])⟩
  | some M =>
    have g := inv.geo_some hmk
    refine ⟨fun hc => by simp at hc, fun _ => ⟨?_, ?_, ?_⟩⟩
    · intro m l hq; exact seen m (by simp [hq])
    · intro M' hM'; cases hM'; rw [upd_same]; exact (h.mrk M hmk).mono fun _ hx => mem_kmerge_right _ hx
    · intro hw
      cases hq : s.q2 with
      | nil => rw [hq] at g; simp only [chain] at g; exact absurd g.2.1.symm hw
      | cons m l => exact ⟨m, l, rfl, seen m (by simp [hq])⟩

theorem RStep.keeps (h : RStep s t s') (inv : Inv wt rt s) : Keeps wt rt s s' := by
  cases h with
  | f0 hpc =>
    obtain ⟨hin, -⟩ := inv.at_r hpc rfl
    -- the acquire load: everything published so far is seen from now on
    have hkn : ∀ t', s.know t' ⊆ upd s.know t (kmerge (s.know t) s.relW) t' :=
      know_grows fun _ => mem_kmerge_left _
    exact ⟨rstep inv hin ⟨inv.geo, inv.crok, inv.rle, inv.msgs, inv.log, inv.cnt⟩ (fun _ _ _ h => h)
        (p' := .f1 s.W) (RInv.load inv),
      fun h => hb_rstep inv h hin (p' := .f1 s.W) hkn ⟨h.stale, h.pub, h.mrk⟩ (HR.load inv h)⟩
  | rloc hpc h =>
    obtain ⟨hin, hr⟩ := inv.at_r hpc h.sec.1
    exact rquiet inv hin (RInv.next h hr) (fun _ => rfl) (fun hh => HR.next h (hh.at_r hpc)) h.sec.2
  | rrh hpc h =>
    obtain ⟨hin, hr⟩ := inv.at_r hpc h.sec.1
    refine rquiet (st := s.stale) inv hin ?_ (fun _ => rfl) (fun hh => ?_) h.sec.2
    · cases h <;> (obtain ⟨rfl, hr⟩ := hr; exact ⟨rfl, hr⟩)
    · cases h <;> exact (hh.at_r hpc :)
  | rload hpc h =>
    obtain ⟨hin, hr⟩ := inv.at_r hpc h.sec.1
    obtain ⟨hr', hh⟩ := RLoad.next (t := t) inv h hr
    exact rquiet (x := s.RH) inv hin hr' (fun h => by rw [(hh (h.at_r hpc)).1]; rfl)
      (fun h => (hh (h.at_r hpc)).2) h.sec.2
  | rnone hpc h =>
    obtain ⟨hin, hr⟩ := inv.at_r hpc h.sec
    obtain ⟨h0, hst⟩ := RNone.next inv h hr
    rw [if_pos h0]
    exact ⟨finish_r inv hin ⟨inv.geo, inv.crok, inv.rle, inv.msgs, inv.log, inv.cnt⟩ (fun _ _ _ h => h),
      fun h => hfinish_r inv h hin ⟨(hst (h.at_r hpc)).trans h.stale, h.pub, h.mrk⟩⟩
  | @rp h nb c tag hpc hcdef _ hpbc =>
    -- the last byte lies in the span of the head of `q1`: its value from `MsgOk`, its freshness from `HeadSeen`
    obtain ⟨hin, rfl, hRH, m, l, hq, rfl⟩ := inv.at_r hpc rfl
    obtain ⟨hcell, ⟨hnb, hncl, hhb, hhc, hpb⟩, hend⟩ := inv.head hq
    have hsp := span_add_two m.nb
    obtain ⟨hc1, hc2⟩ := lastByteCell_bounds s.R hnb
    rw [← hcdef] at hc1 hc2
    have hcc : c = m.cell + (c - s.R) := by omega
    obtain rfl : m.tag = tag := by
      have := hpb (c - s.R) (by omega)
      rw [← hcc, hpbc] at this
      exact (Option.some.inj this).symm
    have hok : ((List.range (spanCells m.nb)).all fun i => s.pb (s.R + i) == some m.tag) = true := by
      rw [List.all_eq_true]
      intro i hi
      rw [← hcell, hpb i (List.mem_range.mp hi)]
      simp
    have hfc : fifoCheck s s.R m.nb m.tag = 0 := by
      simp only [fifoCheck, inv.pend, hq, List.cons_append, hcell, and_self, if_true]
    have hst : HInv wt s → staleRead s t c = 0 := by
      intro h
      obtain ⟨m', l', hq', hseen⟩ : HeadSeen s t := h.at_r hpc
      rw [hq] at hq'; cases hq'
      rw [hcc]; exact staleRead_of_knows (hseen _ (by omega))
    simp only [hok, hfc, if_true, Nat.add_zero]
    exact ⟨rstep inv hin ⟨inv.geo, inv.crok, inv.rle, inv.msgs, inv.log, inv.cnt⟩
        (fun _ _ _ h => h) (p' := .r1)
        ⟨hRH, m, l, hq, hcell.symm, rfl, rfl⟩,
      fun h => hb_rstep inv h hin (p' := .r1) (fun _ _ hx => hx)
        ⟨by show s.stale + staleRead s t c = 0; rw [hst h]; exact h.stale, h.pub, h.mrk⟩ (h.at_r hpc :)⟩
  | k1 hpc =>
    -- the reader passes the marker: `q2` becomes `q1`
    obtain ⟨hin, hRH, hq, hmk, hq2⟩ := inv.at_r hpc rfl
    have g := inv.geo_some hmk
    simp only [hq, chain] at g
    have hrl := inv.rle
    refine ⟨rstep inv hin ⟨?_, ?_, ?_, ?_, ?_, inv.cnt⟩
        (fun t' p _ h => h.mono (fun h0 => hq2 h0.2)
          (Or.inr ⟨by simp [hmk], rfl⟩))
        (p' := .k2) ?_,
      fun h => hb_rstep inv h hin (p' := .k2) (fun _ _ hx => hx) ⟨h.stale, ?_, ?_⟩ ?_⟩
    -- `Geo`, `CROk`, `R + 1 ≤ N`, `msgs`, `log`, `RInv` at `k2`; then `pub`, `mrk`, `HR` at `k2`
    · unfold Geo; simp only [hq, List.nil_append]; exact ⟨g.2.1, trivial⟩
    · exact ⟨inv.crok.1, fun h => by simp at h⟩
    · show 0 + 1 ≤ s.N; omega
    · intro m hm
      have : m ∈ s.q1 ++ s.q2 := by simpa using hm
      exact inv.msgs m this
    · show s.committed = s.delivered ++ (s.q1 ++ s.q2 ++ [])
      rw [List.append_nil]; exact inv.log
    · simp only [RInv, hq, List.nil_append]; exact hq2
    · intro m hm; exact h.pub m (by simpa using hm)
    · intro M hM; cases hM
    · simp only [HR, HeadSeen, Seen, hq, List.nil_append]; exact (h.at_r hpc :)
  | r4 hpc =>
    -- the head of `q1` is consumed: `rcur` with the `ncl` just read is that message (`Held`)
    obtain ⟨hin, rfl, ⟨m, l, hq, h1, h2, h3⟩, m', l', hq', rfl⟩ := inv.at_r hpc rfl
    rw [hq] at hq'
    cases hq'
    obtain ⟨hcell, hmok, hend⟩ := inv.head hq
    have hmeq : ({ s.rcur with ncl := m.ncl } : Msg) = m := by
      cases m; cases hrc : s.rcur; simp_all
    simp only [hq, List.isEmpty_cons, Bool.false_eq_true, if_false, List.tail_cons, hmeq]
    refine ⟨finish_r inv hin ⟨?_, ?_, hend, ?_, ?_, inv.cnt⟩
        (fun t' p _ h => h.mono (fun h0 => by rw [h0.1] at hq; cases hq)
          (Or.inl ⟨rfl, Nat.le_add_right _ _⟩)),
      fun h => hfinish_r inv h hin
        ⟨h.stale, fun x hx => h.pub x (by rw [hq]; exact List.mem_cons_of_mem _ hx), h.mrk⟩⟩
    -- `Geo`, `CROk`, `msgs`, `log`
    · unfold Geo
      cases hmk : s.mark with
      | none =>
        have g := inv.geo_none hmk
        simp only [hq, chain] at g
        simp only []
        exact ⟨g.1.2.2, g.2⟩
      | some M =>
        have g := inv.geo_some hmk
        simp only [hq, chain] at g
        simp only []
        have := g.1.2.1
        exact ⟨g.1.2.2, g.2.1, by omega, g.2.2.2⟩
    · exact ⟨inv.crok.1, fun h => by have := inv.crok.2 h; simp only []; omega⟩
    · intro x hx
      exact inv.msgs x (by rw [hq]; exact List.mem_cons_of_mem _ hx)
    · show s.committed = s.delivered ++ [m] ++ (l ++ s.q2)
      rw [inv.log, hq]; simp
  | g3_empty hpc _ hnb =>
    -- cannot happen: the head of `q1` has at least one byte (`MsgOk`)
    obtain ⟨-, -, m, l, hq, rfl⟩ := inv.at_r hpc rfl
    have := (inv.head hq).2.1.1
    omega

end MgProof.C08
