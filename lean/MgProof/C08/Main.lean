import MgProof.C08.StepW
import MgProof.C08.StepR
/-! `Inv` and `HInv` hold initially and are preserved by every step: they hold in every reachable state. -/
namespace MgProof.C08
open MgModel.Conc MgModel.C08

variable {wt rt : Nat} {s s' : St} {tok : Tok} {ev : List String}

theorem Step.keeps {t : Nat} (h : Step s t s') (inv : Inv wt rt s) : Keeps wt rt s s' := by
  cases h with
  | fail hpc f => exact (f.elim inv hpc).elim
  | w h => exact h.keeps inv
  | r h => exact h.keeps inv

theorem step_both (inv : Inv wt rt s) (hs : step s tok = some (s', ev)) :
    Keeps wt rt s s' :=
  (step_sound hs).keeps inv

theorem step_inv (inv : Inv wt rt s) (hs : step s tok = some (s', ev)) : Inv wt rt s' :=
  (step_both inv hs).inv

theorem hb_step_inv (inv : Inv wt rt s) (h : HInv wt s) (hs : step s tok = some (s', ev)) : HInv wt s' :=
  (step_both inv hs).hb h

/-- the client programs respect the property's preconditions: every message has at least one byte;
only thread `rt` fetches; without the write lock only thread `wt` allocates -/
structure Client (wt rt : Nat) (useLock : Bool) (progs : List (List Op)) : Prop where
  sizes : ∀ t op, op ∈ progs.getD t [] → OpOk op
  reader : ∀ t, t ≠ rt → ∀ op, op ∈ progs.getD t [] → isFetch op = false
  writer : useLock = false → ∀ t, t ≠ wt → ∀ op, op ∈ progs.getD t [] → isFetch op = true

theorem base_inv {N : Nat} {useLock : Bool} {progs : List (List Op)} (hN : 1 ≤ N)
    (hc : Client wt rt useLock progs) : Inv wt rt (mkBase N progs.length useLock progs) := by
  refine ⟨⟨?_, ?_, ?_, ?_, ?_, ?_⟩, ?_, ?_⟩
  · simp [Geo, mkBase, chain]
  · simp [CROk, mkBase]; omega
  · simp [mkBase]; omega
  · intro m hm; simp [mkBase] at hm
  · simp [mkBase]
  · simp [mkBase]
  · intro a b ha; simp [mkBase, wsec] at ha
  · intro t
    refine ⟨⟨?_, ?_, ?_⟩, ?_, ?_, ?_, ?_, ?_, ?_⟩
    · intro op hop; exact hc.sizes t op hop
    · intro h op hop; exact hc.reader t h op hop
    · intro hu h op hop; exact hc.writer hu t h op hop
    · simp [mkBase, asec, wsec]
    · simp [mkBase, wsec]
    · simp [mkBase]
    · simp [mkBase, rsec]
    · simp [mkBase, WInv]
    · simp [mkBase, RInv]

theorem base_hinv {N : Nat} {useLock : Bool} {progs : List (List Op)} :
    HInv wt (mkBase N progs.length useLock progs) := by
  refine ⟨⟨rfl, ?_, ?_⟩, ?_, ?_, ?_, ?_⟩
  · intro m hm; simp [mkBase] at hm
  · intro M hM; simp [mkBase] at hM
  · intro t hw; simp [mkBase, wsec] at hw
  · intro _; exact ⟨fun x hx => by simp [mkBase] at hx, fun c => Or.inl rfl⟩
  · intro _ _; exact ⟨fun x hx => by simp [mkBase] at hx, fun c => Or.inl rfl⟩
  · intro t; simp [mkBase, HR]

theorem prologue_both (inv : Inv wt rt s) (h : HInv wt s) (ts : List Nat) :
    Inv wt rt (prologue s ts).1 ∧ HInv wt (prologue s ts).1 := by
  induction ts generalizing s with
  | nil => exact ⟨inv, h⟩
  | cons t ts ih =>
    simp only [prologue]
    exact ih (beginOp_inv (inv.toX t)) (beginOp_hinv (h.toX t) (inv.thr t).prog)

theorem reach_both {N : Nat} {useLock : Bool} {progs : List (List Op)} (hN : 1 ≤ N)
    (hc : Client wt rt useLock progs) :
    ∀ s, Reach step (mkInit N useLock progs).1 s → Inv wt rt s ∧ HInv wt s :=
  Reach.inv (fun s => Inv wt rt s ∧ HInv wt s) (prologue_both (base_inv hN hc) base_hinv _)
    (fun _ _ _ _ ih hs => ⟨step_inv ih.1 hs, hb_step_inv ih.1 ih.2 hs⟩)

theorem reach_inv {N : Nat} {useLock : Bool} {progs : List (List Op)} (hN : 1 ≤ N)
    (hc : Client wt rt useLock progs) :
    ∀ s, Reach step (mkInit N useLock progs).1 s → Inv wt rt s :=
  fun s h => (reach_both hN hc s h).1

end MgProof.C08
