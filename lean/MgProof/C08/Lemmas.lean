import MgProof.C08.Step
/-!
# C08 — the invariant of the shared-memory ring buffer model

`Inv`: the queued messages lie back to back between the cursors (`chain`, `Geo`), `cached_remain` never promises cells
that are not free (`CROk`), memory holds header words and payload fill of every pending message (`MsgOk`), and each
thread knows at each program counter what its C locals say (`WInv`, `RInv`). Then what the later files take from `Inv`,
and `Fail.elim`: under `Inv` no error transition is enabled.
-/
namespace MgProof.C08
open MgModel.C08

def chain : Nat → List Msg → Nat → Prop
  | c, [], e => c = e
  | c, m :: l, e => m.cell = c ∧ 1 ≤ m.ncl ∧ chain (c + m.ncl) l e

theorem chain_le {c e : Nat} {l : List Msg} (h : chain c l e) : c ≤ e := by
  induction l generalizing c with
  | nil => simp [chain] at h; omega
  | cons m l ih => simp only [chain] at h; have := ih h.2.2; omega

theorem chain_mem {c e : Nat} {l : List Msg} (h : chain c l e) {m : Msg} (hm : m ∈ l) :
    c ≤ m.cell ∧ m.cell + m.ncl ≤ e := by
  induction l generalizing c with
  | nil => cases hm
  | cons x l ih =>
    simp only [chain] at h
    rcases List.mem_cons.mp hm with rfl | hm
    · have := chain_le h.2.2; omega
    · have := ih h.2.2 hm; omega

theorem chain_append {c e : Nat} {l : List Msg} (h : chain c l e) (m : Msg) (hc : m.cell = e)
    (hn : 1 ≤ m.ncl) : chain c (l ++ [m]) (e + m.ncl) := by
  induction l generalizing c with
  | nil => simp only [chain] at h; subst h; simp [chain, hc, hn]
  | cons x l ih => simp only [chain] at h; exact ⟨h.1, h.2.1, ih h.2.2⟩

theorem chain_self_nil {c : Nat} {l : List Msg} (h : chain c l c) : l = [] := by
  cases l with
  | nil => rfl
  | cons m l => simp only [chain] at h; have := chain_le h.2.2; omega

theorem chain_ne_nil {c e : Nat} {l : List Msg} (h : chain c l e) (hne : c ≠ e) : l ≠ [] := by
  intro hl; subst hl; simp [chain] at h; exact hne h

def MsgOk (s : St) (m : Msg) : Prop :=
  1 ≤ m.nb ∧ m.ncl = calNcl m.nb ∧ s.hb m.cell = some m.nb ∧ s.hc m.cell = some m.ncl ∧
  ∀ i, i < spanCells m.nb → s.pb (m.cell + i) = some m.tag

theorem span_add_two (n : Nat) : spanCells n + 2 = calNcl n := by simp [spanCells, calNcl]
theorem span_pos (n : Nat) : 1 ≤ spanCells n := by simp [spanCells]; omega

theorem lastByteCell_bounds (w : Nat) {n : Nat} (hn : 1 ≤ n) :
    w ≤ lastByteCell w n ∧ lastByteCell w n < w + spanCells n := by
  simp only [lastByteCell, spanCells]; omega

/-- no marker pending: `q1` lies from `R` to `W`; a marker pending at `M`: `q1` from `R` to `M`, `q2` from `0` to `W`.
Last clause `N + 1 ≤ 2 * M`: the wrap happens only if the request fits left of `r ≤ W` but not right of `W`
(`ncl + 1 ≤ r`, `N ≤ W + ncl`); the drained case of row `ug` in `WInv.next` needs it -/
def Geo (s : St) : Prop :=
  match s.mark with
  | none => chain s.R s.q1 s.W ∧ s.q2 = []
  | some M => chain s.R s.q1 M ∧ chain 0 s.q2 s.W ∧ s.W < s.R ∧ M + 1 ≤ s.N ∧
              s.hb M = some 0 ∧ s.N + 1 ≤ 2 * M

def CROk (s : St) : Prop :=
  s.W + s.CR + 1 ≤ s.N ∧ (s.mark.isSome → s.W + s.CR + 1 ≤ s.R)

def CurOk (s : St) (t : Nat) : Prop := 1 ≤ (s.cur t).n ∧ (s.cur t).ncl = calNcl (s.cur t).n

/-- the harness ghost says "drained" and the request is within the no-wedge bound -/
def Dh (s : St) (t : Nat) : Prop := (s.cur t).drained = true ∧ (s.cur t).ncl + 1 ≤ s.N / 2

def Q0 (s : St) : Prop := s.q1 = [] ∧ s.q2 = []

/-- `r` was loaded from `read_cursor` earlier: a lower bound of `R`, unless the reader has passed a marker
since (then none is pending and `r > W`) -/
def Rv (s : St) (r : Nat) : Prop :=
  r + 1 ≤ s.N ∧ (s.mark.isSome → s.W < r ∧ r ≤ s.R) ∧ (s.mark = none → r ≤ s.W → r ≤ s.R)

/-- about to place the wrap marker; `CR < ncl` is kept for `um4`: the stale `cached_remain` is still a valid
promise after `W := 0` -/
def Um (s : St) (t r : Nat) : Prop :=
  s.CR < (s.cur t).ncl ∧ s.mark = none ∧ (s.cur t).ncl + 1 ≤ r ∧ r ≤ s.R ∧ r ≤ s.W ∧
  s.N ≤ s.W + (s.cur t).ncl

def Built (s : St) (t : Nat) : Prop :=
  (s.cur t).cell = s.W ∧ s.WH = some s.W ∧ s.hb s.W = some (s.cur t).n ∧
  s.hc s.W = some (s.cur t).ncl ∧ ∀ i, i < spanCells (s.cur t).n → s.pb (s.W + i) = some (s.cur t).tag

/-- `cached_remain` already reduced by the message, cursor not yet advanced -/
def CRmoved (s : St) (t : Nat) : Prop :=
  s.W + (s.cur t).ncl + s.CR + 1 ≤ s.N ∧ (s.mark.isSome → s.W + (s.cur t).ncl + s.CR + 1 ≤ s.R)

def WInv (s : St) (t : Nat) : Pc → Prop
  | .a1 => Dh s t → Q0 s
  | .u0 => s.CR < (s.cur t).ncl ∧ (Dh s t → Q0 s)
  | .u1 r => s.CR < (s.cur t).ncl ∧ Rv s r ∧ (Dh s t → Q0 s ∧ r = s.R)
  | .ug r => s.CR < (s.cur t).ncl ∧ Rv s r ∧ s.W < r ∧ (Dh s t → Q0 s ∧ r = s.R)
  | .ugw v => s.W + v + 1 ≤ s.N ∧ (s.mark.isSome → s.W + v + 1 ≤ s.R) ∧ (Dh s t → (s.cur t).ncl ≤ v)
  | .ul r => s.CR < (s.cur t).ncl ∧ r ≤ s.W ∧ r ≤ s.R ∧ s.mark = none ∧ (Dh s t → Q0 s ∧ r = s.R)
  | .ulw v => s.W + v + 1 ≤ s.N ∧ s.mark = none ∧ (s.cur t).ncl ≤ v
  | .um1 r => Um s t r
  | .um2 r w => w = s.W ∧ Um s t r
  | .um3 r w => w = s.W ∧ Um s t r ∧ s.hb s.W = some 0
  | .um4 r => Um s t r ∧ s.hb s.W = some 0
  | .um5 r => s.W = 0 ∧ (s.cur t).ncl + 1 ≤ r ∧ r + 1 ≤ s.N ∧ (s.mark.isSome → r ≤ s.R)
  | .a2 => Dh s t → (s.cur t).ncl ≤ s.CR
  | .h1 => (s.cur t).ncl ≤ s.CR
  | .h2 w => w = s.W ∧ (s.cur t).ncl ≤ s.CR
  | .h3 w => w = s.W ∧ (s.cur t).ncl ≤ s.CR ∧ s.hb s.W = some (s.cur t).n
  | .h4 w => w = s.W ∧ (s.cur t).ncl ≤ s.CR ∧ s.hb s.W = some (s.cur t).n ∧
             s.hc s.W = some (s.cur t).ncl
  | .p1 w => w = s.W ∧ (s.cur t).ncl ≤ s.CR ∧ Built s t
  | .m1 => (s.cur t).ncl ≤ s.CR ∧ Built s t
  | .m2 h => h = s.W ∧ (s.cur t).ncl ≤ s.CR ∧ Built s t
  | .m3 n => n = (s.cur t).ncl ∧ (s.cur t).ncl ≤ s.CR ∧ Built s t
  | .m4 n cr => n = (s.cur t).ncl ∧ cr = s.CR ∧ (s.cur t).ncl ≤ s.CR ∧ Built s t
  | .m5 n => n = (s.cur t).ncl ∧ CRmoved s t ∧ Built s t
  | .m6 n w => n = (s.cur t).ncl ∧ w = s.W ∧ CRmoved s t ∧ Built s t
  | _ => True

/-- what `r_fetch` knows about the value `w` it loaded from `write_cursor` -/
def Fw (s : St) (w : Nat) : Prop :=
  (w = s.R → s.rP0 = 0) ∧ (s.rMk0 = true → s.mark.isSome) ∧
  (s.rMk0 = true → w = 0 → s.rP0 = s.q1.length) ∧ (s.rMk0 = true → w ≠ 0 → s.q2 ≠ []) ∧
  (s.rMk0 = false → w ≠ s.R → s.q1 ≠ [])

theorem Fw.rMk0_of_nil {s : St} {w : Nat} (f : Fw s w) (hwr : w ≠ s.R) (hq : s.q1 = []) : s.rMk0 = true := by
  cases h : s.rMk0 with
  | true => rfl
  | false => exact absurd hq (f.2.2.2.2 h hwr)

/-- `rcur` is the head of `q1` up to `ncl`, which `r_move` reads itself -/
def Held (s : St) : Prop :=
  ∃ m l, s.q1 = m :: l ∧ s.rcur.cell = m.cell ∧ s.rcur.nb = m.nb ∧ s.rcur.tag = m.tag

def RInv (s : St) : Pc → Prop
  | .f1 w => Fw s w
  | .f2 w => w ≠ s.R ∧ Fw s w
  | .f3 w r => r = s.R ∧ w ≠ s.R ∧ Fw s w
  | .f4 w => s.RH = some s.R ∧ w ≠ s.R ∧ Fw s w
  | .f5 w h => h = s.R ∧ s.RH = some s.R ∧ w ≠ s.R ∧ Fw s w
  | .g1 => s.RH = some s.R ∧ s.q1 ≠ []
  | .g2 h => h = s.R ∧ s.RH = some s.R ∧ s.q1 ≠ []
  | .g3 nb => s.RH = some s.R ∧ ∃ m l, s.q1 = m :: l ∧ nb = m.nb
  | .rp h nb => h = s.R ∧ s.RH = some s.R ∧ ∃ m l, s.q1 = m :: l ∧ nb = m.nb
  | .k1 => s.RH = some s.R ∧ s.q1 = [] ∧ s.mark = some s.R ∧ s.q2 ≠ []
  | .k2 => s.q1 ≠ []
  | .k3 r => r = s.R ∧ s.q1 ≠ []
  | .k4 => s.RH = some s.R ∧ s.q1 ≠ []
  | .k5 h => h = s.R ∧ s.RH = some s.R ∧ s.q1 ≠ []
  | .r1 => s.RH = some s.R ∧ Held s
  | .r2 h => h = s.R ∧ Held s
  | .r3 n => Held s ∧ ∃ m l, s.q1 = m :: l ∧ n = m.ncl
  | .r4 n r => r = s.R ∧ Held s ∧ ∃ m l, s.q1 = m :: l ∧ n = m.ncl
  | _ => True

def OpOk : Op → Prop
  | .alloc n _ => 1 ≤ n
  | .fetch => True

def isFetch : Op → Bool
  | .fetch => true
  | _ => false

/-- thread `t` respects the roles: only `rt` fetches; without the write lock only `wt` allocates -/
def ProgOk (wt rt : Nat) (s : St) (t : Nat) : Prop :=
  (∀ op, op ∈ s.prog t → OpOk op) ∧
  (t ≠ rt → ∀ op, op ∈ s.prog t → isFetch op = false) ∧
  (s.useLock = false → t ≠ wt → ∀ op, op ∈ s.prog t → isFetch op = true)

structure ThrInv (wt rt : Nat) (s : St) (t : Nat) : Prop where
  prog : ProgOk wt rt s t
  cur  : asec (s.pc t) = true → CurOk s t
  lk   : wsec (s.pc t) = true → (s.useLock = true → s.lock = 1) ∧ (s.useLock = false → t = wt)
  lku  : (s.pc t = .lk ∨ s.pc t = .lkY ∨ s.pc t = .unl) → s.useLock = true
  rd   : rsec (s.pc t) = true → t = rt
  w    : WInv s t (s.pc t)
  r    : RInv s (s.pc t)

structure Glob (s : St) : Prop where
  geo  : Geo s
  crok : CROk s
  rle  : s.R + 1 ≤ s.N
  msgs : ∀ m, m ∈ s.q1 ++ s.q2 → MsgOk s m
  log  : s.committed = s.delivered ++ (s.q1 ++ s.q2)
  cnt  : s.fifoViol = 0 ∧ s.overlapViol = 0 ∧ s.boundsViol = 0 ∧ s.corrupt = 0 ∧ s.wedge = 0 ∧
         s.noneViol = 0 ∧ s.errs = 0

/-! the counters by name; `cnt` stays one conjunction so that it carries over to a successor as it stands -/
theorem Glob.fifoViol {s : St} (g : Glob s) : s.fifoViol = 0 := g.cnt.1
theorem Glob.overlapViol {s : St} (g : Glob s) : s.overlapViol = 0 := g.cnt.2.1
theorem Glob.boundsViol {s : St} (g : Glob s) : s.boundsViol = 0 := g.cnt.2.2.1
theorem Glob.corrupt {s : St} (g : Glob s) : s.corrupt = 0 := g.cnt.2.2.2.1
theorem Glob.wedge {s : St} (g : Glob s) : s.wedge = 0 := g.cnt.2.2.2.2.1
theorem Glob.noneViol {s : St} (g : Glob s) : s.noneViol = 0 := g.cnt.2.2.2.2.2.1
theorem Glob.errs {s : St} (g : Glob s) : s.errs = 0 := g.cnt.2.2.2.2.2.2

/-- for a successor that differs in other fields `Glob` does not read (or in a counter by `+ 0`) the clauses are given
again one by one, `⟨inv.geo, inv.crok, …⟩`: each is accepted up to unfolding, `Glob s'` as a whole is not -/
theorem Glob.ctl {s : St} (g : Glob s) (pc : Nat → Pc) (prog : Nat → List Op) (opIdx : Nat → Nat)
    (cur : Nat → Cur) : Glob { s with pc := pc, prog := prog, opIdx := opIdx, cur := cur } :=
  ⟨g.geo, g.crok, g.rle, g.msgs, g.log, g.cnt⟩

structure Inv (wt rt : Nat) (s : St) : Prop extends Glob s where
  excl : ∀ t t', wsec (s.pc t) = true → wsec (s.pc t') = true → t = t'
  thr  : ∀ t, ThrInv wt rt s t

theorem Inv.pend {wt rt : Nat} {s : St} (inv : Inv wt rt s) : s.pend = s.q1 ++ s.q2 := by
  simp [St.pend, inv.log]

theorem drained_q0 {s : St} (hlog : s.committed = s.delivered ++ (s.q1 ++ s.q2))
    (h : s.drained = true) : Q0 s := by
  simp only [St.drained, hlog, List.length_append, beq_iff_eq] at h
  have h1 : s.q1.length = 0 := by omega
  have h2 : s.q2.length = 0 := by omega
  exact ⟨List.length_eq_zero_iff.mp h1, List.length_eq_zero_iff.mp h2⟩

theorem Inv.wle {wt rt : Nat} {s : St} (inv : Inv wt rt s) : s.W + 1 ≤ s.N := by
  have := inv.crok.1; omega

theorem Inv.geo_none {wt rt : Nat} {s : St} (inv : Inv wt rt s) (h : s.mark = none) :
    chain s.R s.q1 s.W ∧ s.q2 = [] := by
  have g := inv.geo
  unfold Geo at g
  simpa only [h] using g

theorem Inv.geo_some {wt rt : Nat} {s : St} (inv : Inv wt rt s) {M : Nat} (h : s.mark = some M) :
    chain s.R s.q1 M ∧ chain 0 s.q2 s.W ∧ s.W < s.R ∧ M + 1 ≤ s.N ∧ s.hb M = some 0 ∧ s.N + 1 ≤ 2 * M := by
  have g := inv.geo
  unfold Geo at g
  simpa only [h] using g

theorem Inv.free {wt rt : Nat} {s : St} (inv : Inv wt rt s) {m : Msg} (hm : m ∈ s.q1 ++ s.q2) :
    m.cell + m.ncl ≤ s.W ∨ s.W + s.CR < m.cell := by
  cases hmk : s.mark with
  | none =>
    have g := inv.geo_none hmk
    rw [g.2, List.append_nil] at hm
    exact Or.inl (chain_mem g.1 hm).2
  | some M =>
    have g := inv.geo_some hmk
    have h2 := inv.crok.2 (by simp [hmk])
    rcases List.mem_append.mp hm with h | h
    · have := (chain_mem g.1 h).1; right; omega
    · exact Or.inl (chain_mem g.2.1 h).2

theorem Inv.free_mark {wt rt : Nat} {s : St} (inv : Inv wt rt s) {M : Nat} (hM : s.mark = some M) :
    s.W + s.CR < M := by
  have := chain_le (inv.geo_some hM).1
  have := inv.crok.2 (by simp [hM])
  omega

theorem Inv.head {wt rt : Nat} {s : St} (inv : Inv wt rt s) {m : Msg} {l : List Msg}
    (h : s.q1 = m :: l) : m.cell = s.R ∧ MsgOk s m ∧ s.R + m.ncl + 1 ≤ s.N := by
  have hm : MsgOk s m := inv.msgs m (by simp [h])
  cases hmk : s.mark with
  | none =>
    have g := inv.geo_none hmk
    simp only [h, chain] at g
    have := chain_le g.1.2.2
    have := inv.wle
    exact ⟨g.1.1, hm, by omega⟩
  | some M =>
    have g := inv.geo_some hmk
    simp only [h, chain] at g
    have := chain_le g.1.2.2
    exact ⟨g.1.1, hm, by omega⟩

theorem Inv.hdr_head {wt rt : Nat} {s : St} (inv : Inv wt rt s) (h : s.q1 ≠ []) :
    ∃ m l, s.q1 = m :: l ∧ s.hb s.R = some m.nb ∧ 1 ≤ m.nb := by
  cases hq : s.q1 with
  | nil => exact absurd hq h
  | cons m l =>
    have := inv.head hq
    exact ⟨m, l, rfl, this.1 ▸ this.2.1.2.2.1, this.2.1.1⟩

/-- what stands at the read cursor after `r_fetch` loaded `w ≠ R` from `write_cursor`: the header of the head of `q1`,
or the wrap marker; "nothing pending, no marker" is excluded by `Fw` -/
theorem Inv.hdr_R {wt rt : Nat} {s : St} {w : Nat} (inv : Inv wt rt s) (hf : Fw s w) (hwr : w ≠ s.R) :
    (∃ m l, s.q1 = m :: l ∧ s.hb s.R = some m.nb ∧ 1 ≤ m.nb) ∨
    (s.q1 = [] ∧ s.mark = some s.R ∧ s.hb s.R = some 0 ∧ s.rMk0 = true) := by
  by_cases hq : s.q1 = []
  · have hmk0 := hf.rMk0_of_nil hwr hq
    cases hmk : s.mark with
    | none => have := hf.2.1 hmk0; simp [hmk] at this
    | some M =>
      have g := inv.geo_some hmk
      simp only [hq, chain] at g
      rw [g.1]
      exact Or.inr ⟨hq, rfl, g.2.2.2.2.1, hmk0⟩
  · exact Or.inl (inv.hdr_head hq)

theorem Inv.at_w {wt rt : Nat} {s : St} {t : Nat} {p : Pc} (inv : Inv wt rt s) (hpc : s.pc t = p) (hp : wsec p = true) :
    wsec (s.pc t) = true ∧ WInv s t p ∧ CurOk s t := by
  subst hpc
  exact ⟨hp, (inv.thr t).w, (inv.thr t).cur (asec_of_wsec hp)⟩

theorem Inv.at_r {wt rt : Nat} {s : St} {t : Nat} {p : Pc} (inv : Inv wt rt s) (hpc : s.pc t = p) (hp : rsec p = true) :
    rsec (s.pc t) = true ∧ RInv s p := by
  subst hpc
  exact ⟨hp, (inv.thr t).r⟩

theorem Fail.elim {wt rt : Nat} {s : St} {t : Nat} {p : Pc} (inv : Inv wt rt s) (hpc : s.pc t = p)
    (h : Fail s t p) : False := by
  have hwl := inv.wle
  have hrl := inv.rle
  have hw := hpc ▸ (inv.thr t).w
  have hr := hpc ▸ (inv.thr t).r
  cases h with
  | ug h => have := hw.2.2.1; omega
  | ul h => omega
  | um2 h => have := hw.1; omega
  | um5 h => have := hw.2.1; omega
  | h2 h => have := hw.1; omega
  | p1 h =>
    obtain ⟨rfl, hcr, -⟩ := hw
    have hc := (inv.thr t).cur (by rw [hpc]; rfl)
    have := span_add_two (s.cur t).n
    have := hc.2
    have := inv.crok.1
    have := (lastByteCell_bounds s.W hc.1).2
    omega
  | m1 h => rw [hw.2.2.1] at h; cases h
  | m2_out h => have := hw.1; omega
  | m2_junk h => obtain ⟨rfl, -, hbu⟩ := hw; rw [hbu.2.2.2.1] at h; cases h
  | m4 h => obtain ⟨rfl, rfl, hcr, -⟩ := hw; omega
  | f4 h | g1 h | k4 h | r1 h | g3 h => rw [hr.1] at h; cases h
  | f5_out h | g2_out h | k5_out h | r2_out h => have := hr.1; omega
  | f5_junk h =>
    obtain ⟨rfl, -, hwr, hf⟩ := hr
    rcases inv.hdr_R hf hwr with ⟨m, l, -, hhb, -⟩ | ⟨-, -, hhb, -⟩ <;> (rw [hhb] at h; cases h)
  | g2_junk h | k5_junk h =>
    obtain ⟨rfl, -, hne⟩ := hr
    obtain ⟨m, l, -, hhb, -⟩ := inv.hdr_head hne
    rw [hhb] at h; cases h
  | r2_junk h =>
    obtain ⟨rfl, m, l, hq, -⟩ := hr
    obtain ⟨hcell, ⟨-, -, -, hhc, -⟩, -⟩ := inv.head hq
    rw [← hcell, hhc] at h; cases h
  | rp_out h =>
    obtain ⟨rfl, -, m, l, hq, rfl⟩ := hr
    obtain ⟨hcell, ⟨hnb, hncl, -⟩, hend⟩ := inv.head hq
    have := span_add_two m.nb
    have := (lastByteCell_bounds s.R hnb).2
    omega
  | rp_junk h =>
    obtain ⟨rfl, -, m, l, hq, rfl⟩ := hr
    obtain ⟨hcell, ⟨hnb, -, -, -, hpb⟩, -⟩ := inv.head hq
    obtain ⟨hc1, hc2⟩ := lastByteCell_bounds s.R hnb
    have := hpb (lastByteCell s.R m.nb - s.R) (by omega)
    rw [hcell, show s.R + (lastByteCell s.R m.nb - s.R) = lastByteCell s.R m.nb by omega, h] at this
    cases this

end MgProof.C08
