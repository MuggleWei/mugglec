import MgProof.C08.Frame
/-!
# C08 — happens-before: no read of the data area is stale

Every plain write of a data cell gets a fresh id (`cellW`); `know t` is the set of ids thread `t` is
guaranteed to see; release stores publish it (`relW`, `relL`), acquire loads join it. `stale` counts reads
of a cell whose latest write the reader does not know. `HInv`: whoever holds the writer's role has seen every
write, and what the reader is about to parse was published before it loaded `write_cursor`.
-/
namespace MgProof.C08
open MgModel.Conc MgModel.C08

variable {wt rt : Nat} {s s' : St}

/-- the set `K` of write ids covers cell `c`: the latest write of `c`, if there was one, is in `K` -/
def Knows (s : St) (K : List Nat) (c : Nat) : Prop := s.cellW c = 0 ∨ s.cellW c ∈ K

theorem Knows.mono {K K' : List Nat} {c : Nat} (hK : K ⊆ K') (h : Knows s K c) : Knows s K' c :=
  h.imp_right fun hx => hK hx

theorem staleRead_of_knows {t c : Nat} (h : Knows s (s.know t) c) : staleRead s t c = 0 := if_pos h

def Seen (s : St) (t : Nat) (m : Msg) : Prop :=
  ∀ i, i < spanCells m.nb → Knows s (s.know t) (m.cell + i)

/-- `K` holds all the writers have done: whatever was published and every write of a data cell -/
def WAll (s : St) (K : List Nat) : Prop := s.relW ⊆ K ∧ ∀ c, Knows s K c

theorem WAll.mono {K K' : List Nat} (hK : K ⊆ K') (h : WAll s K) : WAll s K' :=
  ⟨fun _ hx => hK (h.1 hx), fun c => (h.2 c).mono hK⟩

theorem WAll.congr {K : List Nat} (ecw : s'.cellW = s.cellW) (erw : s'.relW = s.relW) (h : WAll s K) : WAll s' K :=
  ⟨erw ▸ h.1, fun c => by simp only [Knows, ecw]; exact h.2 c⟩

/-- what the acquire load of `write_cursor` (value `w`) made visible to the reader, by the cases of `Fw`: no marker
pending at the load: the head of `q1` if `w ≠ R`; a marker pending: the head of `q1`, the marker cell and, if
`w ≠ 0`, the head of `q2` -/
def HK (s : St) (t w : Nat) : Prop :=
  (s.rMk0 = false → w ≠ s.R → ∃ m l, s.q1 = m :: l ∧ Seen s t m) ∧
  (s.rMk0 = true → (∀ m l, s.q1 = m :: l → Seen s t m) ∧ (∀ M, s.mark = some M → Knows s (s.know t) M) ∧
                   (w ≠ 0 → ∃ m l, s.q2 = m :: l ∧ Seen s t m))

def HeadSeen (s : St) (t : Nat) : Prop := ∃ m l, s.q1 = m :: l ∧ Seen s t m

/-- One proposition per group of program counters, so the fact at the old counter serves at the next one of
the group as it stands. After `r2` the reader reads no data cell any more. -/
def HR (s : St) (t : Nat) : Pc → Prop
  | .f1 w | .f2 w | .f3 w _ | .f4 w | .f5 w _ => HK s t w
  | .g1 | .g2 _ | .g3 _ | .rp _ _ | .k2 | .k3 _ | .k4 | .k5 _ | .r1 | .r2 _ => HeadSeen s t
  | .k1 => ∃ m l, s.q2 = m :: l ∧ Seen s t m
  | _ => True

structure HGlob (s : St) : Prop where
  stale : s.stale = 0
  pub  : ∀ m, m ∈ s.q1 ++ s.q2 → ∀ i, i < spanCells m.nb → Knows s s.relW (m.cell + i)
  mrk  : ∀ M, s.mark = some M → Knows s s.relW M

/-- the writer's role is held by the thread inside the write section; between two allocations its
knowledge rests with `wt` (no lock) or in the lock word (`relL`) -/
structure HInv (wt : Nat) (s : St) : Prop extends HGlob s where
  wr   : ∀ t, wsec (s.pc t) = true → WAll s (s.know t)
  nolk : s.useLock = false → WAll s (s.know wt)
  unlk : s.useLock = true → s.lock = 0 → WAll s s.relL
  r    : ∀ t, HR s t (s.pc t)

theorem HInv.at_r (h : HInv wt s) {t : Nat} {p : Pc} (hpc : s.pc t = p) : HR s t p := hpc ▸ h.r t

theorem HR_of_not_rsec {t : Nat} {p : Pc} (h : rsec p = false) : HR s t p := by
  cases p <;> first | exact trivial | cases h

theorem HR.congr {t' : Nat} {p : Pc}
    (e : s'.cellW = s.cellW ∧ s'.R = s.R ∧ s'.know t' = s.know t' ∧ s'.q1 = s.q1 ∧ s'.q2 = s.q2 ∧
         s'.mark = s.mark ∧ s'.rMk0 = s.rMk0)
    (h : HR s t' p) : HR s' t' p := by
  obtain ⟨e1, e2, e3, e4, e5, e6, e7⟩ := e
  have hk : ∀ w, HK s t' w → HK s' t' w := fun w h => by
    simp only [HK, Seen, Knows, e1, e2, e3, e4, e5, e6, e7] at h ⊢; exact h
  have hs : HeadSeen s t' → HeadSeen s' t' := fun h => by
    simp only [HeadSeen, Seen, Knows, e1, e3, e4] at h ⊢; exact h
  have h2 : (∃ m l, s.q2 = m :: l ∧ Seen s t' m) → ∃ m l, s'.q2 = m :: l ∧ Seen s' t' m := fun h => by
    simp only [Seen, Knows, e1, e3, e5] at h ⊢; exact h
  cases p <;> first | exact trivial | skip
  case f1 | f2 | f3 | f4 | f5 => exact hk _ h
  case k1 => exact h2 h
  case g1 | g2 | g3 | rp | k2 | k3 | k4 | k5 | r1 | r2 => exact hs h

/-- cf. `RInv.mono`: a fetch that loaded a pending marker with the cursor still has it pending, so `q1` is
as it was -/
theorem HR.mono {t : Nat} {p : Pc} {x y : List Msg} (h : HR s t p) (hf : RInv s p)
    (e1 : s'.q1 = s.q1 ++ x) (e2 : s'.q2 = s.q2 ++ y) (hm : s.mark.isSome → s'.mark = s.mark ∧ x = [])
    (seen : ∀ m, m ∈ s.q1 ++ s.q2 → Seen s t m → Seen s' t m)
    (hmk : ∀ M, s.mark = some M → Knows s (s.know t) M → Knows s' (s'.know t) M)
    (e : s'.R = s.R ∧ s'.rMk0 = s.rMk0 := by exact ⟨rfl, rfl⟩) : HR s' t p := by
  obtain ⟨f2, f4⟩ := e
  have hd1 : (∃ m l, s.q1 = m :: l ∧ Seen s t m) → ∃ m l, s.q1 ++ x = m :: l ∧ Seen s' t m :=
    fun ⟨m, l, hq, hs⟩ => ⟨m, l ++ x, by rw [hq]; rfl, seen m (by simp [hq]) hs⟩
  have hd2 : (∃ m l, s.q2 = m :: l ∧ Seen s t m) → ∃ m l, s.q2 ++ y = m :: l ∧ Seen s' t m :=
    fun ⟨m, l, hq, hs⟩ => ⟨m, l ++ y, by rw [hq]; rfl, seen m (by simp [hq]) hs⟩
  have hk : ∀ w, Fw s w → HK s t w → HK s' t w := by
    intro w fw ⟨k1, k2⟩
    simp only [HK, f2, f4, e1, e2]
    refine ⟨fun a b => hd1 (k1 a b), fun a => ?_⟩
    obtain ⟨g1, rfl⟩ := hm (fw.2.1 a)
    obtain ⟨x1, x2, x3⟩ := k2 a
    simp only [List.append_nil, g1]
    exact ⟨fun m l hq => seen m (by simp [hq]) (x1 m l hq), fun M hM => hmk M hM (x2 M hM), fun b => hd2 (x3 b)⟩
  cases p <;> first | exact trivial | simp only [HR, HeadSeen, RInv, e1, e2] at h hf ⊢
  -- `HK` with `Fw` among the conjuncts of `hf`, the head of `q2`, or the head of `q1`
  case f1 => exact hk _ hf h
  case f2 => exact hk _ hf.2 h
  case f3 | f4 => exact hk _ hf.2.2 h
  case f5 => exact hk _ hf.2.2.2 h
  case k1 => exact hd2 h
  case g1 | g2 | g3 | rp | k2 | k3 | k4 | k5 | r1 | r2 => exact hd1 h

theorem hstep {t : Nat} {p' : Pc} (h : HInv wt s) (hpc : s'.pc = upd s.pc t p') (g : HGlob s')
    (wr : wsec p' = true → WAll s' (s'.know t))
    (wro : ∀ t', t' ≠ t → wsec (s.pc t') = true → WAll s' (s'.know t'))
    (nolk : s'.useLock = false → WAll s' (s'.know wt))
    (unlk : s'.useLock = true → s'.lock = 0 → WAll s' s'.relL)
    (hr : HR s' t p') (hro : ∀ t', t' ≠ t → HR s t' (s.pc t') → HR s' t' (s.pc t')) : HInv wt s' := by
  refine ⟨g, ?_, nolk, unlk, ?_⟩ <;> rw [hpc]
  · exact upd_forall (P := fun t' p => wsec p = true → WAll s' (s'.know t')) wro wr
  · exact upd_forall (P := fun t' p => HR s' t' p) (fun t' e => hro t' e (h.r t')) hr

theorem hlocal {t v : Nat} {x : Option Nat} {p' : Pc} (h : HInv wt s)
    (hws : wsec p' = true → wsec (s.pc t) = true) (hr : HR s t p') :
    HInv wt { s with CR := v, RH := x, pc := upd s.pc t p' } :=
  hstep h rfl ⟨h.stale, h.pub, h.mrk⟩ (fun hp => h.wr t (hws hp)) (fun t' _ hp => h.wr t' hp) h.nolk h.unlk
    (hr.congr ⟨rfl, rfl, rfl, rfl, rfl, rfl, rfl⟩) fun _ _ hh => hh.congr ⟨rfl, rfl, rfl, rfl, rfl, rfl, rfl⟩

structure HInvX (wt : Nat) (s : St) (t : Nat) : Prop extends HGlob s where
  wr   : ∀ t', t' ≠ t → wsec (s.pc t') = true → WAll s (s.know t')
  nolk : s.useLock = false → WAll s (s.know wt)
  unlk : s.useLock = true → s.lock = 0 → WAll s s.relL
  r    : ∀ t', t' ≠ t → HR s t' (s.pc t')

theorem HInv.toX (h : HInv wt s) (t : Nat) : HInvX wt s t :=
  ⟨h.toHGlob, fun t' _ => h.wr t', h.nolk, h.unlk, fun t' _ => h.r t'⟩

theorem HInvX.enter {t : Nat} {p' : Pc} (x : HInvX wt s t) (hw : wsec p' = true → WAll s (s.know t))
    (hr : HR s t p') (prog : Nat → List Op) (opIdx : Nat → Nat) (cur : Nat → Cur) :
    HInv wt { s with pc := upd s.pc t p', prog := prog, opIdx := opIdx, cur := cur } :=
  ⟨⟨x.stale, x.pub, x.mrk⟩, upd_forall (P := fun t' p => wsec p = true → WAll s (s.know t')) x.wr hw, x.nolk, x.unlk,
    upd_forall (P := fun t' p => HR s t' p) x.r hr⟩

theorem beginOp_hinv {t : Nat} (x : HInvX wt s t) (hp : ProgOk wt rt s t) : HInv wt (beginOp s t).1 := by
  have h := beginOp_begin s t
  generalize (beginOp s t).1 = s' at h ⊢
  cases h with
  | done => exact x.enter (p' := .done) (by simp [wsec]) trivial _ _ _
  | fetch => exact x.enter (p' := .f0) (by simp [wsec]) trivial _ _ _
  | alloc hpr =>
    refine x.enter ?_ (by cases s.useLock <;> trivial) _ _ _
    cases hu : s.useLock with
    | true => simp [wsec]
    | false => exact fun _ => hp.alloc_wt hpr hu ▸ x.nolk hu

theorem release_hinv {t : Nat} (x : HInvX wt s t) (hp : ProgOk wt rt s t) (hrel : WAll s (s.know t)) :
    HInv wt (release s t).1 := by
  rw [release_eq]
  split
  · exact x.enter (p' := .unl) (fun _ => hrel) trivial _ _ _
  · exact beginOp_hinv x hp

/-! A write into the free region does not touch what is pending. -/

section
variable (inv : Inv wt rt s) {a k : Nat} (ha : s.W ≤ a) (hk : a + k ≤ s.W + s.CR + 1)
  (hcw : ∀ j, (j < a ∨ a + k ≤ j) → s'.cellW j = s.cellW j)
include inv ha hk hcw

theorem cells_frame {m : Msg} (hm : m ∈ s.q1 ++ s.q2) {i : Nat} (hi : i < spanCells m.nb) :
    s'.cellW (m.cell + i) = s.cellW (m.cell + i) := by
  have hf := inv.free hm
  have := span_add_two m.nb
  have := (inv.msgs m hm).2.1
  exact hcw _ (by omega)

omit ha in
theorem mark_frame {M : Nat} (hM : s.mark = some M) : s'.cellW M = s.cellW M := by
  have := inv.free_mark hM
  exact hcw _ (by omega)

theorem HGlob.frame (g : HGlob s)
    (e : s'.stale = s.stale ∧ s'.q1 = s.q1 ∧ s'.q2 = s.q2 ∧ s'.mark = s.mark ∧ s'.relW = s.relW) : HGlob s' := by
  obtain ⟨e1, e2, e3, e4, e5⟩ := e
  refine ⟨e1 ▸ g.stale, ?_, ?_⟩
  · rw [e2, e3]; intro m hm i hi; simp only [Knows, cells_frame inv ha hk hcw hm hi, e5]; exact g.pub m hm i hi
  · rw [e4]; intro M hM; simp only [Knows, mark_frame inv hk hcw hM, e5]; exact g.mrk M hM

end

/-- what a move of thread `t` inside the write section owes `HInv`: the thread-independent part, that `t` still knows
every write, and the rows of the other threads -/
structure WMove (s s' : St) (t : Nat) : Prop where
  glob : HGlob s'
  wr   : WAll s' (s'.know t)
  hro  : ∀ t', t' ≠ t → HR s t' (s.pc t') → HR s' t' (s.pc t')

section
variable {t : Nat} (inv : Inv wt rt s) (h : HInv wt s)
include inv h

omit h in
/-- while `t` is inside the write section the writer's role is with `t`: it is `wt` if there is no lock, and the
lock is taken if there is one -/
theorem role_inside (hin : wsec (s.pc t) = true) (wr : WAll s' (s'.know t))
    (hul : s'.useLock = s.useLock) (hlock : s'.lock = s.lock) :
    (s'.useLock = false → WAll s' (s'.know wt)) ∧ (s'.useLock = true → s'.lock = 0 → WAll s' s'.relL) := by
  have hlk := (inv.thr t).lk hin
  rw [hul, hlock]
  exact ⟨fun hu => hlk.2 hu ▸ wr, fun hu hl => by have := hlk.1 hu; omega⟩

theorem hb_wstep {p' : Pc} (hin : wsec (s.pc t) = true) (m : WMove s s' t)
    (hpc : s'.pc = upd s.pc t p' := by rfl) (hp' : wsec p' = true := by rfl)
    (hul : s'.useLock = s.useLock := by rfl) (hlock : s'.lock = s.lock := by rfl) : HInv wt s' := by
  obtain ⟨nolk, unlk⟩ := role_inside inv hin m.wr hul hlock
  refine hstep h hpc m.glob (fun _ => m.wr) ?_ nolk unlk ?_ m.hro
  · intro t' ht' hw'; rw [inv.others_out hin ht'] at hw'; cases hw'
  · exact HR_of_not_rsec (rsec_of_wsec hp')

theorem hfinish_w {s1 : St} (hin : wsec (s.pc t) = true) (m : WMove s s1 t)
    (hpc : s1.pc = s.pc := by rfl) (hprog : s1.prog = s.prog := by rfl)
    (hul : s1.useLock = s.useLock := by rfl) (hlock : s1.lock = s.lock := by rfl) :
    HInv wt (release s1 t).1 := by
  obtain ⟨nolk, unlk⟩ := role_inside inv hin m.wr hul hlock
  refine release_hinv (rt := rt) ⟨m.glob, ?_, nolk, unlk, ?_⟩ ?_ m.wr
  · intro t' ht' hw'; rw [hpc, inv.others_out hin ht'] at hw'; cases hw'
  · intro t' ht'; rw [hpc]; exact m.hro t' ht' (h.r t')
  · exact (inv.thr t).prog.congr (by rw [hprog]) hul

/-- a write of cells `[a, a + k)` inside the free region by the thread inside the write section -/
theorem noteWrite_frame {a k : Nat} (hin : wsec (s.pc t) = true)
    (ha : s.W ≤ a) (hk : a + k ≤ s.W + s.CR + 1)
    (ecw : s'.cellW = fun i => if a ≤ i ∧ i < a + k then s.nextW else s.cellW i := by rfl)
    (ekn : s'.know = upd s.know t (s.nextW :: s.know t) := by rfl)
    (e : s'.stale = s.stale ∧ s'.q1 = s.q1 ∧ s'.q2 = s.q2 ∧ s'.relW = s.relW ∧ s'.mark = s.mark ∧
         s'.R = s.R ∧ s'.rMk0 = s.rMk0 := by exact ⟨rfl, rfl, rfl, rfl, rfl, rfl, rfl⟩) : WMove s s' t := by
  obtain ⟨e1, e2, e3, e4, e5, e9, e10⟩ := e
  have hcw : ∀ j, (j < a ∨ a + k ≤ j) → s'.cellW j = s.cellW j := by
    intro j hj; rw [ecw]; exact if_neg (by omega)
  -- who knew every write and now learns the new one still knows every write
  have hwa : ∀ K, WAll s K → WAll s' (s.nextW :: K) := by
    intro K ⟨x1, x2⟩
    refine ⟨by rw [e4]; exact fun _ hx => List.mem_cons_of_mem _ (x1 hx), fun c => ?_⟩
    simp only [Knows, ecw]
    split
    · exact Or.inr List.mem_cons_self
    · exact (x2 c).imp_right (List.mem_cons_of_mem _)
  have hself : s'.know t = s.nextW :: s.know t := by rw [ekn, upd_same]
  refine ⟨h.toHGlob.frame inv ha hk hcw ⟨e1, e2, e3, e5, e4⟩, hself ▸ hwa _ (h.wr t hin), fun t' ht' hh => ?_⟩
  have ekn' : s'.know t' = s.know t' := by rw [ekn, upd_other _ _ _ _ ht']
  refine hh.mono (x := []) (y := []) (inv.thr t').r (by rw [e2, List.append_nil]) (by rw [e3, List.append_nil])
    (fun _ => ⟨e5, rfl⟩) (fun m hm hs i hi => ?_) (fun M hM hk' => ?_) ⟨e9, e10⟩
  · simp only [Knows, cells_frame inv ha hk hcw hm hi, ekn']; exact hs i hi
  · simp only [Knows, mark_frame inv hk hcw hM, ekn']; exact hk'

omit inv in
/-- a release store of `write_cursor` (`relW := know t`) by the thread inside the write section: it has seen
every write, so everything is published -/
theorem publish {s1 : St} (hin : wsec (s.pc t) = true)
    (hro : ∀ t', t' ≠ t → HR s t' (s.pc t') → HR s1 t' (s.pc t'))
    (e : s1.relW = s.know t ∧ s1.cellW = s.cellW ∧ s1.know = s.know ∧ s1.stale = s.stale := by
      exact ⟨rfl, rfl, rfl, rfl⟩) : WMove s s1 t := by
  obtain ⟨e1, e2, e3, e4⟩ := e
  have hk : ∀ c, Knows s1 (s.know t) c := fun c => by simp only [Knows, e2]; exact (h.wr t hin).2 c
  exact ⟨⟨e4 ▸ h.stale, fun _ _ _ _ => e1 ▸ hk _, fun _ _ => e1 ▸ hk _⟩,
    by rw [e3]; exact ⟨by rw [e1]; exact fun _ hx => hx, hk⟩, hro⟩

theorem hfinish_r {s1 : St} (hin : rsec (s.pc t) = true) (g : HGlob s1)
    (hpc : s1.pc = s.pc := by rfl) (hprog : s1.prog = s.prog := by rfl)
    (hul : s1.useLock = s.useLock := by rfl)
    (e : s1.cellW = s.cellW ∧ s1.know = s.know ∧ s1.relW = s.relW ∧ s1.relL = s.relL ∧ s1.lock = s.lock := by
      exact ⟨rfl, rfl, rfl, rfl, rfl⟩) : HInv wt (beginOp s1 t).1 := by
  obtain ⟨e1, e3, e5, e6, e7⟩ := e
  refine beginOp_hinv (rt := rt) ⟨g, ?_, ?_, ?_, ?_⟩ ?_
  · intro t' _ hw'; rw [hpc] at hw'; rw [e3]; exact (h.wr t' hw').congr e1 e5
  · rw [hul, e3]; exact fun hu => (h.nolk hu).congr e1 e5
  · rw [hul, e7, e6]; exact fun hu hl => (h.unlk hu hl).congr e1 e5
  · intro t' ht'; rw [hpc]; exact HR_of_not_rsec (inv.reader_unique hin ht')
  · exact (inv.thr t).prog.congr (by rw [hprog]) hul

theorem hb_rstep {p' : Pc} (hin : rsec (s.pc t) = true)
    (hkn : ∀ t', s.know t' ⊆ s'.know t') (g : HGlob s') (hr : HR s' t p')
    (hpc : s'.pc = upd s.pc t p' := by rfl) (hp' : rsec p' = true := by rfl)
    (e : s'.cellW = s.cellW ∧ s'.relW = s.relW ∧ s'.relL = s.relL ∧ s'.lock = s.lock ∧
         s'.useLock = s.useLock := by exact ⟨rfl, rfl, rfl, rfl, rfl⟩) : HInv wt s' := by
  obtain ⟨e1, e4, e5, e6, e7⟩ := e
  have hnw := wsec_of_rsec hp'
  have hwa : ∀ t', WAll s (s.know t') → WAll s' (s'.know t') := fun t' h => (h.congr e1 e4).mono (hkn t')
  refine hstep h hpc g ?_ ?_ ?_ ?_ hr ?_
  · intro hw'; rw [hnw] at hw'; cases hw'
  · intro t' _ hw'; exact hwa t' (h.wr t' hw')
  · rw [e7]; exact fun hu => hwa wt (h.nolk hu)
  · rw [e7, e6, e5]; exact fun hu hl => (h.unlk hu hl).congr e1 e4
  · intro t' ht' _; exact HR_of_not_rsec (inv.reader_unique hin ht')

end

theorem seen_at_R {t w : Nat} (inv : Inv wt rt s) (hk : HK s t w) (hf : Fw s w) (hwr : w ≠ s.R) :
    staleRead s t s.R = 0 ∧
    (∀ m l, s.q1 = m :: l → Seen s t m) ∧
    (s.q1 = [] → w ≠ 0 → ∃ m l, s.q2 = m :: l ∧ Seen s t m) := by
  obtain ⟨k1, k2⟩ := hk
  have hhead : ∀ m l, s.q1 = m :: l → Seen s t m := by
    intro m l hq
    cases hm : s.rMk0 with
    | false =>
      obtain ⟨m', l', hq', hs⟩ := k1 hm hwr
      rw [hq] at hq'; cases hq'; exact hs
    | true => exact (k2 hm).1 m l hq
  rcases inv.hdr_R hf hwr with ⟨m, l, hq, -, -⟩ | ⟨hq, hmk, -, hmk0⟩
  · refine ⟨staleRead_of_knows ?_, hhead, fun hq' => by rw [hq] at hq'; cases hq'⟩
    have := hhead m l hq 0 (span_pos _)
    rwa [Nat.add_zero, (inv.head hq).1] at this
  · exact ⟨staleRead_of_knows ((k2 hmk0).2.1 s.R hmk), hhead, fun _ hw0 => (k2 hmk0).2.2 hw0⟩

theorem head_fresh {t : Nat} (inv : Inv wt rt s) (hs : HeadSeen s t) : staleRead s t s.R = 0 := by
  obtain ⟨m, l, hq, hseen⟩ := hs
  have := hseen 0 (span_pos _)
  rw [Nat.add_zero, (inv.head hq).1] at this
  exact staleRead_of_knows this

/-! `Keeps`: the value invariant is preserved on its own, the happens-before invariant given the value invariant.
`wquiet`/`rquiet`: moves that leave alone whatever the happens-before invariant reads. A field the move does not store
is given its old value (`v := s.CR`, `x := s.RH`, `st := s.stale`): the successor is then the constructor's by
structure eta. `hst` is under `HInv`: that a read of a data cell (`m2`, `RLoad`) is not stale is a happens-before fact. -/

structure Keeps (wt rt : Nat) (s s' : St) : Prop where
  inv : Inv wt rt s'
  hb  : HInv wt s → HInv wt s'

theorem wquiet {t v st : Nat} {p' : Pc} (inv : Inv wt rt s) (hin : wsec (s.pc t) = true)
    (hcr : CROk { s with CR := v }) (hw : WInv { s with CR := v } t p') (hst : HInv wt s → st = s.stale)
    (hp' : wsec p' = true := by rfl) (hunl : p' ≠ .unl := by nofun) :
    Keeps wt rt s { s with CR := v, stale := st, pc := upd s.pc t p' } :=
  ⟨wstep inv hin (inv.at_w rfl hin).2.2 ⟨inv.geo, hcr, inv.rle, inv.msgs, inv.log, inv.cnt⟩ (fun _ h => h) hw
     (hp' := hp') (hunl := hunl),
   fun h => by rw [hst h]; exact hlocal h (x := s.RH) (fun _ => hin) (HR_of_not_rsec (rsec_of_wsec hp'))⟩

theorem rquiet {t st : Nat} {x : Option Nat} {p' : Pc} (inv : Inv wt rt s) (hin : rsec (s.pc t) = true)
    (hr : RInv { s with RH := x } p') (hst : HInv wt s → st = s.stale) (hh : HInv wt s → HR s t p')
    (hp' : rsec p' = true := by rfl) :
    Keeps wt rt s { s with RH := x, stale := st, pc := upd s.pc t p' } :=
  ⟨rstep inv hin ⟨inv.geo, inv.crok, inv.rle, inv.msgs, inv.log, inv.cnt⟩
     (fun _ _ _ h => h) hr (hp' := hp'),
   fun h => by
     rw [hst h]; exact hlocal h (v := s.CR) (fun hw => by rw [wsec_of_rsec hp'] at hw; cases hw) (hh h)⟩

end MgProof.C08
