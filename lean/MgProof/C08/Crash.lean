import MgProof.C08.Ctl
/-! The writer-crash clause: a thread that only fetches, running alone from any state in which it is a
`PureReader` (every reachable one: `reach_pure`; the writers take no further step, wherever they are), commits
nothing and can only append to `delivered`. -/
namespace MgProof.C08
open MgModel.Conc MgModel.C08

theorem reader_step {s s' : St} {tok : Tok} {ev : List String} (hp : PureReader tok.tid s)
    (hs : step s tok = some (s', ev)) :
    PureReader tok.tid s' ∧ s'.committed = s.committed ∧ ∃ d, s'.delivered = s.delivered ++ d :=
  (step_ctl hs).pure hp

theorem step_frame {s s' : St} {tok : Tok} {ev : List String} (hs : step s tok = some (s', ev))
    {t : Nat} (ht : t ≠ tok.tid) : s'.pc t = s.pc t ∧ s'.prog t = s.prog t :=
  (step_ctl hs).other t ht

theorem PureReader.step {rt : Nat} {s s' : St} {tok : Tok} {ev : List String} (hp : PureReader rt s)
    (hs : step s tok = some (s', ev)) : PureReader rt s' := by
  by_cases h : rt = tok.tid
  · subst h; exact (reader_step hp hs).1
  · exact hp.frame (step_frame hs h)

theorem prologue_pure {rt : Nat} {s : St} (hp : PureReader rt s) (ts : List Nat) :
    PureReader rt (prologue s ts).1 := by
  induction ts generalizing s with
  | nil => exact hp
  | cons t ts ih =>
    simp only [prologue]
    apply ih
    by_cases h : rt = t
    · subst h; exact beginOp_pure hp.1
    · exact hp.frame (beginOp_frame s t h)

theorem reach_pure {rt N : Nat} {useLock : Bool} {progs : List (List Op)}
    (hr : ∀ op, op ∈ progs.getD rt [] → isFetch op = true) :
    ∀ s, Reach step (mkInit N useLock progs).1 s → PureReader rt s := by
  apply Reach.inv
  · apply prologue_pure
    exact ⟨hr, by simp [mkBase, asec, wsec]⟩
  · intro s tok s' ev hp hs; exact hp.step hs

theorem reader_alone {rt : Nat} {s : St} (hp : PureReader rt s) (ts : List Tok)
    (hts : ∀ tok, tok ∈ ts → tok.tid = rt) :
    PureReader rt (runSched step s ts).1 ∧ (runSched step s ts).1.committed = s.committed ∧
    ∃ d, (runSched step s ts).1.delivered = s.delivered ++ d := by
  induction ts generalizing s with
  | nil => exact ⟨hp, rfl, [], by simp [runSched]⟩
  | cons tok ts ih =>
    simp only [runSched]
    cases h : step s tok with
    | none => exact ⟨hp, rfl, [], by simp⟩
    | some p =>
      obtain ⟨s1, ev⟩ := p
      have ht : tok.tid = rt := hts tok (by simp)
      subst ht
      obtain ⟨hp1, hc1, d1, hd1⟩ := reader_step hp h
      obtain ⟨hp2, hc2, d2, hd2⟩ := ih hp1 (fun t ht => hts t (List.mem_cons_of_mem _ ht))
      refine ⟨hp2, hc2.trans hc1, d1 ++ d2, ?_⟩
      rw [hd2, hd1, List.append_assoc]

end MgProof.C08
