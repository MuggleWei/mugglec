import MgProof.C08.Lemmas
import MgProof.Conc
/-! `Inv` across a step: one thread moves, the others keep their facts; the facts of one side are stable under the
steps of the other; a store into the free region touches nothing pending. -/
namespace MgProof.C08
open MgModel.Conc MgModel.C08

theorem ProgOk.congr {wt rt : Nat} {s s' : St} {t : Nat} (h : ProgOk wt rt s t)
    (hprog : s'.prog t = s.prog t) (hul : s'.useLock = s.useLock) : ProgOk wt rt s' t := by
  unfold ProgOk at *; rw [hprog, hul]; exact h

theorem ProgOk.fetch_rt {wt rt : Nat} {s : St} {t : Nat} {rest : List Op} (h : ProgOk wt rt s t)
    (hp : s.prog t = .fetch :: rest) : t = rt :=
  Classical.byContradiction fun hr => by
    have := h.2.1 hr .fetch (by simp [hp])
    simp [isFetch] at this

theorem ProgOk.alloc_wt {wt rt : Nat} {s : St} {t n : Nat} {c : Bool} {rest : List Op} (h : ProgOk wt rt s t)
    (hp : s.prog t = .alloc n c :: rest) (hu : s.useLock = false) : t = wt :=
  Classical.byContradiction fun hw => by
    have := h.2.2 hu hw (.alloc n c) (by simp [hp])
    simp [isFetch] at this

theorem ProgOk.tail {wt rt : Nat} {s s' : St} {t : Nat} {op : Op} {rest : List Op}
    (h : ProgOk wt rt s t) (hp : s.prog t = op :: rest) (hp' : s'.prog t = rest)
    (hul : s'.useLock = s.useLock) : ProgOk wt rt s' t := by
  unfold ProgOk at *
  rw [hp', hul]
  rw [hp] at h
  exact ⟨fun o ho => h.1 o (List.mem_cons_of_mem _ ho),
         fun h1 o ho => h.2.1 h1 o (List.mem_cons_of_mem _ ho),
         fun h1 h2 o ho => h.2.2 h1 h2 o (List.mem_cons_of_mem _ ho)⟩

theorem WInv_of_not_wsec {s : St} {t : Nat} {p : Pc} (h : wsec p = false) : WInv s t p := by
  cases p <;> first | exact trivial | cases h

theorem RInv_of_not_rsec {s : St} {p : Pc} (h : rsec p = false) : RInv s p := by
  cases p <;> first | exact trivial | cases h

theorem WInv.ctl {s : St} {t' : Nat} {p : Pc} {pc : Nat → Pc} {prog : Nat → List Op}
    {opIdx : Nat → Nat} {cur : Nat → Cur} (hcur : cur t' = s.cur t') (h : WInv s t' p) :
    WInv { s with pc := pc, prog := prog, opIdx := opIdx, cur := cur } t' p := by
  cases p <;> first
    | exact trivial
    | (simp only [WInv, Dh, Q0, Rv, Um, Built, CRmoved, hcur] at h ⊢; exact h)

structure REq (s s' : St) : Prop where
  R : s'.R = s.R
  RH : s'.RH = s.RH
  mark : s'.mark = s.mark
  q1 : s'.q1 = s.q1
  q2 : s'.q2 = s.q2
  rP0 : s'.rP0 = s.rP0
  rMk0 : s'.rMk0 = s.rMk0
  rcur : s'.rcur = s.rcur

theorem ThrInv.other {wt rt : Nat} {s s' : St} {t' : Nat} (o : ThrInv wt rt s t')
    (hpc : s'.pc t' = s.pc t') (hprog : s'.prog t' = s.prog t') (hcur : s'.cur t' = s.cur t')
    (hul : s'.useLock = s.useLock) (hlock : wsec (s.pc t') = true → s.lock = 1 → s'.lock = 1)
    (hw : WInv s t' (s.pc t') → WInv s' t' (s.pc t'))
    (hr : RInv s (s.pc t') → RInv s' (s.pc t')) : ThrInv wt rt s' t' := by
  refine ⟨?_, ?_, ?_, ?_, ?_, ?_, ?_⟩
  · exact o.prog.congr hprog hul
  · rw [hpc]; intro h; have := o.cur h; unfold CurOk at *; rw [hcur]; exact this
  · rw [hpc, hul]; intro h; exact ⟨fun h2 => hlock h ((o.lk h).1 h2), (o.lk h).2⟩
  · rw [hpc, hul]; exact o.lku
  · rw [hpc]; exact o.rd
  · rw [hpc]; exact hw o.w
  · rw [hpc]; exact hr o.r

theorem ThrInv.self {wt rt : Nat} {s s' : St} {t : Nat} {p' : Pc} (ti : ThrInv wt rt s t)
    (hpc : s'.pc t = p') (hprog : s'.prog t = s.prog t) (hul : s'.useLock = s.useLock)
    (hcur : asec p' = true → CurOk s' t)
    (hws : wsec p' = true → wsec (s.pc t) = true ∧ (s.lock = 1 → s'.lock = 1))
    (hlku : (p' = .lk ∨ p' = .lkY ∨ p' = .unl) → s.useLock = true)
    (hrs : rsec p' = true → rsec (s.pc t) = true)
    (hw : WInv s' t p') (hr : RInv s' p') : ThrInv wt rt s' t := by
  refine ⟨?_, ?_, ?_, ?_, ?_, ?_, ?_⟩
  · exact ti.prog.congr hprog hul
  · rw [hpc]; exact hcur
  · rw [hpc, hul]; intro h
    have := hws h
    exact ⟨fun h2 => this.2 ((ti.lk this.1).1 h2), (ti.lk this.1).2⟩
  · rw [hpc, hul]; exact hlku
  · rw [hpc]; intro h; exact ti.rd (hrs h)
  · rw [hpc]; exact hw
  · rw [hpc]; exact hr

theorem Inv.others_out {wt rt : Nat} {s : St} {t : Nat} (inv : Inv wt rt s) (h : wsec (s.pc t) = true)
    {t' : Nat} (ht : t' ≠ t) : wsec (s.pc t') = false := by
  cases h' : wsec (s.pc t') with
  | false => rfl
  | true => exact absurd (inv.excl t' t h' h) ht

theorem Inv.reader_unique {wt rt : Nat} {s : St} {t : Nat} (inv : Inv wt rt s) (h : rsec (s.pc t) = true)
    {t' : Nat} (ht : t' ≠ t) : rsec (s.pc t') = false := by
  cases h' : rsec (s.pc t') with
  | false => rfl
  | true => exact absurd (((inv.thr t').rd h').trans ((inv.thr t).rd h).symm) ht

/-- `Inv` minus thread `t` (its program aside): what `beginOp` / `release` start from -/
structure InvX (wt rt : Nat) (s : St) (t : Nat) : Prop extends Glob s where
  excl : ∀ a b, a ≠ t → b ≠ t → wsec (s.pc a) = true → wsec (s.pc b) = true → a = b
  thr  : ∀ t', t' ≠ t → ThrInv wt rt s t'
  prog : ProgOk wt rt s t

theorem Inv.toX {wt rt : Nat} {s : St} (inv : Inv wt rt s) (t : Nat) : InvX wt rt s t :=
  ⟨inv.toGlob, fun a b _ _ ha hb => inv.excl a b ha hb, fun t' _ => inv.thr t', (inv.thr t).prog⟩

theorem InvX.move {wt rt : Nat} {s s' : St} {t : Nat} {p' : Pc} (x : InvX wt rt s t) (g : Glob s')
    (hpc : s'.pc = upd s.pc t p') (hex : wsec p' = true → ∀ a, a ≠ t → wsec (s.pc a) = false)
    (self : ThrInv wt rt s' t)
    (others : ∀ t', t' ≠ t → s'.pc t' = s.pc t' → ThrInv wt rt s t' → ThrInv wt rt s' t') : Inv wt rt s' := by
  refine ⟨g, hpc ▸ excl_upd x.excl hex, fun t' => ?_⟩
  by_cases e : t' = t
  · exact e ▸ self
  · exact others t' e (by rw [hpc, upd_other _ _ _ _ e]) (x.thr t' e)

theorem beginOp_inv {wt rt : Nat} {s : St} {t : Nat} (x : InvX wt rt s t) :
    Inv wt rt (beginOp s t).1 := by
  have h := beginOp_begin s t
  generalize (beginOp s t).1 = s' at h ⊢
  cases h with
  | done =>
    exact x.move (x.toGlob.ctl _ _ _ _) rfl (by simp [wsec])
      ⟨x.prog, by simp [asec, wsec], by simp [wsec], by simp, by simp [rsec], by simp [WInv], by simp [RInv]⟩
      fun t' _ e o => o.other e rfl rfl rfl (fun _ h => h) id id
  | fetch hp =>
    refine x.move (x.toGlob.ctl _ _ _ _) rfl (by simp [wsec])
      ⟨x.prog.tail hp (by simp) rfl, by simp [asec, wsec], by simp [wsec], by simp, fun _ => ?_,
       by simp [WInv], by simp [RInv]⟩
      fun t' h e o => o.other e (upd_other _ _ _ _ h) rfl rfl (fun _ h => h) id id
    exact x.prog.fetch_rt hp
  | @alloc n c rest hp =>
    have hn : 1 ≤ n := x.prog.1 (.alloc n c) (by simp [hp])
    have hwt := x.prog.alloc_wt hp
    refine x.move (x.toGlob.ctl _ _ _ _) rfl ?_ ⟨x.prog.tail hp (by simp) rfl, ?_, ?_, ?_, ?_, ?_, ?_⟩
      fun t' h e o => o.other e (upd_other _ _ _ _ h) (upd_other _ _ _ _ h) rfl (fun _ h => h)
        (WInv.ctl (upd_other _ _ _ _ h)) id
    -- exclusion, then the fields of `ThrInv` from `cur` on
    · intro hw a ha
      cases hu : s.useLock with
      | true => simp [hu, wsec] at hw
      | false =>
        cases h' : wsec (s.pc a) with
        | false => rfl
        | true => exact absurd (((x.thr a ha).lk h').2 hu |>.trans (hwt hu).symm) ha
    · intro _; simp [CurOk, hn]
    · simp only [upd_same]
      cases hu : s.useLock with
      | true => simp [wsec]
      | false => simp [wsec]; exact hwt hu
    · simp only [upd_same]
      cases hu : s.useLock <;> simp
    · simp only [upd_same]
      cases hu : s.useLock <;> simp [rsec]
    · simp only [upd_same]
      cases hu : s.useLock with
      | true => simp [WInv]
      | false =>
        simp only [WInv, Dh, Q0, upd_same, Bool.false_eq_true, if_false]
        intro hd
        exact drained_q0 x.log hd.1
    · simp only [upd_same]
      cases hu : s.useLock <;> simp [RInv]

theorem release_inv {wt rt : Nat} {s : St} {t : Nat} (x : InvX wt rt s t)
    (hl : s.useLock = true → s.lock = 1) (hw : s.useLock = false → t = wt) (hc : CurOk s t)
    (hoth : ∀ t', t' ≠ t → wsec (s.pc t') = false) : Inv wt rt (release s t).1 := by
  rw [release_eq]
  split
  · rename_i hu
    exact x.move (x.toGlob.ctl _ _ _ _) rfl (fun _ => hoth)
      ⟨x.prog, fun _ => hc, by simp [wsec]; exact ⟨hl, hw⟩, by simp [hu], by simp [rsec], by simp [WInv],
       by simp [RInv]⟩
      fun t' _ e o => o.other e rfl rfl rfl (fun _ h => h) id id
  · exact beginOp_inv x

/-- a step inside the write section; what it leaves alone holds by `rfl` once the successor is explicit -/
theorem wstep {wt rt : Nat} {s s' : St} {t : Nat} {p' : Pc} (inv : Inv wt rt s)
    (hin : wsec (s.pc t) = true) (hcur : CurOk s' t) (g : Glob s')
    (hr : ∀ p, RInv s p → RInv s' p) (hw : WInv s' t p')
    (hpc : s'.pc = upd s.pc t p' := by rfl) (hprog : s'.prog = s.prog := by rfl)
    (hul : s'.useLock = s.useLock := by rfl) (hlock : s'.lock = s.lock := by rfl)
    (hcuro : ∀ t', t' ≠ t → s'.cur t' = s.cur t' := by intros; rfl)
    (hp' : wsec p' = true := by rfl) (hunl : p' ≠ .unl := by nofun) : Inv wt rt s' := by
  refine (inv.toX t).move g hpc (fun _ a ha => inv.others_out hin ha) ?_
    fun t' h e o => o.other e (by rw [hprog]) (hcuro t' h) hul (fun _ h => by rw [hlock]; exact h)
      (fun _ => WInv_of_not_wsec (inv.others_out hin h)) (hr _)
  refine (inv.thr t).self (by rw [hpc]; simp) (by rw [hprog]) hul (fun _ => hcur)
    (fun _ => ⟨hin, fun h => by rw [hlock]; exact h⟩) ?_ ?_ hw ?_
  · intro h
    rcases h with h | h | h
    · subst h; simp [wsec] at hp'
    · subst h; simp [wsec] at hp'
    · exact absurd h hunl
  · intro h; rw [rsec_of_wsec hp'] at h; cases h
  · exact RInv_of_not_rsec (rsec_of_wsec hp')

theorem rstep {wt rt : Nat} {s s' : St} {t : Nat} {p' : Pc} (inv : Inv wt rt s)
    (hin : rsec (s.pc t) = true) (g : Glob s')
    (hw : ∀ t' p, t' ≠ t → WInv s t' p → WInv s' t' p) (hr : RInv s' p')
    (hpc : s'.pc = upd s.pc t p' := by rfl) (hprog : s'.prog = s.prog := by rfl)
    (hul : s'.useLock = s.useLock := by rfl) (hlock : s'.lock = s.lock := by rfl)
    (hcur : s'.cur = s.cur := by rfl) (hp' : rsec p' = true := by rfl) : Inv wt rt s' := by
  have hnw := wsec_of_rsec hp'
  refine (inv.toX t).move g hpc (fun h => by rw [hnw] at h; cases h) ?_
    fun t' h e o => o.other e (by rw [hprog]) (by rw [hcur]) hul (fun _ h => by rw [hlock]; exact h)
      (hw t' _ h) (fun _ => RInv_of_not_rsec (inv.reader_unique hin h))
  refine (inv.thr t).self (by rw [hpc]; simp) (by rw [hprog]) hul ?_ ?_ ?_ (fun _ => hin)
    (WInv_of_not_wsec hnw) hr
  · intro h; rw [asec_of_rsec hp'] at h; cases h
  · intro h; rw [hnw] at h; cases h
  · intro h; rcases h with h | h | h <;> subst h <;> simp [rsec] at hp'

theorem finish_w {wt rt : Nat} {s s1 : St} {t : Nat} (inv : Inv wt rt s)
    (hin : wsec (s.pc t) = true) (g : Glob s1) (hr : ∀ p, RInv s p → RInv s1 p)
    (hpc : s1.pc = s.pc := by rfl) (hprog : s1.prog = s.prog := by rfl)
    (hul : s1.useLock = s.useLock := by rfl) (hlock : s1.lock = s.lock := by rfl)
    (hcur : s1.cur = s.cur := by rfl) : Inv wt rt (release s1 t).1 := by
  have ti := inv.thr t
  have hoth : ∀ t', t' ≠ t → wsec (s1.pc t') = false := by
    intro t' h; rw [hpc]; exact inv.others_out hin h
  refine release_inv ⟨g, ?_, ?_, ?_⟩ ?_ ?_ ?_ hoth
  · intro a b _ _ ha hb; rw [hpc] at ha hb; exact inv.excl a b ha hb
  · intro t' h
    exact (inv.thr t').other (by rw [hpc]) (by rw [hprog]) (by rw [hcur]) hul
      (fun _ h => by rw [hlock]; exact h) (fun _ => WInv_of_not_wsec (inv.others_out hin h)) (hr _)
  · exact ti.prog.congr (by rw [hprog]) hul
  · rw [hul, hlock]; exact (ti.lk hin).1
  · rw [hul]; exact (ti.lk hin).2
  · have := ti.cur (asec_of_wsec hin)
    unfold CurOk at *; rw [hcur]; exact this

theorem finish_r {wt rt : Nat} {s s1 : St} {t : Nat} (inv : Inv wt rt s)
    (hin : rsec (s.pc t) = true) (g : Glob s1) (hw : ∀ t' p, t' ≠ t → WInv s t' p → WInv s1 t' p)
    (hpc : s1.pc = s.pc := by rfl) (hprog : s1.prog = s.prog := by rfl)
    (hul : s1.useLock = s.useLock := by rfl) (hlock : s1.lock = s.lock := by rfl)
    (hcur : s1.cur = s.cur := by rfl) : Inv wt rt (beginOp s1 t).1 := by
  have ti := inv.thr t
  refine beginOp_inv ⟨g, ?_, ?_, ?_⟩
  · intro a b _ _ ha hb; rw [hpc] at ha hb; exact inv.excl a b ha hb
  · intro t' h
    exact (inv.thr t').other (by rw [hpc]) (by rw [hprog]) (by rw [hcur]) hul
      (fun _ h => by rw [hlock]; exact h) (hw t' _ h) (fun _ => RInv_of_not_rsec (inv.reader_unique hin h))
  · exact ti.prog.congr (by rw [hprog]) hul

variable {wt rt : Nat} {s s' : St}

/-- a writer publishes: a queue grows at the end, a wrap marker appears only where none is pending, and
while one is pending `q1` stays as it is -/
theorem RInv.mono {p : Pc} {x y : List Msg} (h : RInv s p)
    (e1 : s'.q1 = s.q1 ++ x) (e2 : s'.q2 = s.q2 ++ y) (hm : s.mark.isSome → s'.mark = s.mark ∧ x = [])
    (e : s'.R = s.R ∧ s'.RH = s.RH ∧ s'.rP0 = s.rP0 ∧ s'.rMk0 = s.rMk0 ∧ s'.rcur = s.rcur := by
      exact ⟨rfl, rfl, rfl, rfl, rfl⟩) : RInv s' p := by
  obtain ⟨f1, f2, f3, f4, f5⟩ := e
  have hd : ∀ {φ : Msg → Prop}, (∃ m l, s.q1 = m :: l ∧ φ m) → ∃ m l, s.q1 ++ x = m :: l ∧ φ m :=
    fun ⟨m, l, hq, hφ⟩ => ⟨m, l ++ x, by rw [hq]; rfl, hφ⟩
  have hne1 : s.q1 ≠ [] → s.q1 ++ x ≠ [] := fun h1 h2 => h1 (List.append_eq_nil_iff.mp h2).1
  have hne2 : s.q2 ≠ [] → s.q2 ++ y ≠ [] := fun h1 h2 => h1 (List.append_eq_nil_iff.mp h2).1
  have hfw : ∀ w, Fw s w → Fw s' w := by
    intro w ⟨a, b, c, d, e⟩
    simp only [Fw, f1, f3, f4, e1, e2]
    refine ⟨a, fun hk => ?_, fun hk hw => ?_, fun hk hw => hne2 (d hk hw), fun hk hw => hne1 (e hk hw)⟩
    · rw [(hm (b hk)).1]; exact b hk
    · rw [(hm (b hk)).2, List.append_nil]; exact c hk hw
  cases p <;> first | exact trivial | simp only [RInv, Held, f1, f2, f5, e1, e2] at h ⊢
  case k1 =>
    obtain ⟨a, b, c, d⟩ := h
    obtain ⟨g1, rfl⟩ := hm (by simp [c])
    exact ⟨a, by rw [b]; rfl, by rw [g1]; exact c, hne2 d⟩
  -- the other rows: unchanged facts, then `Fw` (`hfw`), `q1 ≠ []` (`hne1`) or facts about the head of `q1` (`hd`)
  case f1 => exact hfw _ h
  case f2 => exact h.imp_right (hfw _)
  case f3 | f4 => exact h.imp_right (And.imp_right (hfw _))
  case f5 => exact h.imp_right (And.imp_right (And.imp_right (hfw _)))
  case k2 => exact hne1 h
  case g1 | k3 | k4 => exact h.imp_right hne1
  case g2 | k5 => exact h.imp_right (And.imp_right hne1)
  case g3 | r1 | r2 => exact h.imp_right hd
  case rp => exact h.imp_right (And.imp_right hd)
  case r3 => exact h.imp hd hd
  case r4 => exact h.imp_right (And.imp hd hd)

theorem RInv.congr {s s' : St} {p : Pc} (e : REq s s') (h : RInv s p) : RInv s' p :=
  h.mono (x := []) (y := []) (by rw [e.q1, List.append_nil]) (by rw [e.q2, List.append_nil])
    (fun _ => ⟨e.mark, rfl⟩) ⟨e.R, e.RH, e.rP0, e.rMk0, e.rcur⟩

/-- the reader consumes a head or passes the marker -/
theorem WInv.mono {p : Pc} {t' : Nat} (h : WInv s t' p)
    (hq : ¬ Q0 s) (hR : (s'.mark = s.mark ∧ s.R ≤ s'.R) ∨ (s.mark.isSome ∧ s'.mark = none))
    (e : s'.N = s.N ∧ s'.W = s.W ∧ s'.CR = s.CR ∧ s'.WH = s.WH ∧ s'.hb = s.hb ∧ s'.hc = s.hc ∧
         s'.pb = s.pb ∧ s'.cur = s.cur := by exact ⟨rfl, rfl, rfl, rfl, rfl, rfl, rfl, rfl⟩) :
    WInv s' t' p := by
  obtain ⟨e1, e2, e3, e4, e5, e6, e7, e8⟩ := e
  have hd : Dh s' t' = Dh s t' := by simp only [Dh, e1, e8]
  have hmR : ∀ k, (s.mark.isSome → k ≤ s.R) → s'.mark.isSome → k ≤ s'.R := by
    intro k hk hm
    rcases hR with ⟨a, b⟩ | ⟨_, b⟩
    · rw [a] at hm; exact Nat.le_trans (hk hm) b
    · rw [b] at hm; cases hm
  have hmn : s.mark = none → s'.mark = none ∧ s.R ≤ s'.R := by
    intro hm
    rcases hR with ⟨a, b⟩ | ⟨a, _⟩
    · exact ⟨a ▸ hm, b⟩
    · rw [hm] at a; cases a
  have hrv : ∀ r, Rv s r → Rv s' r := by
    intro r ⟨a, b, c⟩
    refine ⟨e1 ▸ a, fun hm => ⟨e2 ▸ ?_, hmR r (fun hm => (b hm).2) hm⟩, fun hm hr => ?_⟩
    · rcases hR with ⟨a', _⟩ | ⟨_, b'⟩
      · exact (b (a' ▸ hm)).1
      · rw [b'] at hm; cases hm
    · rw [e2] at hr
      rcases hR with ⟨a', b'⟩ | ⟨a', _⟩
      · exact Nat.le_trans (c (a' ▸ hm) hr) b'
      · have := (b a').1; omega
  have hum : ∀ r, Um s t' r → Um s' t' r := by
    intro r ⟨a, b, c, d, e, f⟩
    simp only [Um, e1, e2, e3, e8]
    exact ⟨a, (hmn b).1, c, Nat.le_trans d (hmn b).2, e, f⟩
  -- `hq` refutes `Dh`: its consequence `Q0 s` is false
  have nq : ∀ {X : Prop}, (Dh s t' → Q0 s) → Dh s t' → X := fun f d => absurd (f d) hq
  cases p <;> first | exact trivial | simp only [WInv, Built, CRmoved, hd, e1, e2, e3, e4, e5, e6, e7, e8] at h ⊢
  case a2 | h1 | h2 | h3 | h4 | p1 | m1 | m2 | m3 | m4 => exact h
  case a1 => exact nq h
  case u0 => exact ⟨h.1, nq h.2⟩
  case u1 => exact ⟨h.1, hrv _ h.2.1, nq fun d => (h.2.2 d).1⟩
  case ug => exact ⟨h.1, hrv _ h.2.1, h.2.2.1, nq fun d => (h.2.2.2 d).1⟩
  case ugw => exact ⟨h.1, hmR _ h.2.1, h.2.2⟩
  case ul =>
    exact ⟨h.1, h.2.1, Nat.le_trans h.2.2.1 (hmn h.2.2.2.1).2, (hmn h.2.2.2.1).1, nq fun d => (h.2.2.2.2 d).1⟩
  case ulw => exact ⟨h.1, (hmn h.2.1).1, h.2.2⟩
  case um1 => exact hum _ h
  case um2 => exact ⟨h.1, hum _ h.2⟩
  case um3 => exact ⟨h.1, hum _ h.2.1, h.2.2⟩
  case um4 => exact ⟨hum _ h.1, h.2⟩
  case um5 => exact ⟨h.1, h.2.1, h.2.2.1, hmR _ h.2.2.2⟩
  case m5 => exact ⟨h.1, ⟨h.2.1.1, hmR _ h.2.1.2⟩, h.2.2⟩
  case m6 => exact ⟨h.1, h.2.1, ⟨h.2.2.1.1, hmR _ h.2.2.1.2⟩, h.2.2.2⟩

theorem MsgOk.frame {m : Msg} {a k : Nat} (h : MsgOk s m)
    (hd : m.cell + m.ncl ≤ a ∨ a + k ≤ m.cell)
    (hhb : ∀ i, (i < a ∨ a + k ≤ i) → s'.hb i = s.hb i)
    (hhc : ∀ i, (i < a ∨ a + k ≤ i) → s'.hc i = s.hc i)
    (hpb : ∀ i, (i < a ∨ a + k ≤ i) → s'.pb i = s.pb i) : MsgOk s' m := by
  obtain ⟨h1, h2, h3, h4, h5⟩ := h
  have hs := span_add_two m.nb
  refine ⟨h1, h2, ?_, ?_, ?_⟩
  · rw [hhb _ (by omega)]; exact h3
  · rw [hhc _ (by omega)]; exact h4
  · intro i hi; rw [hpb _ (by omega)]; exact h5 i hi

/-- a store into `[W, W + k)` inside the free region touches neither a pending message nor a pending marker;
what else changes with it is not read by `Glob` -/
theorem Inv.store (inv : Inv wt rt s) {k : Nat} (hk : k ≤ s.CR + 1) {hb' hc' pb' : Nat → Option Nat}
    (hhb : ∀ i, (i < s.W ∨ s.W + k ≤ i) → hb' i = s.hb i)
    (hhc : ∀ i, (i < s.W ∨ s.W + k ≤ i) → hc' i = s.hc i)
    (hpb : ∀ i, (i < s.W ∨ s.W + k ≤ i) → pb' i = s.pb i)
    {WH : Option Nat} {pc : Nat → Pc} {cur : Nat → Cur} {cellW : Nat → Nat} {nextW : Nat} {know : Nat → List Nat} :
    Glob { s with hb := hb', hc := hc', pb := pb', WH := WH, pc := pc, cur := cur, cellW := cellW,
                  nextW := nextW, know := know } := by
  refine ⟨?_, inv.crok, inv.rle, fun m hm => ?_, inv.log, inv.cnt⟩
  · unfold Geo
    cases hmk : s.mark with
    | none => exact inv.geo_none hmk
    | some M =>
      have := inv.free_mark hmk
      simp only []
      rw [hhb M (by omega)]
      exact inv.geo_some hmk
  · have hf := inv.free hm
    exact (inv.msgs m hm).frame (a := s.W) (k := k) (by omega) hhb hhc hpb

theorem no_overlap (inv : Inv wt rt s) {k : Nat} (hk : k ≤ s.CR) :
    (s.pend.filter (overlaps s.W k)).length = 0 := by
  rw [List.length_eq_zero_iff, List.filter_eq_nil_iff, inv.pend]
  intro m hm
  have := inv.free hm
  simp only [overlaps, Bool.and_eq_true, decide_eq_true_eq, not_and, Nat.not_lt]
  omega

end MgProof.C08
