import MgProof.C08.HB
/-! Both invariants across the moves of the write lock, `w_alloc` and `w_move` (`WStep`). -/
namespace MgProof.C08
open MgModel.Conc MgModel.C08

variable {wt rt : Nat} {s s' : St} {t : Nat} {p p' : Pc}

/-- a header word of cell `W` is stored -/
theorem wstore {hb' hc' pb' : Nat → Option Nat} (inv : Inv wt rt s) (hin : wsec (s.pc t) = true)
    (hhb : ∀ i, i ≠ s.W → hb' i = s.hb i) (hhc : ∀ i, i ≠ s.W → hc' i = s.hc i)
    (hpb : ∀ i, i ≠ s.W → pb' i = s.pb i)
    (hw : WInv { s with hb := hb', hc := hc', pb := pb' } t p')
    (hp' : wsec p' = true := by rfl) (hunl : p' ≠ .unl := by nofun) :
    Keeps wt rt s { s with
      cellW := fun i => if s.W ≤ i ∧ i < s.W + 1 then s.nextW else s.cellW i, nextW := s.nextW + 1,
      know := upd s.know t (s.nextW :: s.know t), hb := hb', hc := hc', pb := pb', pc := upd s.pc t p' } := by
  have hout : ∀ i, (i < s.W ∨ s.W + 1 ≤ i) → i ≠ s.W := by omega
  exact ⟨wstep inv hin (inv.at_w rfl hin).2.2
      (inv.store (k := 1) (by omega) (fun i hi => hhb i (hout i hi)) (fun i hi => hhc i (hout i hi))
        fun i hi => hpb i (hout i hi))
      (fun _ h => h) hw (hp' := hp') (hunl := hunl),
    fun h => hb_wstep inv h hin (noteWrite_frame inv h hin (a := s.W) (k := 1) (Nat.le_refl _) (by omega)) (hp' := hp')⟩

/-- a turn of the lock loop: between `lk` and `lkY` only the program counter moves -/
theorem lkloop (inv : Inv wt rt s) (hp : s.pc t = .lk ∨ s.pc t = .lkY)
    (hp' : p' = .lk ∨ p' = .lkY) : Keeps wt rt s { s with pc := upd s.pc t p' } := by
  have ti := inv.thr t
  have ha : asec (s.pc t) = true := by rcases hp with h | h <;> rw [h] <;> rfl
  have hu : s.useLock = true := ti.lku (by rcases hp with h | h <;> simp [h])
  have hw' : wsec p' = false := by rcases hp' with rfl | rfl <;> rfl
  have hr' : rsec p' = false := by rcases hp' with rfl | rfl <;> rfl
  exact ⟨(inv.toX _).move (inv.toGlob.ctl _ _ _ _) rfl (fun h => by rw [hw'] at h; cases h)
      (ti.self (p' := p') (by simp) rfl rfl (fun _ => ti.cur ha) (fun h => by rw [hw'] at h; cases h) (fun _ => hu)
        (fun h => by rw [hr'] at h; cases h) (WInv_of_not_wsec hw') (RInv_of_not_rsec hr'))
      fun t' _ e o => o.other e rfl rfl rfl (fun _ h => h) id id,
    fun h => hlocal h (v := s.CR) (x := s.RH) (fun h => by rw [hw'] at h; cases h) (HR_of_not_rsec hr')⟩

theorem WInv.next (inv : Inv wt rt s) (h : WLoc s t p p') (hw : WInv s t p) : WInv s t p' := by
  have hwl := inv.wle
  cases h with
  | a1 =>
    split
    · exact ⟨‹_›, hw⟩
    · exact Nat.le_of_not_lt ‹_›
  | u0 =>
    refine ⟨hw.1, ⟨inv.rle, fun hm => ?_, fun _ _ => Nat.le_refl _⟩, fun hd => ⟨hw.2 hd, rfl⟩⟩
    cases hmk : s.mark with
    | none => simp [hmk] at hm
    | some M => exact ⟨(inv.geo_some hmk).2.2.1, Nat.le_refl _⟩
  | u1 =>
    obtain ⟨h1, ⟨h2, h3, h4⟩, h5⟩ := hw
    split
    · exact ⟨h1, ⟨h2, h3, h4⟩, ‹_›, h5⟩
    · rename_i r hgt
      have hle : r ≤ s.W := Nat.le_of_not_lt hgt
      have hmk : s.mark = none := by
        cases hm : s.mark with
        | none => rfl
        | some M => have := (h3 (by simp [hm])).1; omega
      exact ⟨h1, hle, h4 hmk hle, hmk, h5⟩
  | ug hnf =>
    obtain ⟨h1, ⟨h2, h3, h4⟩, h5, h6⟩ := hw
    refine ⟨by omega, fun hm => by have := (h3 hm).2; omega, fun hd => ?_⟩
    obtain ⟨⟨q1, q2⟩, hr⟩ := h6 hd
    cases hmk : s.mark with
    | none =>
      have g := inv.geo_none hmk
      simp only [q1, chain] at g
      omega
    | some M =>
      -- the marker lies beyond the middle of the ring (`Geo`), so `R - W - 1 = M - 1` is at least `N/2 - 1`
      have g := inv.geo_some hmk
      simp only [q1, q2, chain] at g
      have := hd.2
      omega
  | ul_right _ hright => exact ⟨by omega, hw.2.2.2.1, hright⟩
  | ul_left _ hright hleft =>
    obtain ⟨h1, h2, h3, h4, h5⟩ := hw
    exact ⟨h1, h4, by omega, h3, h2, by omega⟩
  | ul_full _ hright hleft =>
    obtain ⟨h1, h2, h3, h4, h5⟩ := hw
    -- drained and within the bound: one of the two sides must have had room
    intro hd
    obtain ⟨⟨q1, q2⟩, hr⟩ := h5 hd
    have g := inv.geo_none h4
    simp only [q1, chain] at g
    have := hd.2
    omega
  | um1 => exact ⟨rfl, hw⟩
  | a2 hcr => exact Nat.le_of_not_lt hcr
  | h1 => exact ⟨rfl, hw⟩
  | m1 hWH =>
    rw [hw.2.2.1] at hWH
    cases hWH
    exact ⟨rfl, hw⟩
  | m3 => exact ⟨hw.1, rfl, hw.2⟩
  | m5 => exact ⟨hw.1, rfl, hw.2⟩

theorem WInv.nextCr {v : Nat} (inv : Inv wt rt s) (h : WCr p v p') (hw : WInv s t p) :
    CROk { s with CR := v } ∧ WInv { s with CR := v } t p' := by
  have h1 := inv.crok.1
  have h2 := inv.crok.2
  cases h with
  | ugw => exact ⟨⟨hw.1, hw.2.1⟩, hw.2.2⟩
  | ulw => exact ⟨⟨hw.1, fun hm => by simp [hw.2.1] at hm⟩, fun _ => hw.2.2⟩
  | um5 hnf =>
    obtain ⟨a, b, c, d⟩ := hw
    exact ⟨⟨by simp only []; omega, fun hm => by have := d hm; simp only []; omega⟩, fun _ => by simp only []; omega⟩
  | m4 hnf =>
    obtain ⟨rfl, rfl, hcr, hbu⟩ := hw
    exact ⟨⟨by simp only []; omega, fun hm => by have := h2 hm; simp only []; omega⟩,
      rfl, ⟨by simp only []; omega, fun hm => by have := h2 hm; simp only []; omega⟩, hbu⟩

theorem WStep.keeps (h : WStep s t s') (inv : Inv wt rt s) : Keeps wt rt s s' := by
  have ti := inv.thr t
  cases h with
  | lk_free hpc hl0 =>
    -- the lock is free: nobody is inside the write section, and what the last holder knew is in `relL`
    have hu : s.useLock = true := ti.lku (by simp [hpc])
    have hc := ti.cur (by rw [hpc]; rfl)
    have hout : ∀ a, wsec (s.pc a) = false := by
      intro a
      cases h' : wsec (s.pc a) with
      | false => rfl
      | true => have := ((inv.thr a).lk h').1 hu; omega
    refine ⟨(inv.toX _).move ⟨inv.geo, inv.crok, inv.rle, inv.msgs, inv.log, inv.cnt⟩ rfl (fun _ a _ => hout a)
        ⟨ti.prog, fun _ => by simpa [CurOk] using hc, fun _ => ⟨fun _ => rfl, fun h => by simp [hu] at h⟩, by simp,
         by simp [rsec], ?_, by simp [RInv]⟩
        fun t' e' e o => o.other e rfl (upd_other _ _ _ _ e') rfl (fun _ _ => rfl)
          (fun _ => WInv_of_not_wsec (hout t')) id,
      fun h => hstep h rfl ⟨h.stale, h.pub, h.mrk⟩ ?_ ?_ ?_ ?_ trivial ?_⟩
    -- `WInv` at `a1`; then `hstep`'s `wr`, `wro`, `nolk`, `unlk`, `hro`
    · simp only [WInv, Dh, upd_same]
      exact fun hd => drained_q0 inv.log hd.1
    · intro _; simp only [upd_same]; exact (h.unlk hu hl0).mono fun _ hx => mem_kmerge_right _ hx
    · intro t' _ hw'; rw [hout t'] at hw'; cases hw'
    · intro hu'; rw [hu] at hu'; cases hu'
    · intro _ hl; simp only [] at hl; omega
    · intro t' ht' hh; exact HR.congr (s := s) ⟨rfl, rfl, upd_other _ _ _ _ ht', rfl, rfl, rfl, rfl⟩ hh
  | lk_busy hpc => exact lkloop inv (.inl hpc) (.inr rfl)
  | lkY hpc => exact lkloop inv (.inr hpc) (.inl rfl)
  | unl hpc =>
    -- the holder is the only thread inside; what it knows goes to `relL`, so `unlk` is its `wr`
    have hin : wsec (s.pc t) = true := by rw [hpc]; rfl
    have hout := fun t' (e : t' ≠ t) => inv.others_out hin e
    refine ⟨beginOp_inv ⟨⟨inv.geo, inv.crok, inv.rle, inv.msgs, inv.log, inv.cnt⟩, fun a b _ _ => inv.excl a b,
        fun t' e => ?_, ti.prog⟩,
      fun h => beginOp_hinv (rt := rt)
        ⟨⟨h.stale, h.pub, h.mrk⟩, ?_, h.nolk, fun _ _ => h.wr _ hin, fun t' _ => h.r t'⟩ ti.prog⟩
    · exact (inv.thr t').other rfl rfl rfl rfl (fun h2 => by simp [hout t' e] at h2) id id
    · intro t' e hw'; rw [hout t' e] at hw'; cases hw'
  | wloc hpc h =>
    obtain ⟨hin, hw, -⟩ := inv.at_w hpc h.sec.1
    exact wquiet inv hin inv.crok (WInv.next inv h hw) (fun _ => rfl) h.sec.2.1 h.sec.2.2
  | wcr hpc h =>
    obtain ⟨hin, hw, -⟩ := inv.at_w hpc h.sec.1
    obtain ⟨hcr, hw'⟩ := WInv.nextCr inv h hw
    exact wquiet inv hin hcr hw' (fun _ => rfl) h.sec.2.1 h.sec.2.2
  | whb hpc h =>
    obtain ⟨hin, hw, -⟩ := inv.at_w hpc h.sec.1
    cases h with
    | um2 =>
      obtain ⟨rfl, hum⟩ := hw
      exact wstore inv hin (p' := .um3 _ s.W) (fun i hi => upd_other _ _ _ _ hi) (fun _ _ => rfl)
        (fun i hi => upd_other _ _ _ _ hi) ⟨rfl, hum, upd_same _ _ _⟩
    | h2 =>
      obtain ⟨rfl, hcr⟩ := hw
      exact wstore inv hin (p' := .h3 s.W) (fun i hi => upd_other _ _ _ _ hi) (fun _ _ => rfl)
        (fun i hi => upd_other _ _ _ _ hi) ⟨rfl, hcr, upd_same _ _ _⟩
  | whc hpc h =>
    obtain ⟨hin, hw, -⟩ := inv.at_w hpc h.sec.1
    cases h with
    | um3 =>
      obtain ⟨rfl, hum, hb0⟩ := hw
      exact wstore inv hin (p' := .um4 _) (fun _ _ => rfl) (fun i hi => upd_other _ _ _ _ hi) (fun _ _ => rfl)
        ⟨hum, hb0⟩
    | h3 =>
      obtain ⟨rfl, hcr, hb⟩ := hw
      exact wstore inv hin (p' := .h4 s.W) (fun _ _ => rfl) (fun i hi => upd_other _ _ _ _ hi) (fun _ _ => rfl)
        ⟨rfl, hcr, hb, upd_same _ _ _⟩
  | um4 hpc =>
    obtain ⟨hin, ⟨⟨h1, hmk, h3, h4, h5, h6⟩, hb0⟩, hc⟩ := inv.at_w hpc rfl
    have g := inv.geo_none hmk
    have hwl := inv.wle
    have hrl := inv.rle
    -- for the reader's rows: the queues stay as they are, and no marker was pending
    have e := fun l : List Msg => (List.append_nil l).symm
    have hnm : ∀ {X : Prop}, s.mark.isSome → X := fun hm => by simp [hmk] at hm
    refine ⟨wstep inv hin hc ⟨?_, ?_, inv.rle, inv.msgs, inv.log, inv.cnt⟩
        (fun p h => h.mono (x := []) (y := []) (e _) (e _) hnm)
        (p' := .um5 _) ⟨rfl, h3, Nat.lt_of_le_of_lt h4 hrl, fun _ => h4⟩,
      fun h => hb_wstep inv h hin (publish h hin fun t' _ hh => ?_)⟩
    -- `Geo` with the marker at the old `W`; `CROk` (see `Um`); `HR` of the others
    · unfold Geo
      simp only [g.2, chain]
      exact ⟨g.1, trivial, by omega, by omega, hb0, by omega⟩
    · exact ⟨by simp only []; omega, fun _ => by simp only []; omega⟩
    · exact hh.mono (x := []) (y := []) (inv.thr t').r (e _) (e _) hnm (fun _ _ hs => hs) (fun _ _ hk => hk)
  | a2_fail hpc hcr =>
    obtain ⟨hin, hw, -⟩ := inv.at_w hpc rfl
    -- the allocation fails: then it was not a drained ring with a request within the bound
    have hwd : ((s.cur t).drained && decide ((s.cur t).ncl + 1 ≤ s.N / 2)) = false := by
      cases hd : (s.cur t).drained with
      | false => simp
      | true =>
        simp only [Bool.true_and, decide_eq_false_iff_not]
        intro h2
        have := hw ⟨hd, h2⟩
        omega
    simp only [hwd, Bool.false_eq_true, if_false, Nat.add_zero]
    exact ⟨finish_w inv hin ⟨inv.geo, inv.crok, inv.rle, inv.msgs, inv.log, inv.cnt⟩ (fun _ h => h),
      fun h => hfinish_w inv h hin ⟨⟨h.stale, h.pub, h.mrk⟩, h.wr _ hin, fun _ _ hh => hh⟩⟩
  | h4 hpc hn0 =>
    obtain ⟨hin, ⟨rfl, hcr, hb, hcc⟩, hc⟩ := inv.at_w hpc rfl
    have hbv : ¬ s.W + (s.cur t).ncl > s.N := by have := inv.crok.1; omega
    have hov := no_overlap inv hcr
    have hsp := span_add_two (s.cur t).n
    have hncl := hc.2
    have hcrok := inv.crok.1
    simp only [hbv, hov, if_false, Nat.add_zero]
    -- the bulk fill covers `[W, W + span)`, the clobbered header words lie strictly inside
    have hout : ∀ i, (i < s.W ∨ s.W + spanCells (s.cur t).n ≤ i) →
        ¬ (s.W < i ∧ i < s.W + spanCells (s.cur t).n) ∧ ¬ (s.W ≤ i ∧ i < s.W + spanCells (s.cur t).n) := by
      omega
    have h1 : ¬ (s.W < s.W ∧ s.W < s.W + spanCells (s.cur t).n) := by omega
    refine ⟨wstep inv hin (by simpa [CurOk] using hc)
        (inv.store (k := spanCells (s.cur t).n) (by omega) (fun i hi => if_neg (hout i hi).1)
          (fun i hi => if_neg (hout i hi).1) fun i hi => if_neg (hout i hi).2)
        (fun _ h => h) (p' := .p1 s.W) ?_ (hcuro := fun t' h => upd_other _ _ _ _ h),
      fun h => hb_wstep inv h hin
        (noteWrite_frame inv h hin (a := s.W) (k := spanCells (s.cur t).n) (Nat.le_refl _) (by omega))⟩
    · simp only [WInv, Built, upd_same]
      refine ⟨trivial, hcr, trivial, trivial, ?_, ?_, fun i hi => if_pos (by omega)⟩
      · simp only [h1, if_false]; exact hb
      · simp only [h1, if_false]; exact hcc
  | @p1 w c hpc hcdef _ =>
    obtain ⟨hin, ⟨rfl, hcr, hbu⟩, hc⟩ := inv.at_w hpc rfl
    have hsp := span_add_two (s.cur t).n
    have hncl := hc.2
    have hcrok := inv.crok.1
    obtain ⟨hc1, hc2⟩ := lastByteCell_bounds s.W hc.1
    rw [← hcdef] at hc1 hc2
    -- the byte is already there (bulk fill): the store changes nothing
    have hsame : ∀ i, upd s.pb c (some (s.cur t).tag) i = s.pb i := by
      intro i
      simp only [upd]
      split
      · rename_i e
        have := hbu.2.2.2.2 (c - s.W) (by omega)
        rw [e, ← this]; congr 1; omega
      · rfl
    rw [afterPayload_eq]
    split
    · exact ⟨wstep inv hin hc (inv.store (k := 0) (by omega) (fun _ _ => rfl) (fun _ _ => rfl) fun i _ => hsame i)
          (fun _ h => h) (p' := .m1)
          ⟨hcr, hbu.1, hbu.2.1, hbu.2.2.1, hbu.2.2.2.1, fun i hi => (hsame _).trans (hbu.2.2.2.2 i hi)⟩,
        fun h => hb_wstep inv h hin (noteWrite_frame inv h hin (a := c) (k := 1) hc1 (by omega))⟩
    · exact ⟨finish_w inv hin (inv.store (k := 0) (by omega) (fun _ _ => rfl) (fun _ _ => rfl) fun i _ => hsame i)
          (fun _ h => h),
        fun h => hfinish_w inv h hin (noteWrite_frame inv h hin (a := c) (k := 1) hc1 (by omega))⟩
  | m2 hpc _ hhc =>
    -- the writer reads back its own header: the thread inside knows every write (`WAll`)
    obtain ⟨hin, ⟨rfl, hcr, hbu⟩, -⟩ := inv.at_w hpc rfl
    rw [hbu.2.2.2.1] at hhc; cases hhc
    exact wquiet (v := s.CR) inv hin (p' := .m3 (s.cur t).ncl) inv.crok ⟨rfl, hcr, hbu⟩
      fun h => by rw [staleRead_of_knows ((h.wr _ hin).2 s.W)]; rfl
  | m6 hpc =>
    obtain ⟨hin, ⟨rfl, rfl, ⟨hm1, hm2⟩, hcell, hWH, hhb, hhc, hpb⟩, hc⟩ := inv.at_w hpc rfl
    have hn1 : 1 ≤ (s.cur t).ncl := by have := hc.2; simp only [calNcl] at this; omega
    have hmsg : MsgOk s (curMsg (s.cur t)) := by
      simp only [MsgOk, curMsg, hcell]; exact ⟨hc.1, hc.2, hhb, hhc, hpb⟩
    have hmc : (curMsg (s.cur t)).cell = s.W := hcell
    have hmn : (curMsg (s.cur t)).ncl = (s.cur t).ncl := rfl
    generalize curMsg (s.cur t) = m at hmsg hmc hmn ⊢
    -- for the reader's rows: `m` goes to the end of `q2` if a marker is pending, else to the end of `q1`
    have e1 : (if s.mark.isSome then s.q1 else s.q1 ++ [m]) = s.q1 ++ (if s.mark.isSome then [] else [m]) := by
      cases s.mark <;> simp
    have e2 : (if s.mark.isSome then s.q2 ++ [m] else s.q2) = s.q2 ++ (if s.mark.isSome then [m] else []) := by
      cases s.mark <;> simp
    have hm : s.mark.isSome → s.mark = s.mark ∧ (if s.mark.isSome then [] else [m]) = [] :=
      fun hm => ⟨rfl, by simp [hm]⟩
    -- either way `m` goes to the end of what is pending (no marker pending: `q2` is empty)
    have hp : (if s.mark.isSome then s.q1 else s.q1 ++ [m]) ++ (if s.mark.isSome then s.q2 ++ [m] else s.q2) =
        s.q1 ++ s.q2 ++ [m] := by
      cases hmk : s.mark with
      | none => simp [(inv.geo_none hmk).2]
      | some M => simp
    refine ⟨finish_w inv hin ⟨?_, ?_, inv.rle, ?_, ?_, inv.cnt⟩ (fun p h => h.mono e1 e2 hm),
      fun h => hfinish_w inv h hin (publish h hin fun t' _ hh => ?_)⟩
    -- `Geo`, `CROk`, `msgs`, `log`; then `HR` of the others
    · unfold Geo
      cases hmk : s.mark with
      | none =>
        have g := inv.geo_none hmk
        simp only [Option.isSome_none, Bool.false_eq_true, if_false]
        exact ⟨hmn ▸ chain_append g.1 m hmc (hmn ▸ hn1), g.2⟩
      | some M =>
        have g := inv.geo_some hmk
        have := hm2 (by simp [hmk])
        simp only [Option.isSome_some, if_true]
        exact ⟨g.1, hmn ▸ chain_append g.2.1 m hmc (hmn ▸ hn1), by omega, g.2.2.2⟩
    · exact ⟨by simp only []; omega, fun h => by have := hm2 h; simp only []; omega⟩
    · intro m' hm'
      rw [hp] at hm'
      rcases List.mem_append.mp hm' with h | h
      · exact inv.msgs m' h
      · exact List.mem_singleton.mp h ▸ hmsg
    · show s.committed ++ [m] = s.delivered ++ (_ ++ _)
      rw [hp, inv.log, List.append_assoc]
    · exact hh.mono (inv.thr t').r e1 e2 hm (fun _ _ hs => hs) (fun _ _ hk => hk)
  | h4_empty hpc hn0 =>
    -- cannot happen: a message has at least one byte (`CurOk`)
    have := (ti.cur (by rw [hpc]; rfl)).1
    omega

end MgProof.C08
