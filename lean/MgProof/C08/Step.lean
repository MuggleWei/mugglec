import MgModel.C08.Ring
/-!
# C08 — what a step can do

`Step s t s'` lists the moves of the model by kind, one constructor per kind with the successor state written out; a
kind that occurs at several program counters takes counter, test and next counter from a table. Where a move ends an
operation the successor is left as `beginOp` / `release` / `afterPayload` of the model, and `Begin`, `release_eq`,
`afterPayload_eq` say what these do. Every step of the model is a `Step` (`step_sound`); the converse is not needed.
Only this file looks inside the model's `step` and its three helpers.
-/
namespace MgProof.C08
open MgModel.Conc MgModel.C08

/-- inside `w_alloc` / `w_move` (the write lock, if used, is held) -/
def wsec : Pc → Bool
  | .a1 | .u0 | .u1 _ | .ug _ | .ugw _ | .ul _ | .ulw _ | .um1 _ | .um2 _ _ | .um3 _ _ | .um4 _
  | .um5 _ | .a2 | .h1 | .h2 _ | .h3 _ | .h4 _ | .p1 _ | .m1 | .m2 _ | .m3 _ | .m4 _ _ | .m5 _
  | .m6 _ _ | .unl => true
  | _ => false

def rsec : Pc → Bool
  | .f0 | .f1 _ | .f2 _ | .f3 _ _ | .f4 _ | .f5 _ _ | .g1 | .g2 _ | .g3 _ | .rp _ _ | .k1 | .k2
  | .k3 _ | .k4 | .k5 _ | .r1 | .r2 _ | .r3 _ | .r4 _ _ => true
  | _ => false

/-- executing an allocation (its parameters in `cur` are meaningful) -/
def asec : Pc → Bool
  | .lk | .lkY => true
  | p => wsec p

theorem asec_of_wsec {p : Pc} (h : wsec p = true) : asec p = true := by
  unfold asec; split <;> first | rfl | exact h

theorem rsec_of_wsec {p : Pc} (h : wsec p = true) : rsec p = false := by
  cases p <;> first | rfl | cases h

theorem wsec_of_rsec {p : Pc} (h : rsec p = true) : wsec p = false := by
  cases hw : wsec p with
  | false => rfl
  | true => rw [rsec_of_wsec hw] at h; cases h

theorem asec_of_rsec {p : Pc} (h : rsec p = true) : asec p = false := by
  unfold asec; split <;> first | cases h | exact wsec_of_rsec h

def curMsg (c : Cur) : Msg := { cell := c.cell, nb := c.n, ncl := c.ncl, tag := c.tag }

/-- the harness's check that a fetched message is the oldest pending one -/
def fifoCheck (s : St) (h nb tag : Nat) : Nat :=
  match s.pend with
  | [] => 1
  | x :: _ => if x.cell = h ∧ x.nb = nb ∧ x.tag = tag then 0 else 1

def lastByteCell (w n : Nat) : Nat := (w * 64 + 8 + n - 1) / 64

/-- what `beginOp` does, by the head of the thread's program -/
inductive Begin (s : St) (t : Nat) : St → Prop
  | done : s.prog t = [] → Begin s t { s with pc := upd s.pc t .done }
  | fetch {rest} : s.prog t = .fetch :: rest →
      Begin s t { s with prog := upd s.prog t rest, opIdx := upd s.opIdx t (s.opIdx t + 1), pc := upd s.pc t .f0 }
  | alloc {n c rest} : s.prog t = .alloc n c :: rest →
      Begin s t { s with
        prog := upd s.prog t rest, opIdx := upd s.opIdx t (s.opIdx t + 1),
        cur := upd s.cur t { n := n, ncl := calNcl n, commit := c, tag := tagOf t (s.opIdx t), drained := s.drained },
        pc := upd s.pc t (if s.useLock then .lk else .a1) }

theorem beginOp_begin (s : St) (t : Nat) : Begin s t (beginOp s t).1 := by
  unfold beginOp
  split
  · exact .done ‹_›
  · rename_i op rest hp
    cases op with
    | fetch => exact .fetch hp
    | alloc n c => exact .alloc hp

theorem release_eq (s : St) (t : Nat) :
    (release s t).1 = if s.useLock then { s with pc := upd s.pc t .unl } else (beginOp s t).1 := by
  unfold release; split <;> rfl

theorem afterPayload_eq (s : St) (t : Nat) :
    (afterPayload s t).1 = if (s.cur t).commit then { s with pc := upd s.pc t .m1 } else (release s t).1 := by
  unfold afterPayload; split <;> rfl

section
variable (s : St) (t : Nat)

/-- the writer tests or loads a control word and goes on: only its program counter changes -/
inductive WLoc : Pc → Pc → Prop
  | a1 : WLoc .a1 (if s.CR < (s.cur t).ncl then .u0 else .h1)
  | u0 : WLoc .u0 (.u1 s.R)
  | u1 {r} : WLoc (.u1 r) (if r > s.W then .ug r else .ul r)
  | ug {r} : ¬ r < s.W + 1 → WLoc (.ug r) (.ugw (r - s.W - 1))
  | ul_right {r} : ¬ s.N < s.W + 1 → s.N - s.W - 1 ≥ (s.cur t).ncl → WLoc (.ul r) (.ulw (s.N - s.W - 1))
  | ul_left {r : Nat} : ¬ s.N < s.W + 1 → ¬ s.N - s.W - 1 ≥ (s.cur t).ncl →
      (r : Int) - 1 ≥ ((s.cur t).ncl : Int) → WLoc (.ul r) (.um1 r)
  | ul_full {r : Nat} : ¬ s.N < s.W + 1 → ¬ s.N - s.W - 1 ≥ (s.cur t).ncl →
      ¬ (r : Int) - 1 ≥ ((s.cur t).ncl : Int) → WLoc (.ul r) .a2
  | um1 {r} : WLoc (.um1 r) (.um2 r s.W)
  | a2 : ¬ s.CR < (s.cur t).ncl → WLoc .a2 .h1
  | h1 : WLoc .h1 (.h2 s.W)
  | m1 {h} : s.WH = some h → WLoc .m1 (.m2 h)
  | m3 {n} : WLoc (.m3 n) (.m4 n s.CR)
  | m5 {n} : WLoc (.m5 n) (.m6 n s.W)

/-- the writer stores `v` into `cached_remain` -/
inductive WCr : Pc → Nat → Pc → Prop
  | ugw {v} : WCr (.ugw v) v .a2
  | ulw {v} : WCr (.ulw v) v .a2
  | um5 {r} : ¬ r = 0 → WCr (.um5 r) (r - 1) .a2
  | m4 {n cr} : ¬ cr < n → WCr (.m4 n cr) (cr - n) (.m5 n)

/-- the writer stores `v` into the header word `n_bytes` of cell `w` -/
inductive WHb : Pc → Nat → Nat → Pc → Prop
  | um2 {r w} : ¬ w ≥ s.N → WHb (.um2 r w) w 0 (.um3 r w)
  | h2 {w} : ¬ w ≥ s.N → WHb (.h2 w) w (s.cur t).n (.h3 w)

/-- the writer stores `v` into the header word `n_cachelines` of cell `w` -/
inductive WHc : Pc → Nat → Nat → Pc → Prop
  | um3 {r w} : WHc (.um3 r w) w 0 (.um4 r)
  | h3 {w} : WHc (.h3 w) w (s.cur t).ncl (.h4 w)

inductive RLoc : Pc → Pc → Prop
  | f1 {w} : ¬ w = s.R → RLoc (.f1 w) (.f2 w)
  | f2 {w} : RLoc (.f2 w) (.f3 w s.R)
  | f4 {w h} : s.RH = some h → RLoc (.f4 w) (.f5 w h)
  | g1 {h} : s.RH = some h → RLoc .g1 (.g2 h)
  | g3 {nb h} : s.RH = some h → nb ≠ 0 → RLoc (.g3 nb) (.rp h nb)
  | k2 : RLoc .k2 (.k3 s.R)
  | k4 {h} : s.RH = some h → RLoc .k4 (.k5 h)
  | r1 {h} : s.RH = some h → RLoc .r1 (.r2 h)
  | r3 {n} : RLoc (.r3 n) (.r4 n s.R)

/-- the reader stores `&data[r]` into `cached_r_hdr` -/
inductive RRh : Pc → Nat → Pc → Prop
  | f3 {w r} : RRh (.f3 w r) r (.f4 w)
  | k3 {r} : RRh (.k3 r) r .k4

/-- the reader reads a header word of data cell `c`, which decides where it goes -/
inductive RLoad : Pc → Nat → Pc → Prop
  | f5_msg {w h nb} : ¬ h ≥ s.N → s.hb h = some nb → nb ≠ 0 → RLoad (.f5 w h) h .g1
  | f5_mark {w h nb} : ¬ h ≥ s.N → s.hb h = some nb → ¬ nb ≠ 0 → ¬ w = 0 → RLoad (.f5 w h) h .k1
  | g2 {h nb} : ¬ h ≥ s.N → s.hb h = some nb → RLoad (.g2 h) h (.g3 nb)
  | k5 {h nb} : ¬ h ≥ s.N → s.hb h = some nb → nb ≠ 0 → RLoad (.k5 h) h .g1
  | r2 {h n} : ¬ h ≥ s.N → s.hc h = some n → RLoad (.r2 h) h (.r3 n)

/-- `r_fetch` returns `NULL`; the second component is the new value of `stale` -/
inductive RNone : Pc → Nat → Prop
  | f1 {w} : w = s.R → RNone (.f1 w) s.stale
  | f5 {w h nb} : ¬ h ≥ s.N → s.hb h = some nb → ¬ nb ≠ 0 → w = 0 → RNone (.f5 w h) (s.stale + staleRead s t h)
  | k5 {h nb} : ¬ h ≥ s.N → s.hb h = some nb → ¬ nb ≠ 0 → RNone (.k5 h) (s.stale + staleRead s t h)

/-- the tests that lead to the model's explicit error transitions -/
inductive Fail : Pc → Prop
  | ug {r} : r < s.W + 1 → Fail (.ug r)
  | ul {r} : s.N < s.W + 1 → Fail (.ul r)
  | um2 {r w} : w ≥ s.N → Fail (.um2 r w)
  | um5 {r} : r = 0 → Fail (.um5 r)
  | h2 {w} : w ≥ s.N → Fail (.h2 w)
  | p1 {w} : lastByteCell w (s.cur t).n ≥ s.N → Fail (.p1 w)
  | m1 : s.WH = none → Fail .m1
  | m2_out {h} : h ≥ s.N → Fail (.m2 h)
  | m2_junk {h} : s.hc h = none → Fail (.m2 h)
  | m4 {n cr} : cr < n → Fail (.m4 n cr)
  | f4 {w} : s.RH = none → Fail (.f4 w)
  | f5_out {w h} : h ≥ s.N → Fail (.f5 w h)
  | f5_junk {w h} : s.hb h = none → Fail (.f5 w h)
  | g1 : s.RH = none → Fail .g1
  | g2_out {h} : h ≥ s.N → Fail (.g2 h)
  | g2_junk {h} : s.hb h = none → Fail (.g2 h)
  | g3 {nb} : s.RH = none → Fail (.g3 nb)
  | rp_out {h nb} : lastByteCell h nb ≥ s.N → Fail (.rp h nb)
  | rp_junk {h nb} : s.pb (lastByteCell h nb) = none → Fail (.rp h nb)
  | k4 : s.RH = none → Fail .k4
  | k5_out {h} : h ≥ s.N → Fail (.k5 h)
  | k5_junk {h} : s.hb h = none → Fail (.k5 h)
  | r1 : s.RH = none → Fail .r1
  | r2_out {h} : h ≥ s.N → Fail (.r2 h)
  | r2_junk {h} : s.hc h = none → Fail (.r2 h)

/-- the write lock, `w_alloc`, `w_move`; a store into the data area records the write (`noteWrite`: `cellW`,
`nextW`, `know`). `p1` (and `rp` below) name the cell of the last payload byte by an equation `c = …`: hypotheses and
successor mention it several times -/
inductive WStep : St → Prop
  | lk_free : s.pc t = .lk → s.lock = 0 →
      WStep { s with lock := 1, pc := upd s.pc t .a1, cur := upd s.cur t { s.cur t with drained := s.drained },
                     know := upd s.know t (kmerge (s.know t) s.relL) }
  | lk_busy : s.pc t = .lk → ¬ s.lock = 0 → WStep { s with pc := upd s.pc t .lkY }
  | lkY : s.pc t = .lkY → WStep { s with pc := upd s.pc t .lk }
  | unl : s.pc t = .unl → WStep (beginOp { s with lock := 0, relL := s.know t } t).1
  | wloc {p p'} : s.pc t = p → WLoc s t p p' → WStep { s with pc := upd s.pc t p' }
  | wcr {p v p'} : s.pc t = p → WCr p v p' → WStep { s with CR := v, pc := upd s.pc t p' }
  | whb {p w v p'} : s.pc t = p → WHb s t p w v p' →
      WStep { s with cellW := fun i => if w ≤ i ∧ i < w + 1 then s.nextW else s.cellW i, nextW := s.nextW + 1,
                     know := upd s.know t (s.nextW :: s.know t),
                     hb := upd s.hb w (some v), pb := upd s.pb w none, pc := upd s.pc t p' }
  | whc {p w v p'} : s.pc t = p → WHc s t p w v p' →
      WStep { s with cellW := fun i => if w ≤ i ∧ i < w + 1 then s.nextW else s.cellW i, nextW := s.nextW + 1,
                     know := upd s.know t (s.nextW :: s.know t),
                     hc := upd s.hc w (some v), pc := upd s.pc t p' }
  | um4 {r} : s.pc t = .um4 r →
      WStep { s with W := 0, mark := some s.W, relW := s.know t, pc := upd s.pc t (.um5 r) }
  | a2_fail : s.pc t = .a2 → s.CR < (s.cur t).ncl →
      WStep (release { s with
        fails := s.fails + 1,
        wedge := s.wedge + (if ((s.cur t).drained && decide ((s.cur t).ncl + 1 ≤ s.N / 2)) then 1 else 0) } t).1
  | h4 {w} : s.pc t = .h4 w → ¬ (s.cur t).n = 0 →
      WStep { s with
        cellW := fun i => if w ≤ i ∧ i < w + spanCells (s.cur t).n then s.nextW else s.cellW i,
        nextW := s.nextW + 1, know := upd s.know t (s.nextW :: s.know t),
        WH := some w, cur := upd s.cur t { s.cur t with cell := w },
        boundsViol := s.boundsViol + (if w + (s.cur t).ncl > s.N then 1 else 0),
        overlapViol := s.overlapViol + (s.pend.filter (overlaps w (s.cur t).ncl)).length,
        pb := fun i => if w ≤ i ∧ i < w + spanCells (s.cur t).n then some (s.cur t).tag else s.pb i,
        hb := fun i => if w < i ∧ i < w + spanCells (s.cur t).n then none else s.hb i,
        hc := fun i => if w < i ∧ i < w + spanCells (s.cur t).n then none else s.hc i,
        pc := upd s.pc t (.p1 w) }
  | h4_empty {w} : s.pc t = .h4 w → (s.cur t).n = 0 →
      WStep (afterPayload { s with
        WH := some w, cur := upd s.cur t { s.cur t with cell := w },
        boundsViol := s.boundsViol + (if w + (s.cur t).ncl > s.N then 1 else 0),
        overlapViol := s.overlapViol + (s.pend.filter (overlaps w (s.cur t).ncl)).length } t).1
  | p1 {w c} : s.pc t = .p1 w → c = lastByteCell w (s.cur t).n → ¬ c ≥ s.N →
      WStep (afterPayload { s with
        cellW := fun i => if c ≤ i ∧ i < c + 1 then s.nextW else s.cellW i, nextW := s.nextW + 1,
        know := upd s.know t (s.nextW :: s.know t), pb := upd s.pb c (some (s.cur t).tag) } t).1
  | m2 {h n} : s.pc t = .m2 h → ¬ h ≥ s.N → s.hc h = some n →
      WStep { s with pc := upd s.pc t (.m3 n), stale := s.stale + staleRead s t h }
  | m6 {n w} : s.pc t = .m6 n w →
      WStep (release { s with
        W := w + n, relW := s.know t, committed := s.committed ++ [curMsg (s.cur t)],
        q1 := if s.mark.isSome then s.q1 else s.q1 ++ [curMsg (s.cur t)],
        q2 := if s.mark.isSome then s.q2 ++ [curMsg (s.cur t)] else s.q2 } t).1

/-- `r_fetch`, `r_move` -/
inductive RStep : St → Prop
  | f0 : s.pc t = .f0 →
      RStep { s with pc := upd s.pc t (.f1 s.W), rP0 := s.pend.length, rMk0 := s.mark.isSome,
                     know := upd s.know t (kmerge (s.know t) s.relW) }
  | rloc {p p'} : s.pc t = p → RLoc s p p' → RStep { s with pc := upd s.pc t p' }
  | rrh {p r p'} : s.pc t = p → RRh p r p' → RStep { s with RH := some r, pc := upd s.pc t p' }
  | rload {p c p'} : s.pc t = p → RLoad s p c p' →
      RStep { s with pc := upd s.pc t p', stale := s.stale + staleRead s t c }
  | rnone {p st} : s.pc t = p → RNone s t p st →
      RStep (beginOp { s with stale := st, nones := s.nones + 1,
                              noneViol := s.noneViol + (if s.rP0 = 0 then 0 else 1) } t).1
  | g3_empty {nb h} : s.pc t = .g3 nb → s.RH = some h → ¬ nb ≠ 0 →
      RStep { s with rcur := { cell := h, nb := 0, ncl := 0, tag := 0 }, fetched := s.fetched + 1,
                     fifoViol := s.fifoViol + fifoCheck s h 0 0, pc := upd s.pc t .r1 }
  | rp {h nb c tag} : s.pc t = .rp h nb → c = lastByteCell h nb → ¬ c ≥ s.N → s.pb c = some tag →
      RStep { s with
        rcur := { cell := h, nb := nb, ncl := 0, tag := tag }, fetched := s.fetched + 1,
        fifoViol := s.fifoViol + fifoCheck s h nb tag,
        corrupt := s.corrupt + (if ((List.range (spanCells nb)).all fun i => s.pb (h + i) == some tag) then 0 else 1),
        stale := s.stale + staleRead s t c, pc := upd s.pc t .r1 }
  | k1 : s.pc t = .k1 →
      RStep { s with R := 0, q1 := s.q1 ++ s.q2, q2 := [], mark := none, pc := upd s.pc t .k2 }
  | r4 {n r} : s.pc t = .r4 n r →
      RStep (beginOp { s with
        R := r + n, delivered := s.delivered ++ [{ s.rcur with ncl := n }],
        q1 := if s.q1.isEmpty then s.q1 else s.q1.tail,
        q2 := if s.q1.isEmpty then s.q2.tail else s.q2 } t).1

inductive Step : St → Prop
  | fail {p} : s.pc t = p → Fail s t p → Step { s with pc := upd s.pc t .bad, errs := s.errs + 1 }
  | w {s'} : WStep s t s' → Step s'
  | r {s'} : RStep s t s' → Step s'

end

variable {s s' : St} {t : Nat} {p p' : Pc} {ev : List String}

theorem WLoc.sec (h : WLoc s t p p') : wsec p = true ∧ wsec p' = true ∧ p' ≠ .unl := by
  cases h <;> (try split) <;> exact ⟨rfl, rfl, nofun⟩

theorem WCr.sec {v : Nat} (h : WCr p v p') : wsec p = true ∧ wsec p' = true ∧ p' ≠ .unl := by
  cases h <;> exact ⟨rfl, rfl, nofun⟩

theorem WHb.sec {w v : Nat} (h : WHb s t p w v p') : wsec p = true ∧ wsec p' = true ∧ p' ≠ .unl := by
  cases h <;> exact ⟨rfl, rfl, nofun⟩

theorem WHc.sec {w v : Nat} (h : WHc s t p w v p') : wsec p = true ∧ wsec p' = true ∧ p' ≠ .unl := by
  cases h <;> exact ⟨rfl, rfl, nofun⟩

theorem RLoc.sec (h : RLoc s p p') : rsec p = true ∧ rsec p' = true := by
  cases h <;> exact ⟨rfl, rfl⟩

theorem RRh.sec {r : Nat} (h : RRh p r p') : rsec p = true ∧ rsec p' = true := by
  cases h <;> exact ⟨rfl, rfl⟩

theorem RLoad.sec {c : Nat} (h : RLoad s p c p') : rsec p = true ∧ rsec p' = true := by
  cases h <;> exact ⟨rfl, rfl⟩

theorem RNone.sec {st : Nat} (h : RNone s t p st) : rsec p = true := by
  cases h <;> rfl

theorem step_of {x : St} {e : List String} (h : some (x, e) = some (s', ev)) (hx : Step s t x) : Step s t s' := by
  cases h; exact hx

/-- for a step that ends in `let (s2, e2) := release … / beginOp … / afterPayload …; some (s2, … ++ e2)` -/
theorem step_fin {q : St × List String} {g : List String → List String}
    (h : (match q with | (s2, e2) => some (s2, g e2)) = some (s', ev)) (hx : Step s t q.1) : Step s t s' := by
  obtain ⟨a, b⟩ := q
  cases h; exact hx

theorem step_sound {tok : Tok} (hs : step s tok = some (s', ev)) : Step s tok.tid s' := by
  by_cases ht : tok.tid ≥ s.nthr
  · simp [step, ht] at hs
  cases hpc : s.pc tok.tid
  all_goals simp only [step, ht, hpc, if_false, MgModel.C08.fail, noteWrite] at hs
  case done | bad => cases hs
  -- one successor: the row of the table, or the constructor, for this program counter
  case a1 | u0 | u1 | um1 | h1 | m3 | m5 => exact step_of hs (.w (.wloc hpc (by constructor)))
  case ugw | ulw => exact step_of hs (.w (.wcr hpc (by constructor)))
  case um3 | h3 => exact step_of hs (.w (.whc hpc (by constructor)))
  case f2 | k2 | r3 => exact step_of hs (.r (.rloc hpc (by constructor)))
  case f3 | k3 => exact step_of hs (.r (.rrh hpc (by constructor)))
  case lkY => exact step_of hs (.w (.lkY hpc))
  case um4 => exact step_of hs (.w (.um4 hpc))
  case m6 => exact step_fin hs (.w (.m6 hpc))
  case unl => exact step_fin hs (.w (.unl hpc))
  case f0 => exact step_of hs (.r (.f0 hpc))
  case k1 => exact step_of hs (.r (.k1 hpc))
  case r4 => exact step_fin hs (.r (.r4 hpc))
  -- one test: the error transition, or the row of the table
  case ug | m1 =>
    split at hs
    · exact step_of hs (.fail hpc (by constructor; assumption))
    · exact step_of hs (.w (.wloc hpc (by constructor; assumption)))
  case um5 | m4 =>
    split at hs
    · exact step_of hs (.fail hpc (by constructor; assumption))
    · exact step_of hs (.w (.wcr hpc (by constructor; assumption)))
  case um2 | h2 =>
    split at hs
    · exact step_of hs (.fail hpc (by constructor; assumption))
    · exact step_of hs (.w (.whb hpc (by constructor; assumption)))
  case f4 | g1 | k4 | r1 =>
    split at hs
    · exact step_of hs (.fail hpc (by constructor; assumption))
    · exact step_of hs (.r (.rloc hpc (by constructor; assumption)))
  case lk =>
    split at hs
    · exact step_of hs (.w (.lk_free hpc ‹_›))
    · exact step_of hs (.w (.lk_busy hpc ‹_›))
  case ul =>
    split at hs
    · exact step_of hs (.fail hpc (.ul ‹_›))
    split at hs
    · exact step_of hs (.w (.wloc hpc (.ul_right ‹_› ‹_›)))
    split at hs
    · exact step_of hs (.w (.wloc hpc (.ul_left ‹_› ‹_› ‹_›)))
    · exact step_of hs (.w (.wloc hpc (.ul_full ‹_› ‹_› ‹_›)))
  case a2 =>
    split at hs
    · exact step_fin hs (.w (.a2_fail hpc ‹_›))
    · exact step_of hs (.w (.wloc hpc (.a2 ‹_›)))
  case h4 =>
    split at hs
    · exact step_fin hs (.w (.h4_empty hpc ‹_›))
    · exact step_of hs (.w (.h4 hpc ‹_›))
  case p1 =>
    split at hs
    · exact step_of hs (.fail hpc (.p1 ‹_›))
    · exact step_fin hs (.w (.p1 hpc rfl ‹_›))
  case m2 =>
    split at hs
    · exact step_of hs (.fail hpc (.m2_out ‹_›))
    split at hs
    · exact step_of hs (.fail hpc (.m2_junk ‹_›))
    · exact step_of hs (.w (.m2 hpc ‹_› ‹_›))
  case f1 =>
    split at hs
    · exact step_fin hs (.r (.rnone hpc (.f1 ‹_›)))
    · exact step_of hs (.r (.rloc hpc (.f1 ‹_›)))
  case f5 =>
    split at hs
    · exact step_of hs (.fail hpc (.f5_out ‹_›))
    split at hs
    · exact step_of hs (.fail hpc (.f5_junk ‹_›))
    split at hs
    · exact step_of hs (.r (.rload hpc (.f5_msg ‹_› ‹_› ‹_›)))
    split at hs
    · exact step_fin hs (.r (.rnone hpc (.f5 ‹_› ‹_› ‹_› ‹_›)))
    · exact step_of hs (.r (.rload hpc (.f5_mark ‹_› ‹_› ‹_› ‹_›)))
  case g2 =>
    split at hs
    · exact step_of hs (.fail hpc (.g2_out ‹_›))
    split at hs
    · exact step_of hs (.fail hpc (.g2_junk ‹_›))
    · exact step_of hs (.r (.rload hpc (.g2 ‹_› ‹_›)))
  case g3 =>
    split at hs
    · exact step_of hs (.fail hpc (.g3 ‹_›))
    split at hs
    · exact step_of hs (.r (.rloc hpc (.g3 ‹_› ‹_›)))
    · exact step_of hs (.r (.g3_empty hpc ‹_› ‹_›))
  case rp =>
    split at hs
    · exact step_of hs (.fail hpc (.rp_out ‹_›))
    split at hs
    · exact step_of hs (.fail hpc (.rp_junk ‹_›))
    · exact step_of hs (.r (.rp hpc rfl ‹_› ‹_›))
  case k5 =>
    split at hs
    · exact step_of hs (.fail hpc (.k5_out ‹_›))
    split at hs
    · exact step_of hs (.fail hpc (.k5_junk ‹_›))
    split at hs
    · exact step_of hs (.r (.rload hpc (.k5 ‹_› ‹_› ‹_›)))
    · exact step_fin hs (.r (.rnone hpc (.k5 ‹_› ‹_› ‹_›)))
  case r2 =>
    split at hs
    · exact step_of hs (.fail hpc (.r2_out ‹_›))
    split at hs
    · exact step_of hs (.fail hpc (.r2_junk ‹_›))
    · exact step_of hs (.r (.rload hpc (.r2 ‹_› ‹_›)))

end MgProof.C08
