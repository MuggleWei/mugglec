import MgProof.C09.MapLemmas
/-!
# C09 — AVL tree: invariants, the rebalancing lemmas, the in-order sequence as an association list
-/
namespace MgProof.C09
open MgModel.C09 MgModel.C09.T

/-- every node: the subtree heights differ by at most one and the stored balance
factor is exactly `height(right) − height(left)` -/
def Avl : T → Prop
  | .nil => True
  | .node l _ _ b r _ _ => Avl l ∧ Avl r ∧ b = (height r : Int) - (height l : Int) ∧ -1 ≤ b ∧ b ≤ 1

def Sorted (t : T) : Prop := (toList t).Pairwise (fun p q => p.1 < q.1)

@[simp] theorem avl_nil : Avl .nil := trivial
@[simp] theorem height_nil : height .nil = 0 := rfl
@[simp] theorem height_node (l k v b r i p) :
    height (.node l k v b r i p) = max (height l) (height r) + 1 := rfl
@[simp] theorem toList_nil : toList .nil = [] := rfl
@[simp] theorem toList_node (l k v b r i p) :
    toList (.node l k v b r i p) = toList l ++ (k, v) :: toList r := rfl
@[simp] theorem height_setPar (t : T) (p : Option Nat) : height (setPar t p) = height t := by
  cases t <;> rfl
@[simp] theorem toList_setPar (t : T) (p : Option Nat) : toList (setPar t p) = toList t := by
  cases t <;> rfl
@[simp] theorem rootBal_setPar (t : T) (p : Option Nat) : rootBal (setPar t p) = rootBal t := by
  cases t <;> rfl

theorem avl_node {l k v b r i p} :
    Avl (.node l k v b r i p) ↔ Avl l ∧ Avl r ∧ b = (height r : Int) - (height l : Int) ∧ -1 ≤ b ∧ b ≤ 1 :=
  Iff.rfl

theorem height_pos_iff {t : T} : 0 < height t ↔ t ≠ .nil := by
  cases t <;> simp

@[simp] theorem avl_setPar (t : T) (p : Option Nat) : Avl (setPar t p) ↔ Avl t := by
  cases t <;> exact Iff.rfl

theorem sorted_node {l k v b r i p} :
    Sorted (.node l k v b r i p) ↔
      Sorted l ∧ Sorted r ∧ (∀ p ∈ toList l, p.1 < k) ∧ (∀ p ∈ toList r, k < p.1) := by
  simp only [Sorted, toList, List.pairwise_append, List.pairwise_cons, List.mem_cons]
  constructor
  · rintro ⟨h1, ⟨h2, h3⟩, h4⟩
    exact ⟨h1, h3, fun p hp => h4 p hp (k, v) (Or.inl rfl), fun p hp => h2 p hp⟩
  · rintro ⟨h1, h2, h3, h4⟩
    refine ⟨h1, ⟨fun p hp => h4 p hp, h2⟩, ?_⟩
    intro p hp q hq
    rcases hq with rfl | hq
    · exact h3 p hp
    · exact Int.lt_trans (h3 p hp) (h4 q hq)

theorem bal_cases {b : Int} (h1 : -1 ≤ b) (h2 : b ≤ 1) : b = -1 ∨ b = 0 ∨ b = 1 := by omega

/-! `rebalance` on a node whose subtree heights differ by two: the children's balance factors decide
which rotation runs, so the result is computed (`rfl`) and its factors checked against the heights. -/

/-- right-heavy node (`balance == 2`); `d` = depth decreased, which is forced when the right child
is not balanced at its root -/
theorem rebalance_right {l r : T} (k : Int) (v : Nat) (i : Nat) (p : Option Nat)
    (hl : Avl l) (hr : Avl r) (hh : height r = height l + 2) :
    ∃ t' d, rebalance (.node l k v 2 r i p) = .ok (t', d) ∧ Avl t' ∧
      toList t' = toList l ++ (k, v) :: toList r ∧
      height t' + d.toNat = height r + 1 ∧ (rootBal r ≠ some 0 → d = true) := by
  cases r with
  | nil => simp at hh
  | node rl rk rv rb rr ri rp =>
    obtain ⟨hrl, hrr, hrb, hrb1, hrb2⟩ := hr
    simp only [height_node] at hh
    rcases bal_cases hrb1 hrb2 with rfl | rfl | rfl
    -- `rb = -1`: double rotation, the root of `rl` comes up; the new balance factors are `if`s on
    -- the sign of its factor `yb`, which `omega` splits
    · cases rl with
      | nil => simp at hrb
      | node t2 yk yv yb t3 yi yp =>
        obtain ⟨h2, h3, hyb, _, _⟩ := hrl
        simp only [height_node] at hrb hh
        refine ⟨_, _, rfl, ⟨⟨hl, (avl_setPar _ _).mpr h2, ?_⟩,
            ⟨(avl_setPar _ _).mpr h3, hrr, ?_⟩, ?_⟩, by simp, ?_, by simp [rootBal]⟩ <;>
          simp only [height_node, height_setPar, Bool.toNat_true] <;> omega
    -- `rb ≥ 0`: single rotation, `r` comes up
    iterate 2
      refine ⟨_, _, rfl, ⟨⟨hl, (avl_setPar _ _).mpr hrl, ?_⟩, hrr, ?_⟩,
        by simp, ?_, by simp [rootBal]⟩ <;>
        simp only [height_node, height_setPar, Bool.toNat_false, Bool.toNat_true] <;> omega

/-- left-heavy node (`balance == -2`), mirror image of `rebalance_right` -/
theorem rebalance_left {l r : T} (k : Int) (v : Nat) (i : Nat) (p : Option Nat)
    (hl : Avl l) (hr : Avl r) (hh : height l = height r + 2) :
    ∃ t' d, rebalance (.node l k v (-2) r i p) = .ok (t', d) ∧ Avl t' ∧
      toList t' = toList l ++ (k, v) :: toList r ∧
      height t' + d.toNat = height l + 1 ∧ (rootBal l ≠ some 0 → d = true) := by
  cases l with
  | nil => simp at hh
  | node ll lk lv lb lr li lp =>
    obtain ⟨hll, hlr, hlb, hlb1, hlb2⟩ := hl
    simp only [height_node] at hh
    rcases bal_cases hlb1 hlb2 with rfl | rfl | rfl
    -- `lb ≤ 0`: single rotation, `l` comes up
    iterate 2
      refine ⟨_, _, rfl, ⟨hll, ⟨(avl_setPar _ _).mpr hlr, hr, ?_⟩, ?_⟩,
        by simp, ?_, by simp [rootBal]⟩ <;>
        simp only [height_node, height_setPar, Bool.toNat_false, Bool.toNat_true] <;> omega
    -- `lb = 1`: double rotation, the root of `lr` comes up
    · cases lr with
      | nil => simp at hlb; omega
      | node t3 yk yv yb t2 yi yp =>
        obtain ⟨h3, h2, hyb, _, _⟩ := hlr
        simp only [height_node] at hlb hh
        refine ⟨_, _, rfl, ⟨⟨hll, (avl_setPar _ _).mpr h3, ?_⟩,
            ⟨(avl_setPar _ _).mpr h2, hr, ?_⟩, ?_⟩, by simp, ?_, by simp [rootBal]⟩ <;>
          simp only [height_node, height_setPar, Bool.toNat_true] <;> omega

theorem find_eq_lookup : ∀ {t : T}, Sorted t → ∀ y, find t y = List.lookup y (toList t) := by
  intro t
  induction t with
  | nil => intro _ y; rfl
  | node l k v b r i p ihl ihr =>
    intro hs y
    obtain ⟨sl, sr, hlk, hkr⟩ := sorted_node.mp hs
    rw [toList_node, lookup_insert (fun p hp => Int.ne_of_lt (hlk p hp)), List.lookup_append, find,
      ← ihl sl, ← ihr sr]
    split
    · rfl
    split
    · -- `y < k`: nothing for `y` right of `k`
      rw [ihr sr, lookup_eq_none.mpr fun p hp => by have := hkr p hp; omega, Option.or_none]
    · rw [ihl sl, lookup_eq_none.mpr fun p hp => by have := hlk p hp; omega, Option.none_or]

theorem size_eq_length : ∀ t : T, T.size t = (toList t).length := by
  intro t
  induction t with
  | nil => rfl
  | node l k v b r i p ihl ihr => simp [T.size, ihl, ihr]; omega

/-- `l'` is `l` with `(x, xv)` put in at its sorted position: what insertion does to the in-order
sequence, and removal read backwards -/
def Inserted (x : Int) (xv : Nat) (l l' : List (Int × Nat)) : Prop :=
  ∃ l1 l2, l = l1 ++ l2 ∧ l' = l1 ++ (x, xv) :: l2 ∧ (∀ p ∈ l1, p.1 < x) ∧ (∀ p ∈ l2, x < p.1)

namespace Inserted
variable {x : Int} {xv : Nat} {l l' : List (Int × Nat)}

theorem left (h : Inserted x xv l l') {k : Int} (v : Nat) {r : List (Int × Nat)} (hk : x < k)
    (hr : ∀ p ∈ r, k < p.1) : Inserted x xv (l ++ (k, v) :: r) (l' ++ (k, v) :: r) := by
  obtain ⟨l1, l2, rfl, rfl, b1, b2⟩ := h
  refine ⟨l1, l2 ++ (k, v) :: r, by simp, by simp, b1, fun p hp => ?_⟩
  rcases List.mem_append.mp hp with hp | hp
  · exact b2 p hp
  · rcases List.mem_cons.mp hp with rfl | hp
    · exact hk
    · exact Int.lt_trans hk (hr p hp)

theorem right (h : Inserted x xv l l') {k : Int} (v : Nat) {r : List (Int × Nat)} (hk : k < x)
    (hr : ∀ p ∈ r, p.1 < k) : Inserted x xv (r ++ (k, v) :: l) (r ++ (k, v) :: l') := by
  obtain ⟨l1, l2, rfl, rfl, b1, b2⟩ := h
  refine ⟨r ++ (k, v) :: l1, l2, by simp, by simp, fun p hp => ?_, b2⟩
  rcases List.mem_append.mp hp with hp | hp
  · exact Int.lt_trans (hr p hp) hk
  · rcases List.mem_cons.mp hp with rfl | hp
    · exact hk
    · exact b1 p hp

theorem adds (h : Inserted x xv l l') : Adds (x, xv) l l' := by
  obtain ⟨l1, l2, rfl, rfl, _⟩ := h
  exact ⟨l1, l2, rfl, rfl⟩

theorem sublist (h : Inserted x xv l l') : l.Sublist l' := h.adds.sublist

theorem length (h : Inserted x xv l l') : l'.length = l.length + 1 := h.adds.perm.length_eq

theorem sorted (h : Inserted x xv l l') (hs : l.Pairwise (fun p q => p.1 < q.1)) :
    l'.Pairwise (fun p q => p.1 < q.1) := by
  obtain ⟨l1, l2, rfl, rfl, b1, b2⟩ := h
  rw [List.pairwise_append] at hs ⊢
  obtain ⟨h1, h2, h3⟩ := hs
  refine ⟨h1, List.pairwise_cons.mpr ⟨b2, h2⟩, fun p hp q hq => ?_⟩
  rcases List.mem_cons.mp hq with rfl | hq
  · exact b1 p hp
  · exact h3 p hp q hq

theorem lookup (h : Inserted x xv l l') (y : Int) :
    List.lookup y l' = if y = x then some xv else List.lookup y l := by
  obtain ⟨l1, l2, rfl, rfl, b1, _⟩ := h
  exact lookup_insert (fun p hp => Int.ne_of_lt (b1 p hp)) xv l2 y

theorem lookup_before (h : Inserted x xv l l') : List.lookup x l = none := by
  obtain ⟨l1, l2, rfl, rfl, b1, b2⟩ := h
  refine lookup_eq_none.mpr fun p hp => ?_
  rcases List.mem_append.mp hp with hp | hp
  · exact Int.ne_of_lt (b1 p hp)
  · exact Int.ne_of_gt (b2 p hp)

end Inserted
end MgProof.C09
