import MgModel.C09.Trie
/-!
# C09 — trie: path lemmas for `walk` / `insWalk` / `clearAt`, then the key-level statements
-/
namespace MgProof.C09
open MgModel.C09 MgModel.C09.TNode

/-- a C string: no NUL byte inside -/
def NulFree (key : List UInt8) : Prop := ∀ b ∈ key, b ≠ 0

/-- the child path the C code follows for a key: `children[0]` for the empty key -/
def path (key : List UInt8) : List UInt8 := if key = [] then [0] else key

theorem path_inj {k k' : List UInt8} (h : NulFree k) (h' : NulFree k') :
    path k = path k' ↔ k = k' := by
  refine ⟨fun e => ?_, fun e => e ▸ rfl⟩
  unfold path at e
  by_cases h1 : k = [] <;> by_cases h2 : k' = [] <;> simp only [h1, h2, if_true, if_false] at e
  · rw [h1, h2]
  · exact absurd rfl (h' 0 (by rw [← e]; simp))
  · exact absurd rfl (h 0 (by rw [e]; simp))
  · exact e

/-- `walk` without the early exit: follow the children, NULL stays NULL -/
def walk' : TNode → List UInt8 → TNode
  | n, [] => n
  | n, c :: cs => walk' (n.kid c) cs

theorem walk'_null (p : List UInt8) : walk' .null p = .null := by
  induction p with
  | nil => rfl
  | cons c cs ih => simpa [walk', kid] using ih

theorem walk_eq_walk' (n : TNode) (p : List UInt8) : walk n p = walk' n p := by
  induction p generalizing n with
  | nil => cases n <;> rfl
  | cons c cs ih =>
    cases n with
    | null => simp [walk, walk'_null]
    | node d ks =>
      simp only [walk, walk', kid]
      cases h : ks c with
      | null => simp [walk'_null]
      | node d' ks' => simp only []; rw [ih]

def dataAt (n : TNode) (p : List UInt8) : Option Nat := (walk' n p).data?

theorem dataAt_null (p : List UInt8) : dataAt .null p = none := by
  rw [dataAt, walk'_null]; rfl

theorem dataAt_cons (d : Option Nat) (ks : UInt8 → TNode) (c : UInt8) (cs : List UInt8) :
    dataAt (.node d ks) (c :: cs) = dataAt (ks c) cs := rfl

/-- the `match ks c with | null => fresh | m => m` of `insWalk` -/
def orFresh : TNode → TNode
  | .null => fresh
  | m => m

theorem insWalk_node (d : Option Nat) (ks : UInt8 → TNode) (c : UInt8) (cs : List UInt8)
    (v : Option Nat) :
    insWalk (.node d ks) (c :: cs) v =
      .node d (fun i => if i = c then insWalk (orFresh (ks c)) cs v else ks i) := by
  simp only [insWalk]
  cases ks c <;> rfl

theorem isNull_orFresh (m : TNode) : (orFresh m).isNull = false := by
  cases m <;> rfl

theorem isNull_insWalk {n : TNode} (hn : n.isNull = false) (p : List UInt8) (v : Option Nat) :
    (insWalk n p v).isNull = false := by
  cases n with
  | null => cases hn
  | node d ks =>
    cases p with
    | nil => rfl
    | cons c cs => rw [insWalk_node]; rfl

/-- a missing node and a fresh node both read as "no data" -/
theorem dataAt_orFresh (m : TNode) (p : List UInt8) : dataAt (orFresh m) p = dataAt m p := by
  cases m with
  | node d ks => rfl
  | null =>
    rw [dataAt_null]
    cases p with
    | nil => rfl
    | cons c cs => exact dataAt_null cs

theorem dataAt_insWalk {n : TNode} (hn : n.isNull = false) (p q : List UInt8) (v : Option Nat) :
    dataAt (insWalk n p v) q = if q = p then v else dataAt n q := by
  induction p generalizing n q with
  | nil =>
    cases n with
    | null => cases hn
    | node d ks => cases q <;> rfl
  | cons c cs ih =>
    cases n with
    | null => cases hn
    | node d ks =>
      rw [insWalk_node]
      cases q with
      | nil => rfl
      | cons c' cs' =>
        rw [dataAt_cons, dataAt_cons]
        by_cases hc : c' = c
        · subst hc
          simp only [if_true, ih (isNull_orFresh _), dataAt_orFresh, List.cons.injEq, true_and]
        · simp only [hc, if_false, List.cons.injEq, false_and]

theorem clearAt_null (p : List UInt8) : clearAt .null p = .null := by
  cases p <;> rfl

theorem isNull_clearAt (n : TNode) (p : List UInt8) : (clearAt n p).isNull = n.isNull := by
  cases n with
  | null => rw [clearAt_null]
  | node d ks => cases p <;> rfl

theorem dataAt_clearAt (n : TNode) (p q : List UInt8) :
    dataAt (clearAt n p) q = if q = p then none else dataAt n q := by
  induction p generalizing n q with
  | nil =>
    cases n with
    | null => cases q <;> rfl
    | node d ks => cases q <;> rfl
  | cons c cs ih =>
    cases n with
    | null => rw [clearAt_null, dataAt_null]; split <;> rfl
    | node d ks =>
      cases q with
      | nil => rfl
      | cons c' cs' =>
        rw [clearAt, dataAt_cons, dataAt_cons]
        by_cases hc : c' = c
        · subst hc
          simp only [if_true, ih, List.cons.injEq, true_and]
        · simp only [hc, if_false, List.cons.injEq, false_and]

theorem find_eq_walk' (root : TNode) (key : List UInt8) :
    find root key = walk' root (path key) := by
  cases key with
  | nil => rfl
  | cons c cs => simp only [find, path, walk_eq_walk']; rfl

theorem lookup_eq_dataAt (root : TNode) (key : List UInt8) :
    lookup root key = dataAt root (path key) := by
  unfold lookup dataAt; rw [find_eq_walk']

theorem insert_eq_insWalk (root : TNode) (key : List UInt8) (v : Option Nat) :
    TNode.insert root key v = insWalk root (path key) v := by
  cases root with
  | null => cases key <;> rfl
  | node d ks =>
    cases key with
    | cons c cs => rfl
    | nil =>
      show TNode.insert (.node d ks) [] v = insWalk (.node d ks) [0] v
      rw [insWalk_node]
      simp only [TNode.insert, kid]
      cases h : ks 0 <;> simp only [setKid, orFresh, insWalk, setData, fresh]

theorem remove_fst_eq_clearAt {root : TNode} (key : List UInt8)
    (hf : (find root key).isNull = false) :
    (TNode.remove root key).1 = clearAt root (path key) := by
  cases root with
  | null => rw [find_eq_walk', walk'_null] at hf; cases hf
  | node d ks =>
    unfold TNode.remove
    simp only [hf]
    cases key with
    | cons c cs => rfl
    | nil =>
      show setKid (.node d ks) 0 (setData (kid (.node d ks) 0) none) = clearAt (.node d ks) [0]
      rw [clearAt]
      simp only [setKid, kid]
      congr 1
      funext i
      by_cases hi : i = 0
      · subst hi
        simp only [if_true]
        cases ks 0 <;> rfl
      · simp only [hi, if_false]

end MgProof.C09
