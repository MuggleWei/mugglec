import MgProof.C09.AvlLemmas
/-!
# C09 — the executable well-formedness check printed by the driver (`achk`) is exactly the
invariant of the theorems; a balanced tree of height `h` has at least `fib (h + 2) − 1` nodes
-/
namespace MgProof.C09
open MgModel.C09 MgModel.C09.T

/-- the keys of `t` lie in the open interval `(lo, hi)` that `wellFormed` threads down -/
def Within (lo hi : Option Int) (t : T) : Prop :=
  ∀ p ∈ toList t, gtLo lo p.1 = true ∧ ltHi hi p.1 = true

theorem gtLo_some {x k : Int} : gtLo (some x) k = true ↔ x < k := by simp [gtLo]

theorem ltHi_some {x k : Int} : ltHi (some x) k = true ↔ k < x := by simp [ltHi]

theorem gtLo_of_lt {lo : Option Int} {k x : Int} (h : gtLo lo k = true) (hx : k < x) :
    gtLo lo x = true := by
  cases lo with
  | none => rfl
  | some y => exact gtLo_some.mpr (Int.lt_trans (gtLo_some.mp h) hx)

theorem ltHi_of_lt {hi : Option Int} {k x : Int} (h : ltHi hi k = true) (hx : x < k) :
    ltHi hi x = true := by
  cases hi with
  | none => rfl
  | some y => exact ltHi_some.mpr (Int.lt_trans hx (ltHi_some.mp h))

theorem wellFormed_iff : ∀ (t : T) (lo hi : Option Int),
    wellFormed lo hi t = true ↔ (Avl t ∧ Sorted t ∧ Within lo hi t) := by
  intro t
  induction t with
  | nil => intro lo hi; simp [wellFormed, Sorted, Within]
  | node l k v b r i p ihl ihr =>
    intro lo hi
    simp only [wellFormed, Bool.and_eq_true, decide_eq_true_eq, ihl, ihr, avl_node, sorted_node]
    constructor
    · rintro ⟨⟨⟨⟨⟨hlo, hhi⟩, hb⟩, hb1, hb2⟩, hal, hsl, hwl⟩, har, hsr, hwr⟩
      have hlk := fun p hp => ltHi_some.mp (hwl p hp).2
      have hkr := fun p hp => gtLo_some.mp (hwr p hp).1
      refine ⟨⟨hal, har, hb, hb1, hb2⟩, ⟨hsl, hsr, hlk, hkr⟩, fun p hp => ?_⟩
      rcases List.mem_append.mp hp with hp | hp
      · exact ⟨(hwl p hp).1, ltHi_of_lt hhi (hlk p hp)⟩
      rcases List.mem_cons.mp hp with rfl | hp
      · exact ⟨hlo, hhi⟩
      · exact ⟨gtLo_of_lt hlo (hkr p hp), (hwr p hp).2⟩
    · rintro ⟨⟨hal, har, hb, hb1, hb2⟩, ⟨hsl, hsr, hlk, hkr⟩, hw⟩
      have hw' : ∀ p, p ∈ toList l ∨ p = (k, v) ∨ p ∈ toList r → _ := fun p hp =>
        hw p (by simpa using hp)
      exact ⟨⟨⟨⟨hw' (k, v) (.inr (.inl rfl)), hb⟩, hb1, hb2⟩, hal, hsl,
          fun p hp => ⟨(hw' p (.inl hp)).1, ltHi_some.mpr (hlk p hp)⟩⟩, har, hsr,
        fun p hp => ⟨gtLo_some.mpr (hkr p hp), (hw' p (.inr (.inr hp))).2⟩⟩

theorem wellFormed_top (t : T) : wellFormed none none t = true ↔ (Avl t ∧ Sorted t) := by
  rw [wellFormed_iff]
  exact ⟨fun ⟨a, s, _⟩ => ⟨a, s⟩, fun ⟨a, s⟩ => ⟨a, s, fun _ _ => ⟨rfl, rfl⟩⟩⟩

def fib : Nat → Nat
  | 0 => 0
  | 1 => 1
  | n + 2 => fib n + fib (n + 1)

theorem fib_mono_succ (n : Nat) : fib n ≤ fib (n + 1) := by
  induction n using fib.induct with
  | case1 => simp [fib]
  | case2 => simp [fib]
  | case3 n ih1 ih2 => simp only [fib] at *; omega

theorem fib_node {a b : Nat} (h1 : a ≤ b + 1) (h2 : b ≤ a + 1) :
    fib (max a b + 1 + 2) ≤ fib (a + 2) + fib (b + 2) := by
  rcases (by omega : b = a + 1 ∨ b = a ∨ a = b + 1) with rfl | rfl | rfl
  · rw [Nat.max_eq_right (Nat.le_succ a)]
    show fib (a + 2) + fib (a + 2 + 1) ≤ _
    exact Nat.le_refl _
  · rw [Nat.max_self]
    show fib (b + 1) + fib (b + 1 + 1) ≤ _
    exact Nat.add_le_add_right (fib_mono_succ _) _
  · rw [Nat.max_eq_left (Nat.le_succ b)]
    show fib (b + 2) + fib (b + 2 + 1) ≤ _
    exact Nat.le_of_eq (Nat.add_comm ..)

theorem fib_le_size : ∀ t : T, Avl t → fib (height t + 2) ≤ size t + 1 := by
  intro t
  induction t with
  | nil => intro _; simp [fib, T.size]
  | node l k v b r i p ihl ihr =>
    intro ⟨hl, hr, hb, hb1, hb2⟩
    have := fib_node (a := height l) (b := height r) (by omega) (by omega)
    have := ihl hl
    have := ihr hr
    simp only [height_node, T.size]
    omega

end MgProof.C09
