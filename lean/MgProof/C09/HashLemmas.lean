import MgModel.C09.HashTable
import MgProof.C09.MapLemmas
/-!
# C09 — hash table: chain lemmas, table invariant, put / find / remove against a map
-/
namespace MgProof.C09
open MgModel.C09 MgModel.C09.HT

variable {κ : Type} [DecidableEq κ]

/-- no key occurs twice in a chain -/
def NoDup (c : Chain κ) : Prop := c.Pairwise (fun p q => p.1 ≠ q.1)

theorem unlink_cons (a : κ) (va : Nat) (c : Chain κ) (k : κ) :
    unlink ((a, va) :: c) k = if a = k then c else (a, va) :: unlink c k := by
  unfold unlink
  rw [List.eraseP_cons]
  by_cases h : a = k <;> simp [h]

theorem unlink_sublist (c : Chain κ) (k : κ) : (unlink c k).Sublist c := List.eraseP_sublist

theorem scan_unlink {c : Chain κ} (hc : NoDup c) (k k' : κ) :
    scan (unlink c k) k' = if k' = k then none else scan c k' := by
  unfold scan
  induction c with
  | nil => simp [unlink]
  | cons p c ih =>
    obtain ⟨a, va⟩ := p
    obtain ⟨h1, h2⟩ := List.pairwise_cons.mp hc
    rw [unlink_cons]
    by_cases hak : a = k
    · subst hak
      rw [if_pos rfl, lookup_cons_ite]
      split
      · subst k'; exact lookup_eq_none.mpr fun p hp => (h1 p hp).symm
      · rfl
    · rw [if_neg hak, lookup_cons_ite, lookup_cons_ite, ih h2]
      by_cases hk : k' = k
      · subst hk; simp [Ne.symm hak]
      · simp [hk]

/-- table invariant: at least one bucket; every chain is duplicate-free and holds only
keys that hash to its bucket -/
structure HInv (h : κ → Nat) (t : HT κ) : Prop where
  pos : 0 < t.buckets.size
  nodup : ∀ (i : Nat) (c : Chain κ), t.buckets[i]? = some c → NoDup c
  place : ∀ (i : Nat) (c : Chain κ), t.buckets[i]? = some c → ∀ p ∈ c, h p.1 % t.buckets.size = i

/-- the map a table represents -/
def hget (h : κ → Nat) (t : HT κ) (k : κ) : Option Nat :=
  match t.buckets[idx h t k]? with
  | some c => scan c k
  | none => none

omit [DecidableEq κ] in
theorem idx_lt {h : κ → Nat} {t : HT κ} (hp : 0 < t.buckets.size) (k : κ) :
    idx h t k < t.buckets.size := Nat.mod_lt _ hp

theorem bucket_some (h : κ → Nat) {t : HT κ} (hp : 0 < t.buckets.size) (k : κ) :
    ∃ c, t.buckets[idx h t k]? = some c ∧ hget h t k = scan c k :=
  ⟨t.buckets[idx h t k]'(idx_lt hp k), Array.getElem?_eq_getElem (idx_lt hp k),
    by simp [hget, idx_lt hp k]⟩

theorem hinv_init {h : κ → Nat} {n cap : Nat} {t : HT κ} (e : init n cap = some t) :
    HInv h t ∧ ∀ k, hget h t k = none := by
  unfold init at e
  split at e
  · exact absurd e (by simp)
  · injection e with e
    subst e
    have hc : ∀ {m i : Nat} {c : Chain κ}, (Array.replicate m ([] : Chain κ))[i]? = some c → c = [] := by
      intro m i c hc
      rw [Array.getElem?_replicate] at hc
      split at hc
      · exact (Option.some.inj hc).symm
      · cases hc
    refine ⟨⟨by simp only [Array.size_replicate]; split <;> omega, fun i c e => hc e ▸ List.Pairwise.nil,
      fun i c e p hp => by rw [hc e] at hp; cases hp⟩, fun k => ?_⟩
    unfold hget
    split
    · rename_i c e; rw [hc e]; rfl
    · rfl

theorem hfind_ok {h : κ → Nat} {t : HT κ} (inv : HInv h t) (k : κ) :
    find h t k = .ok (hget h t k) := by
  obtain ⟨c, hc, hg⟩ := bucket_some h inv.pos k
  simp [find, hg, hc]

theorem hget_set_bucket {h : κ → Nat} {t : HT κ} (hp : 0 < t.buckets.size) (k : κ) (c' : Chain κ)
    (k' : κ) :
    hget h { buckets := t.buckets.set! (idx h t k) c' } k' =
      if idx h t k' = idx h t k then scan c' k' else hget h t k' := by
  have hidx : idx h { buckets := t.buckets.set! (idx h t k) c' } k' = idx h t k' := by
    simp [idx]
  unfold hget
  rw [hidx]
  simp only [Array.set!_eq_setIfInBounds, Array.getElem?_setIfInBounds]
  by_cases e : idx h t k = idx h t k'
  · rw [if_pos e, if_pos e.symm, if_pos (idx_lt hp k)]
  · rw [if_neg e, if_neg (Ne.symm e)]

theorem hget_replace_chain {h : κ → Nat} {t : HT κ} (hp : 0 < t.buckets.size) {k : κ}
    {c c' : Chain κ} {o : Option Nat} (hc : t.buckets[idx h t k]? = some c)
    (hs : ∀ k', scan c' k' = if k' = k then o else scan c k') (k' : κ) :
    hget h { buckets := t.buckets.set! (idx h t k) c' } k' = if k' = k then o else hget h t k' := by
  rw [hget_set_bucket hp, hs]
  split
  · rename_i e; rw [hget, e, hc]
  · rename_i e; rw [if_neg fun hk => e (by rw [hk])]

section
omit [DecidableEq κ]

theorem hinv_set_bucket {h : κ → Nat} {t : HT κ} (inv : HInv h t) (k : κ) (c' : Chain κ)
    (hn : NoDup c') (hpl : ∀ p ∈ c', h p.1 % t.buckets.size = idx h t k) :
    HInv h { buckets := t.buckets.set! (idx h t k) c' } := by
  have hb : ∀ {i c}, (t.buckets.set! (idx h t k) c')[i]? = some c →
      (idx h t k = i ∧ c' = c) ∨ t.buckets[i]? = some c := by
    intro i c hc
    simp only [Array.set!_eq_setIfInBounds, Array.getElem?_setIfInBounds] at hc
    split at hc
    · rw [if_pos (idx_lt inv.pos k)] at hc
      exact .inl ⟨‹_›, Option.some.inj hc⟩
    · exact .inr hc
  refine ⟨by simpa using inv.pos, fun i c hc => ?_, fun i c hc => ?_⟩
  · rcases hb hc with ⟨_, rfl⟩ | hc
    · exact hn
    · exact inv.nodup i c hc
  · simp only [Array.set!_eq_setIfInBounds, Array.size_setIfInBounds]
    rcases hb hc with ⟨rfl, rfl⟩ | hc
    · exact hpl
    · exact inv.place i c hc

end

/-- `muggle_hash_table_put`; `ok` false = NULL returned (key exists), table untouched -/
theorem hput_spec {h : κ → Nat} {t : HT κ} (inv : HInv h t) (k : κ) (v : Nat) :
    ∃ t' ok, put h t k v = .ok (if ok then some t' else none) ∧ HInv h t' ∧
      ok = (hget h t k).isNone ∧ (ok = false → t' = t) ∧
      ∀ k', hget h t' k' = if ok = true ∧ k' = k then some v else hget h t k' := by
  obtain ⟨c, hc, hg⟩ := bucket_some h inv.pos k
  cases hs : scan c k with
  | some w =>
    exact ⟨t, false, by simp [put, hc, hs], inv, by simp [hg, hs], fun _ => rfl, by simp⟩
  | none =>
    refine ⟨{ buckets := t.buckets.set! (idx h t k) ((k, v) :: c) }, true, by simp [put, hc, hs], ?_,
      by simp [hg, hs], nofun, ?_⟩
    · refine hinv_set_bucket inv k _ (List.pairwise_cons.mpr
        ⟨fun p hp => (lookup_eq_none.mp hs p hp).symm, inv.nodup _ c hc⟩) fun p hp => ?_
      rcases List.mem_cons.mp hp with rfl | hp
      · rfl
      · exact inv.place _ c hc p hp
    · simp only [true_and]
      exact hget_replace_chain inv.pos hc (lookup_cons_ite k v c)

/-- `find` + `muggle_hash_table_remove` -/
theorem hremove_spec {h : κ → Nat} {t : HT κ} (inv : HInv h t) (k : κ) :
    ∃ t' ok, remove h t k = .ok (t', ok) ∧ HInv h t' ∧ ok = (hget h t k).isSome ∧
      ∀ k', hget h t' k' = if k' = k then none else hget h t k' := by
  obtain ⟨c, hc, hg⟩ := bucket_some h inv.pos k
  cases hs : scan c k with
  | none =>
    refine ⟨t, false, by simp [remove, hc, hs], inv, by simp [hg, hs], fun k' => ?_⟩
    split
    · subst k'; rw [hg, hs]
    · rfl
  | some w =>
    refine ⟨{ buckets := t.buckets.set! (idx h t k) (unlink c k) }, true,
      by simp only [remove, hc, hs], ?_, by simp [hg, hs],
      hget_replace_chain inv.pos hc (scan_unlink (inv.nodup _ c hc) k)⟩
    exact hinv_set_bucket inv k _ ((inv.nodup _ c hc).sublist (unlink_sublist c k))
      fun p hp => inv.place _ c hc p ((unlink_sublist c k).subset hp)

theorem hmem_toList_iff {h : κ → Nat} {t : HT κ} (inv : HInv h t) (k : κ) (v : Nat) :
    (k, v) ∈ toList t ↔ hget h t k = some v := by
  obtain ⟨c, hc, hg⟩ := bucket_some h inv.pos k
  rw [hg, scan, ← mem_iff_lookup (inv.nodup _ c hc)]
  unfold toList
  simp only [List.mem_flatten, Array.mem_toList_iff]
  constructor
  · rintro ⟨c', hc', hm⟩
    obtain ⟨i, hi, rfl⟩ := Array.mem_iff_getElem.mp hc'
    have hi' : t.buckets[i]? = some t.buckets[i] := Array.getElem?_eq_getElem hi
    have e : idx h t k = i := inv.place i _ hi' _ hm
    rw [e, hi'] at hc
    exact Option.some.inj hc ▸ hm
  · exact fun hm => ⟨c, Array.mem_of_getElem? hc, hm⟩

end MgProof.C09
