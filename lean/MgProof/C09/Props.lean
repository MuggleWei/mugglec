import MgProof.C09.AvlInsert
import MgProof.C09.AvlRemove
import MgProof.C09.AvlCheck
import MgProof.C09.AvlParent
import MgProof.C09.HashLemmas
import MgProof.C09.TrieLemmas
import MgModel.C09.Ops
/-!
# C09 — property theorems (AVL tree, hash table, trie)

Statement (properties.jsonl): after every sequence of insert/put, find and remove operations
(arbitrary keys, duplicates, with or without the node pool) the AVL tree, hash table and trie
contain exactly the associations a reference map would: lookups return the latest stored value
or nothing, a duplicate key is rejected by the tree and the table (and overwrites in the trie),
and a removal removes exactly that one association. The AVL tree additionally remains a binary
search tree in which every node's subtree heights differ by at most one, its recorded balance
factor is exact and parent links are consistent. Trie keys may contain any non-NUL byte.

Quantifiers of the theorems: every operation list of every length, every key and value; hash
table: every hash function and every table size; trie: every key over the bytes 1..255 (the
model is of the code with fixes/C09-trie-unsigned-index.patch, see `trie_signed_index_negative`).

Not covered by the theorems (checked on the real structure by the harness after every
operation): the `prev` links of the hash chains — the chain model is a list; node allocation
(malloc / pool) is assumed to succeed and to hand out a block that is not in use.
-/
namespace MgProof.C09
open MgModel.C09

/-- a step that refines `spec` under `R` does so along every operation list -/
theorem runE_refines {κ σ μ ε : Type} {step : σ → Op κ → Except ε (σ × Out)}
    {spec : μ → Op κ → μ × Out} {R : σ → μ → Prop}
    (hstep : ∀ {s m}, R s m → ∀ op, ∃ s', step s op = .ok (s', (spec m op).2) ∧ R s' (spec m op).1)
    (ops : List (Op κ)) : ∀ {s m}, R s m →
    ∃ s', runE step s ops = .ok (s', (specRun spec m ops).2) ∧ R s' (specRun spec m ops).1 := by
  induction ops with
  | nil => intro s m r; exact ⟨s, rfl, r⟩
  | cons op ops ih =>
    intro s m r
    obtain ⟨s1, e1, r1⟩ := hstep r op
    obtain ⟨s2, e2, r2⟩ := ih r1
    exact ⟨s2, by simp only [runE, e1, e2, specRun], r2⟩

/-! ## AVL tree -/

/-- textbook binary-search-tree property; the proofs work with the list form `Sorted`
(`bst_iff_sorted`) -/
def Bst : T → Prop
  | .nil => True
  | .node l k _ _ r _ _ =>
    Bst l ∧ Bst r ∧ (∀ p ∈ T.toList l, p.1 < k) ∧ (∀ p ∈ T.toList r, k < p.1)

theorem bst_iff_sorted : ∀ t : T, Bst t ↔ Sorted t := by
  intro t
  induction t with
  | nil => simp [Bst, Sorted]
  | node l k v b r i p ihl ihr => rw [sorted_node, ← ihl, ← ihr]; rfl

/-- the structural clause of the property: search tree + at every node
`|height l − height r| ≤ 1` and `balance = height r − height l` exactly (`Avl`) -/
def AvlOk (t : T) : Prop := Bst t ∧ Avl t

theorem AvlOk.sorted {t : T} (h : AvlOk t) : Sorted t := (bst_iff_sorted t).mp h.1

theorem AvlOk.of_sorted {t : T} (hs : Sorted t) (ha : Avl t) : AvlOk t := ⟨(bst_iff_sorted t).mpr hs, ha⟩

/-- the pointer clause of the property on a tree whose allocated nodes are numbered `0 … next−1`:
the root's parent pointer is NULL, every other node's parent pointer is the node it hangs under,
and no node occurs twice (the identities in the tree are distinct and were all allocated) -/
def Linked (t : T) (next : Nat) : Prop :=
  ParentOk none t ∧ (T.ids t).Nodup ∧ ∀ i ∈ T.ids t, i < next

/-- **C09, AVL insert.** From every well-formed tree, for every key and value:
`muggle_avl_tree_insert` runs without a NULL dereference, rejects a key that is present (tree
unchanged), otherwise stores the association; the result is again a search tree with height
differences ≤ 1 and exact balance factors, and every other key maps as before. -/
theorem avl_insert {t : T} (h : AvlOk t) (x : Int) (xv : Nat) (fresh : Nat) :
    ∃ t' ok, T.insert t x xv fresh = .ok (t', ok) ∧ AvlOk t' ∧
      ok = (T.find t x).isNone ∧ (ok = false → t' = t) ∧
      (∀ y, T.find t' y = if ok = true ∧ y = x then some xv else T.find t y) ∧
      T.size t' = T.size t + ok.toNat := by
  have hs := h.sorted
  rcases ins_spec x xv fresh t none h.2 hs with ⟨e, hf⟩ | ⟨t', g, e, ht', _, _, hins⟩
  · refine ⟨t, false, by simp [T.insert, e], h, ?_, fun _ => rfl, by simp, rfl⟩
    rw [← Option.not_isSome, hf]; rfl
  · have hs' : Sorted t' := hins.sorted hs
    have hfx : T.find t x = none := by rw [find_eq_lookup hs]; exact hins.lookup_before
    refine ⟨t', true, by simp [T.insert, e], .of_sorted hs' ht', by simp [hfx], nofun,
      fun y => ?_, ?_⟩
    · rw [find_eq_lookup hs', find_eq_lookup hs, hins.lookup]; simp
    · rw [size_eq_length, size_eq_length, hins.length]; rfl

/-- **C09, AVL remove.** From every well-formed tree, for every key: `find` + `remove` runs
without a NULL dereference, removes exactly the association of that key (nothing when it is
absent) and leaves a search tree with height differences ≤ 1 and exact balance factors. -/
theorem avl_remove {t : T} (h : AvlOk t) (x : Int) :
    ∃ t' ok, T.remove t x = .ok (t', ok) ∧ AvlOk t' ∧
      ok = (T.find t x).isSome ∧ (ok = false → t' = t) ∧
      (∀ y, T.find t' y = if y = x then none else T.find t y) ∧
      T.size t' + ok.toNat = T.size t := by
  have hs := h.sorted
  rcases del_spec x t h.2 hs with ⟨e, hf⟩ | ⟨t', s, e, ht', _, xv, hins⟩
  · refine ⟨t, false, by simp [T.remove, e], h, by simp [hf], fun _ => rfl, fun y => ?_, rfl⟩
    split
    · subst y; exact hf
    · rfl
  · have hs' : Sorted t' := hs.sublist hins.sublist
    refine ⟨t', true, by simp [T.remove, e], .of_sorted hs' ht', ?_, nofun,
      fun y => ?_, ?_⟩
    · rw [find_eq_lookup hs, hins.lookup]; simp
    · rw [find_eq_lookup hs', find_eq_lookup hs, hins.lookup]
      split
      · subst y; exact hins.lookup_before
      · rfl
    · rw [size_eq_length, size_eq_length, hins.length]; rfl

/-- **C09, parent links, insert.** Whatever `insert` returns, the parent pointers it leaves are
consistent (the new node points to the leaf it was hung under; every rotation re-points the
three or five links it moves), every identity in the tree is distinct and allocated. -/
theorem avl_insert_linked {t t' : T} {next : Nat} {ok : Bool} (x : Int) (xv : Nat)
    (e : T.insert t x xv next = .ok (t', ok)) (h : Linked t next) :
    Linked t' (if ok then next + 1 else next) := by
  revert e
  fun_cases T.insert t x xv next <;> intro e <;> cases e
  case case2 => exact h    -- rejected
  case case3 e1 =>
    obtain ⟨hp, ha⟩ := ins_parent x xv next t none _ _ e1 h.1
    have hids : (T.ids t').Perm (next :: T.ids t) := ha.perm
    -- `next` is not in the tree yet
    refine ⟨hp, hids.nodup_iff.mpr
      (List.nodup_cons.mpr ⟨fun hm => Nat.lt_irrefl _ (h.2.2 _ hm), h.2.1⟩), fun i hi => ?_⟩
    rcases List.mem_cons.mp (hids.mem_iff.mp hi) with rfl | hi
    · exact Nat.lt_succ_self _
    · exact Nat.lt_succ_of_lt (h.2.2 i hi)

/-- **C09, parent links, remove.** `remove` (key/value swapped down to a leaf, the leaf unlinked,
retracing with rotations) leaves consistent parent pointers and no node twice; the number of
nodes drops by one exactly when the key was present. -/
theorem avl_remove_linked {t t' : T} {next : Nat} {ok : Bool} (x : Int)
    (e : T.remove t x = .ok (t', ok)) (h : Linked t next) :
    Linked t' next ∧ (T.ids t').length + ok.toNat = (T.ids t).length := by
  revert e
  fun_cases T.remove t x <;> intro e <;> cases e
  case case2 => exact ⟨h, rfl⟩    -- absent
  case case3 e1 =>
    obtain ⟨hp, j, ha⟩ := del_parent x t none _ _ e1 h.1
    exact ⟨⟨hp, h.2.1.sublist ha.sublist, fun i hi => h.2.2 i (ha.sublist.subset hi)⟩,
      ha.perm.length_eq.symm⟩

/-- the tree represents the map `m`, is well formed, and its pointers are consistent -/
def AvlRefines (s : AvlSt) (m : Map Int) : Prop :=
  AvlOk s.1 ∧ Linked s.1 s.2 ∧ ∀ y, T.find s.1 y = m.get y

theorem avl_step_refines {s : AvlSt} {m : Map Int} (r : AvlRefines s m) (op : Op Int) :
    ∃ s', avlStep s op = .ok (s', (specStepReject m op).2) ∧
      AvlRefines s' (specStepReject m op).1 := by
  obtain ⟨t, next⟩ := s
  obtain ⟨hok, hlk, hf⟩ := r
  simp only at hok hlk hf
  cases op with
  | ins k v =>
    obtain ⟨t', ok, e, hok', hflag, _, hfind, _⟩ := avl_insert hok k v next
    obtain ⟨p1, p2⟩ := putNew_refines hf hflag hfind
    exact ⟨(t', if ok then next + 1 else next), by simp only [avlStep, e, specStepReject, p1],
      hok', avl_insert_linked k v e hlk, p2⟩
  | find k => exact ⟨(t, next), by simp [avlStep, specStepReject, hf k], hok, hlk, hf⟩
  | rm k =>
    obtain ⟨t', ok, e, hok', hflag, _, hfind, _⟩ := avl_remove hok k
    obtain ⟨p1, p2⟩ := erase_refines hf hflag hfind
    exact ⟨(t', next), by simp only [avlStep, e, specStepReject, p1], hok',
      (avl_remove_linked k e hlk).1, p2⟩

/-- **C09, AVL histories.** Every history of insert / find / remove calls, of any length, with
any keys (duplicates, absent keys), from any tree that satisfies `AvlRefines`: no call fails,
every call returns exactly what the reference map returns (find: the latest stored value or
nothing; insert: rejected iff the key is present; remove: removes exactly that association),
and `AvlRefines` holds again at the end. -/
theorem avl_history (ops : List (Op Int)) : ∀ {s : AvlSt} {m : Map Int}, AvlRefines s m →
    ∃ s', runE avlStep s ops = .ok (s', (specRun specStepReject m ops).2) ∧
      AvlRefines s' (specRun specStepReject m ops).1 :=
  runE_refines avl_step_refines ops

theorem avl_empty_refines : AvlRefines (.nil, 0) [] :=
  ⟨⟨trivial, trivial⟩, ⟨trivial, List.nodup_nil, fun _ h => absurd h (by simp [T.ids])⟩, fun _ => rfl⟩

/-- `avl_history` from `muggle_avl_tree_init` -/
theorem avl_history_from_init (ops : List (Op Int)) :
    ∃ s', runE avlStep (.nil, 0) ops = .ok (s', (specRun specStepReject ([] : Map Int) ops).2) ∧
      AvlRefines s' (specRun specStepReject ([] : Map Int) ops).1 :=
  avl_history ops avl_empty_refines

theorem avl_contents {t : T} (h : AvlOk t) (k : Int) (v : Nat) :
    (k, v) ∈ T.toList t ↔ T.find t k = some v := by
  have hs := h.sorted
  rw [find_eq_lookup hs]
  exact mem_iff_lookup (hs.imp Int.ne_of_lt) k v

/-- with `avl_contents`: the tree holds exactly the represented associations, each once -/
theorem avl_toList_sorted {t : T} (h : AvlOk t) :
    (T.toList t).Pairwise (fun p q => p.1 < q.1) := h.sorted

/-- the executable check that the driver prints for `achk` — and that the harness recomputes
from the real `left/right/balance/parent` fields after every operation — is exactly `AvlOk`
with consistent parent links -/
theorem avl_check_iff (t : T) :
    (T.wellFormed none none t && T.parentsOk none t) = true ↔ (AvlOk t ∧ ParentOk none t) := by
  rw [Bool.and_eq_true, wellFormed_top, parentsOk_iff, AvlOk, bst_iff_sorted, and_comm (a := Avl t)]

/-- **C09, "stays balanced" quantified.** A well-formed tree of height `h` holds at least
`fib (h+2) − 1` associations (so the height is logarithmic in the size; the growth of `fib` is
not part of the statement). -/
theorem avl_height_logarithmic {t : T} (h : AvlOk t) : fib (T.height t + 2) ≤ T.size t + 1 :=
  fib_le_size t h.2

theorem avl_size_lt_two_pow_height : ∀ t : T, T.size t < 2 ^ T.height t := by
  intro t
  induction t with
  | nil => simp [T.size]
  | node l k v b r i p ihl ihr =>
    simp only [T.size, height_node]
    have h1 : 2 ^ T.height l ≤ 2 ^ max (T.height l) (T.height r) :=
      Nat.pow_le_pow_right (by omega) (Nat.le_max_left ..)
    have h2 : 2 ^ T.height r ≤ 2 ^ max (T.height l) (T.height r) :=
      Nat.pow_le_pow_right (by omega) (Nat.le_max_right ..)
    rw [Nat.pow_succ]
    omega

/-! ## hash table -/

variable {κ : Type} [DecidableEq κ]

/-- the table represents the map `m` and satisfies the chain invariant -/
def HashRefines (h : κ → Nat) (t : HT κ) (m : Map κ) : Prop :=
  HInv h t ∧ ∀ k, hget h t k = m.get k

theorem hash_step_refines {h : κ → Nat} {t : HT κ} {m : Map κ} (r : HashRefines h t m)
    (op : Op κ) :
    ∃ t', hashStep h t op = .ok (t', (specStepReject m op).2) ∧
      HashRefines h t' (specStepReject m op).1 := by
  obtain ⟨inv, hf⟩ := r
  cases op with
  | ins k v =>
    obtain ⟨t', ok, e, inv', hflag, hun, hf'⟩ := hput_spec inv k v
    obtain ⟨p1, p2⟩ := putNew_refines hf hflag hf'
    refine ⟨t', ?_, inv', p2⟩
    cases ok with
    | false => obtain rfl := hun rfl; simp [hashStep, e, specStepReject, p1]
    | true => simp [hashStep, e, specStepReject, p1]
  | find k =>
    exact ⟨t, by simp [hashStep, specStepReject, hfind_ok inv, hf k], inv, hf⟩
  | rm k =>
    obtain ⟨t', ok, e, inv', hflag, hf'⟩ := hremove_spec inv k
    obtain ⟨p1, p2⟩ := erase_refines hf hflag hf'
    exact ⟨t', by simp only [hashStep, e, specStepReject, p1], inv', p2⟩

/-- **C09, hash-table histories.** As `avl_history`, for every hash function and every table
that satisfies `HashRefines` (any size; colliding keys, duplicates, absent keys): no call leaves
the bucket array, and the chains stay duplicate-free with every key in its own bucket. -/
theorem hash_history {h : κ → Nat} (ops : List (Op κ)) : ∀ {t : HT κ} {m : Map κ},
    HashRefines h t m →
    ∃ t', runE (hashStep h) t ops = .ok (t', (specRun specStepReject m ops).2) ∧
      HashRefines h t' (specRun specStepReject m ops).1 :=
  runE_refines hash_step_refines ops

/-- `hash_history` from `muggle_hash_table_init` -/
theorem hash_history_from_init {h : κ → Nat} {n cap : Nat} {t : HT κ}
    (e : HT.init n cap = some t) (ops : List (Op κ)) :
    ∃ t', runE (hashStep h) t ops = .ok (t', (specRun specStepReject ([] : Map κ) ops).2) ∧
      HashRefines h t' (specRun specStepReject ([] : Map κ) ops).1 := by
  obtain ⟨inv, hg⟩ := hinv_init (h := h) e
  exact hash_history ops ⟨inv, fun k => by rw [hg k]; rfl⟩

theorem hash_contents {h : κ → Nat} {t : HT κ} {m : Map κ} (r : HashRefines h t m)
    (k : κ) (v : Nat) : (k, v) ∈ HT.toList t ↔ m.get k = some v := by
  rw [hmem_toList_iff r.1, r.2 k]

/-! ## trie -/

/-- the trie (root node embedded, never NULL) represents the map `m` on C-string keys -/
def TrieRefines (root : TNode) (m : Map (List UInt8)) : Prop :=
  root.isNull = false ∧ ∀ k, NulFree k → TNode.lookup root k = m.get k

/-- every key of the operation is a C string (no NUL byte inside) -/
def OpNulFree : Op (List UInt8) → Prop
  | .ins k _ => NulFree k
  | .find k => NulFree k
  | .rm k => NulFree k

/-- **C09, trie insert overwrites / find.** For every key over the bytes 1..255 (any length,
including the empty key) and every non-NULL value: after `insert` the key maps to the new
value, whatever it mapped to before, and every other key is unaffected. -/
theorem trie_insert {root : TNode} (hr : root.isNull = false) {k : List UInt8} (hk : NulFree k)
    (v : Nat) :
    (root.insert k (some v)).isNull = false ∧
    ∀ k', NulFree k' →
      TNode.lookup (root.insert k (some v)) k' = if k' = k then some v else TNode.lookup root k' := by
  have hn : (root.insert k (some v)).isNull = false := by
    rw [insert_eq_insWalk]; exact isNull_insWalk hr _ _
  refine ⟨hn, fun k' hk' => ?_⟩
  rw [lookup_eq_dataAt, lookup_eq_dataAt, insert_eq_insWalk, dataAt_insWalk hr]
  simp only [path_inj hk' hk]

/-- **C09, trie remove.** Removes exactly the association of the key. -/
theorem trie_remove {root : TNode} (hr : root.isNull = false) {k : List UInt8} (hk : NulFree k) :
    (root.remove k).1.isNull = false ∧
    ∀ k', NulFree k' →
      TNode.lookup (root.remove k).1 k' = if k' = k then none else TNode.lookup root k' := by
  by_cases hf : (TNode.find root k).isNull = true
  · -- `find` returns NULL: nothing is stored under `k`, nothing changes
    have e : (root.remove k).1 = root := by simp [TNode.remove, hf]
    rw [e]
    refine ⟨hr, fun k' _ => ?_⟩
    split
    · subst k'
      unfold TNode.lookup
      cases h : TNode.find root k with
      | null => rfl
      | node d ks => rw [h] at hf; cases hf
    · rfl
  · have e := remove_fst_eq_clearAt k (by simpa using hf)
    have hn : (root.remove k).1.isNull = false := by rw [e, isNull_clearAt]; exact hr
    refine ⟨hn, fun k' hk' => ?_⟩
    rw [lookup_eq_dataAt, lookup_eq_dataAt, e, dataAt_clearAt]
    simp only [path_inj hk' hk]

theorem trie_step_refines {root : TNode} {m : Map (List UInt8)} (r : TrieRefines root m)
    (op : Op (List UInt8)) (hop : OpNulFree op) :
    (trieStep root op).2 = (specStepOverwrite m op).2 ∧
      TrieRefines (trieStep root op).1 (specStepOverwrite m op).1 := by
  obtain ⟨hr, hf⟩ := r
  cases op with
  | ins k v =>
    obtain ⟨hn, hl⟩ := trie_insert hr hop v
    refine ⟨rfl, hn, fun k' hk' => ?_⟩
    simp only [trieStep, specStepOverwrite]
    rw [hl k' hk', Map.set, get_cons, hf k' hk']
  | find k => exact ⟨by simp [trieStep, specStepOverwrite, hf k hop], hr, hf⟩
  | rm k =>
    obtain ⟨hn, hl⟩ := trie_remove hr hop
    refine ⟨rfl, hn, fun k' hk' => ?_⟩
    simp only [trieStep, specStepOverwrite]
    rw [hl k' hk', (erase_spec m k).2, hf k' hk']

/-- **C09, trie histories.** Every history of insert / find / remove calls of any length whose
keys are arbitrary strings over the bytes 1..255 (any non-NUL byte, the empty key included)
and whose values are non-NULL: every `find` returns the latest stored value or nothing, insert
overwrites, remove removes exactly that association. -/
theorem trie_history (ops : List (Op (List UInt8))) : ∀ {root : TNode} {m : Map (List UInt8)},
    TrieRefines root m → (∀ op ∈ ops, OpNulFree op) →
    (specRun trieStep root ops).2 = (specRun specStepOverwrite m ops).2 ∧
      TrieRefines (specRun trieStep root ops).1 (specRun specStepOverwrite m ops).1 := by
  induction ops with
  | nil => intro root m r _; exact ⟨rfl, r⟩
  | cons op ops ih =>
    intro root m r hops
    obtain ⟨e1, r1⟩ := trie_step_refines r op (hops op (List.mem_cons_self ..))
    obtain ⟨e2, r2⟩ := ih r1 (fun o ho => hops o (List.mem_cons_of_mem _ ho))
    exact ⟨by simp only [specRun, e1, e2], r2⟩

theorem trie_empty_refines : TrieRefines Trie.empty [] :=
  ⟨rfl, fun k _ => by
    rw [lookup_eq_dataAt]
    exact (dataAt_orFresh .null _).trans (dataAt_null _)⟩

/-- `trie_history` from `muggle_trie_init` -/
theorem trie_history_from_init (ops : List (Op (List UInt8))) (h : ∀ op ∈ ops, OpNulFree op) :
    (specRun trieStep Trie.empty ops).2 =
      (specRun specStepOverwrite ([] : Map (List UInt8)) ops).2 :=
  (trie_history ops trie_empty_refines h).1

/-- the defect of the unpatched code that the model does *not* contain: with a signed `char` the
index `(int)(*p)` is negative for every byte ≥ 0x80 — outside `children[0..255]` -/
theorem trie_signed_index_negative (b : UInt8) (h : b ≥ 128) : cIndexSigned b < 0 := by
  unfold cIndexSigned
  have h1 : ¬ b < 128 := by
    intro h2
    exact absurd (UInt8.lt_of_lt_of_le h2 h) (UInt8.lt_irrefl _)
  have : b.toNat < 256 := b.toNat_lt
  simp only [h1, if_false]
  omega

/-- … and in range for 7-bit bytes, where patched and unpatched code agree -/
theorem trie_signed_index_7bit (b : UInt8) (h : b < 128) : cIndexSigned b = b.toNat := by
  simp [cIndexSigned, h]

/-! ## non-vacuity: concrete, non-trivial states satisfy the hypotheses -/

example : runE avlStep (.nil, 0)
      [.ins 3 30, .ins 1 10, .ins 2 20, .ins 2 99, .find 2, .rm 3, .find 3, .rm 7] =
    .ok ((.node (.node .nil 1 10 0 .nil 1 (some 2)) 2 20 (-1) .nil 2 none, 3),
      [.flag true, .flag true, .flag true, .flag false, .val (some 20), .flag true,
       .val none, .flag false]) ∧
    AvlOk (.node (.node .nil 1 10 0 .nil 1 (some 2)) 2 20 (-1) .nil 2 none) ∧
    Linked (.node (.node .nil 1 10 0 .nil 1 (some 2)) 2 20 (-1) .nil 2 none) 3 := by
  exact ⟨by rfl, ((avl_check_iff _).mp (by rfl)).1, ((avl_check_iff _).mp (by rfl)).2, by decide,
    by decide⟩

/-- hash table with the worst hash function (everything collides) and 8 buckets -/
example : ∃ t : HT Nat, HT.init 8 0 = some t ∧ ∃ t',
    runE (hashStep (fun _ => 7)) t
      [.ins 1 10, .ins 2 20, .ins 1 11, .find 1, .rm 1, .find 1, .find 2, .rm 1] =
    .ok (t', [.flag true, .flag true, .flag false, .val (some 10), .flag true, .val none,
      .val (some 20), .flag false]) := by
  refine ⟨_, rfl, ?_⟩
  obtain ⟨t', e, _⟩ := hash_history_from_init (h := fun (_ : Nat) => 7) (n := 8) (cap := 0) rfl
    [.ins 1 10, .ins 2 20, .ins 1 11, .find 1, .rm 1, .find 1, .find 2, .rm 1]
  exact ⟨t', by rw [e]; rfl⟩

example : NulFree [0x80, 0xff, 0x01] ∧
    (specRun trieStep Trie.empty
      [.ins [0x80, 0xff] 5, .ins [0x80] 6, .ins [0x80, 0xff] 7, .find [0x80, 0xff],
       .rm [0x80], .find [0x80], .find [], .ins [] 9, .find []]).2 =
    [.flag true, .flag true, .flag true, .val (some 7), .done, .val none, .val none,
     .flag true, .val (some 9)] := by
  refine ⟨by unfold NulFree; decide, ?_⟩
  rw [trie_history_from_init _ (by
    simp only [List.forall_mem_cons, List.not_mem_nil, false_imp_iff, implies_true, and_true,
      OpNulFree, NulFree]
    decide)]
  decide

end MgProof.C09
