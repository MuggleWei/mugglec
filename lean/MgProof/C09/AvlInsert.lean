import MgProof.C09.AvlLemmas
/-!
# C09 — AVL tree: insertion keeps the invariant and inserts into the in-order sequence

The statements say that a call succeeds, so it is computed forwards by structural induction on
the tree: the failing branches are never met.
-/
namespace MgProof.C09
open MgModel.C09 MgModel.C09.T

/-- one retracing step at a node whose child on side `left` was replaced by a subtree that grew
by `g`; `hl0`, `hr0` are the heights of the children before, `b` the balance factor stored then.
`hg` is the idea of the insertion proof: a subtree that grew is a fresh leaf or is not balanced at
its root. So when the factor reaches ±2, `rebalance` reports "depth decreased" and the node is
as high as before — which is why the C code may ignore that return value and `break`. The last
conjunct hands the same fact to the level above. -/
theorem insRetrace_spec (left : Bool) {l r : T} (k : Int) (v : Nat) (i : Nat) (p : Option Nat)
    {b : Int} {hl0 hr0 : Nat} {g : Bool} (hl : Avl l) (hr : Avl r)
    (hb : b = (hr0 : Int) - (hl0 : Int)) (hb1 : -1 ≤ b) (hb2 : b ≤ 1)
    (hhl : height l = hl0 + (g && left).toNat) (hhr : height r = hr0 + (g && !left).toNat)
    (hg : g = true → height (if left then l else r) = 1 ∨ rootBal (if left then l else r) ≠ some 0) :
    ∃ t' g', insRetrace left l k v b r i p g = .ok (t', g') ∧ Avl t' ∧
      toList t' = toList l ++ (k, v) :: toList r ∧
      height t' = max hl0 hr0 + 1 + g'.toNat ∧ (g' = true → rootBal t' ≠ some 0) := by
  cases g with
  | false =>
    simp only [Bool.false_and, Bool.toNat_false, Nat.add_zero] at hhl hhr
    subst hhl hhr
    exact ⟨_, _, rfl, ⟨hl, hr, hb, hb1, hb2⟩, rfl, rfl, nofun⟩
  | true =>
    have hg := hg rfl
    rcases bal_cases hb1 hb2 with rfl | rfl | rfl <;> cases left <;>
      simp only [Bool.true_and, Bool.not_true, Bool.not_false, Bool.toNat_true, Bool.toNat_false,
        Nat.add_zero, if_true, Bool.false_eq_true, if_false] at hhl hhr hg
    -- `b = -1`, `0`, `1`, each first for the right child grown (`b + 1`), then the left (`b - 1`)
    · exact ⟨.node l k v 0 r i p, false, rfl, ⟨hl, hr, by omega⟩, rfl,
        by simp only [height_node, Bool.toNat_false]; omega, nofun⟩
    · -- `b - 1 = -2`: `rebalance_left`
      obtain ⟨t', d, e, ht', hlist, hht, hd⟩ := rebalance_left k v i p hl hr (by omega)
      obtain rfl : d = true := hd (hg.resolve_left (by omega))
      exact ⟨t', false, by simp [insRetrace, e], ht', hlist,
        by simp only [Bool.toNat_true, Bool.toNat_false] at hht ⊢; omega, nofun⟩
    · exact ⟨.node l k v 1 r i p, true, rfl, ⟨hl, hr, by omega⟩, rfl,
        by simp only [height_node, Bool.toNat_true]; omega, by simp [rootBal]⟩
    · exact ⟨.node l k v (-1) r i p, true, rfl, ⟨hl, hr, by omega⟩, rfl,
        by simp only [height_node, Bool.toNat_true]; omega, by simp [rootBal]⟩
    · -- `b + 1 = 2`: `rebalance_right`
      obtain ⟨t', d, e, ht', hlist, hht, hd⟩ := rebalance_right k v i p hl hr (by omega)
      obtain rfl : d = true := hd (hg.resolve_left (by omega))
      exact ⟨t', false, by simp [insRetrace, e], ht', hlist,
        by simp only [Bool.toNat_true, Bool.toNat_false] at hht ⊢; omega, nofun⟩
    · exact ⟨.node l k v 0 r i p, false, rfl, ⟨hl, hr, by omega⟩, rfl,
        by simp only [height_node, Bool.toNat_false]; omega, nofun⟩

/-- the fourth conjunct is `hg` of `insRetrace_spec` -/
theorem ins_spec (x : Int) (xv : Nat) (fresh : Nat) : ∀ (t : T) (par : Option Nat), Avl t → Sorted t →
    (ins x xv fresh par t = .ok none ∧ (find t x).isSome) ∨
    (∃ t' g, ins x xv fresh par t = .ok (some (t', g)) ∧ Avl t' ∧ height t' = height t + g.toNat ∧
      (g = true → height t' = 1 ∨ rootBal t' ≠ some 0) ∧
      Inserted x xv (toList t) (toList t')) := by
  intro t
  induction t with
  | nil =>
    intro par _ _
    exact .inr ⟨_, _, rfl, ⟨trivial, trivial, by simp⟩, rfl, fun _ => .inl rfl,
      ⟨[], [], rfl, rfl, nofun, nofun⟩⟩
  | node l k v b r i p ihl ihr =>
    intro par ha hs
    obtain ⟨hl, hr, hb, hb1, hb2⟩ := ha
    obtain ⟨sl, sr, hlk, hkr⟩ := sorted_node.mp hs
    by_cases hxk : x = k
    · left; simp [ins, find, hxk]
    by_cases hlt : x < k
    · rcases ihl (some i) hl sl with ⟨e, hf⟩ | ⟨l', g, e, hl', hh, hg, hins⟩
      · left; simp [ins, find, hxk, hlt, e, hf]
      · obtain ⟨t', g', e', ht', hlist, hht, hg'⟩ :=
          insRetrace_spec true k v i p hl' hr hb hb1 hb2 (by simpa using hh) (by simp) (by simpa using hg)
        refine .inr ⟨t', g', by simp [ins, hxk, hlt, e, e'], ht', by simpa using hht,
          fun h => .inr (hg' h), ?_⟩
        rw [hlist]; exact hins.left v hlt hkr
    · have hgt : k < x := by omega
      rcases ihr (some i) hr sr with ⟨e, hf⟩ | ⟨r', g, e, hr', hh, hg, hins⟩
      · left; simp [ins, find, hxk, hlt, e, hf]
      · obtain ⟨t', g', e', ht', hlist, hht, hg'⟩ :=
          insRetrace_spec false k v i p hl hr' hb hb1 hb2 (by simp) (by simpa using hh) (by simpa using hg)
        refine .inr ⟨t', g', by simp [ins, hxk, hlt, e, e'], ht', by simpa using hht,
          fun h => .inr (hg' h), ?_⟩
        rw [hlist]; exact hins.right v hgt hlk

end MgProof.C09
