import MgModel.C09.Avl
/-!
# C09 — association lists with first-match lookup, and the reference map built on them

`Map.get`, the chain scan of the hash table and (on a search tree) `T.find` are all `List.lookup`
(`get_cons` is `lookup_cons_ite` read for `Map.get`). `Adds` serves the two in-order sequences of
the tree, entries and node identities.
-/
namespace MgProof.C09
open MgModel.C09

/-- `l'` is `l` with `a` put in at some place -/
def Adds {α : Type} (a : α) (l l' : List α) : Prop := ∃ l1 l2, l = l1 ++ l2 ∧ l' = l1 ++ a :: l2

namespace Adds
variable {α : Type} {a : α} {l l' : List α}

theorem left (h : Adds a l l') (r : List α) : Adds a (l ++ r) (l' ++ r) := by
  obtain ⟨l1, l2, rfl, rfl⟩ := h
  exact ⟨l1, l2 ++ r, by simp, by simp⟩

theorem right (r : List α) (i : α) (h : Adds a l l') : Adds a (r ++ i :: l) (r ++ i :: l') := by
  obtain ⟨l1, l2, rfl, rfl⟩ := h
  exact ⟨r ++ i :: l1, l2, by simp, by simp⟩

theorem perm (h : Adds a l l') : l'.Perm (a :: l) := by
  obtain ⟨l1, l2, rfl, rfl⟩ := h
  exact List.perm_middle

theorem sublist (h : Adds a l l') : l.Sublist l' := by
  obtain ⟨l1, l2, rfl, rfl⟩ := h
  exact (List.Sublist.refl _).append (List.sublist_cons_self _ _)

end Adds

variable {κ : Type} [DecidableEq κ]

theorem lookup_cons_ite (k : κ) (v : Nat) (m : List (κ × Nat)) (y : κ) :
    List.lookup y ((k, v) :: m) = if y = k then some v else List.lookup y m := by
  rw [List.lookup_cons]
  by_cases h : y = k
  · simp [h]
  · simp [h, beq_eq_false_iff_ne.mpr h]

theorem lookup_eq_none {y : κ} {l : List (κ × Nat)} :
    List.lookup y l = none ↔ ∀ p ∈ l, p.1 ≠ y := by
  rw [List.lookup_eq_none_iff]
  exact forall₂_congr fun p _ => by rw [bne_iff_ne, ne_comm]

theorem lookup_insert {x : κ} {l1 : List (κ × Nat)} (h1 : ∀ p ∈ l1, p.1 ≠ x) (xv : Nat)
    (l2 : List (κ × Nat)) (y : κ) :
    List.lookup y (l1 ++ (x, xv) :: l2) = if y = x then some xv else List.lookup y (l1 ++ l2) := by
  rw [List.lookup_append, List.lookup_append, lookup_cons_ite]
  by_cases h : y = x
  · simp [h, lookup_eq_none.mpr h1]
  · simp [h]

theorem mem_iff_lookup {l : List (κ × Nat)} (hd : l.Pairwise (fun p q => p.1 ≠ q.1)) (k : κ) (v : Nat) :
    (k, v) ∈ l ↔ List.lookup k l = some v := by
  induction l with
  | nil => simp
  | cons p l ih =>
    obtain ⟨a, va⟩ := p
    obtain ⟨h1, h2⟩ := List.pairwise_cons.mp hd
    rw [lookup_cons_ite, List.mem_cons, ih h2]
    by_cases e : k = a
    · subst e
      have : List.lookup k l = none := lookup_eq_none.mpr fun p hp => (h1 p hp).symm
      simp [this, eq_comm]
    · simp [e]

theorem get_cons (k : κ) (v : Nat) (m : Map κ) (y : κ) :
    Map.get ((k, v) :: m) y = if y = k then some v else Map.get m y := lookup_cons_ite k v m y

theorem get_filter (m : Map κ) (k y : κ) :
    Map.get (m.filter (fun p => p.1 ≠ k)) y = if y = k then none else Map.get m y := by
  induction m with
  | nil => simp [Map.get]
  | cons p m ih =>
    obtain ⟨a, va⟩ := p
    rw [List.filter_cons]
    by_cases hak : a = k
    · subst hak
      simp only [ne_eq, not_true, decide_false, Bool.false_eq_true, if_false, ih, get_cons]
      split <;> rfl
    · simp only [ne_eq, hak, not_false_eq_true, decide_true, if_true, get_cons, ih]
      by_cases h : y = a
      · subst h; simp [hak]
      · simp [h]

theorem putNew_spec (m : Map κ) (k : κ) (v : Nat) :
    (m.putNew k v).2 = (m.get k).isNone ∧
    ∀ y, Map.get (m.putNew k v).1 y =
      if (m.get k).isNone ∧ y = k then some v else m.get y := by
  unfold Map.putNew
  cases h : m.get k with
  | some w => simp
  | none =>
    refine ⟨by simp, fun y => ?_⟩
    simp only [get_cons]
    by_cases e : y = k <;> simp [e]

theorem erase_spec (m : Map κ) (k : κ) :
    (m.erase k).2 = (m.get k).isSome ∧
    ∀ y, Map.get (m.erase k).1 y = if y = k then none else m.get y :=
  ⟨rfl, fun y => get_filter m k y⟩

/-- a structure whose lookups `f` refine `m` and change to `f'` as a rejecting insert changes them
refines `m.putNew k v` -/
theorem putNew_refines {f f' : κ → Option Nat} {m : Map κ} {k : κ} {v : Nat} {ok : Bool}
    (hf : ∀ y, f y = m.get y) (hok : ok = (f k).isNone)
    (hf' : ∀ y, f' y = if ok = true ∧ y = k then some v else f y) :
    (m.putNew k v).2 = ok ∧ ∀ y, f' y = Map.get (m.putNew k v).1 y := by
  obtain ⟨p1, p2⟩ := putNew_spec m k v
  exact ⟨by rw [p1, ← hf k, hok], fun y => by rw [hf' y, p2 y, ← hf k, ← hf y, hok]⟩

theorem erase_refines {f f' : κ → Option Nat} {m : Map κ} {k : κ} {ok : Bool}
    (hf : ∀ y, f y = m.get y) (hok : ok = (f k).isSome)
    (hf' : ∀ y, f' y = if y = k then none else f y) :
    (m.erase k).2 = ok ∧ ∀ y, f' y = Map.get (m.erase k).1 y := by
  obtain ⟨p1, p2⟩ := erase_spec m k
  exact ⟨by rw [p1, ← hf k, hok], fun y => by rw [hf' y, p2 y, ← hf y]⟩

end MgProof.C09
