import MgProof.C09.MapLemmas
/-!
# C09 — AVL tree: parent pointers and node identities

`ParentOk p t`: the root of `t` stores parent pointer `p`, every other node the identity of the
node it hangs under. The model performs the parent assignments of the C code; they keep the links
consistent whenever an operation returns, balanced tree or not, and the in-order identity list
only gains the fresh identity on insert and only loses one element on remove.

The statements are about what a call returns, so the proofs go by the case and induction
principles Lean derives from the model functions (`fun_cases`, `fun_induction`): one case per
branch of the code, numbered in source order. A branch that returns an error or no tree closes by
`cases h`, after `simp only [*] at h` where the error comes from a call made in the branch; only
the other branches, and a first error branch that `simp` could not touch, are named.
-/
namespace MgProof.C09
open MgModel.C09 MgModel.C09.T

def ParentOk : Option Nat → T → Prop
  | _, .nil => True
  | p, .node l _ _ _ r i q => q = p ∧ ParentOk (some i) l ∧ ParentOk (some i) r

@[simp] theorem ids_nil : ids .nil = [] := rfl
@[simp] theorem ids_node (l k v b r i p) : ids (.node l k v b r i p) = ids l ++ i :: ids r := rfl
@[simp] theorem ids_setPar (t : T) (p : Option Nat) : ids (setPar t p) = ids t := by
  cases t <;> rfl

theorem parentOk_setPar {t : T} {q : Option Nat} (p : Option Nat) (h : ParentOk q t) :
    ParentOk p (setPar t p) := by
  cases t with
  | nil => trivial
  | node l k v b r i q' => exact ⟨rfl, h.2⟩

theorem parentsOk_iff : ∀ (t : T) (p : Option Nat), parentsOk p t = true ↔ ParentOk p t := by
  intro t
  induction t with
  | nil => intro p; simp [parentsOk, ParentOk]
  | node l k v b r i q ihl ihr =>
    intro p
    simp only [parentsOk, Bool.and_eq_true, decide_eq_true_eq, ihl, ihr, ParentOk, and_assoc]

/- The branches of a rotation differ in the balance factors only. -/
theorem rotateLeft_parent {t t' : T} {d : Bool} {p : Option Nat}
    (h : rotateLeft t = .ok (t', d)) (hp : ParentOk p t) : ParentOk p t' ∧ ids t' = ids t := by
  revert h
  fun_cases rotateLeft t <;> intro h <;> cases h
  all_goals
    obtain ⟨rfl, h1, rfl, h23, h4⟩ := hp
    exact ⟨⟨rfl, ⟨rfl, h1, parentOk_setPar _ h23⟩, h4⟩, by simp⟩

theorem rotateRight_parent {t t' : T} {d : Bool} {p : Option Nat}
    (h : rotateRight t = .ok (t', d)) (hp : ParentOk p t) : ParentOk p t' ∧ ids t' = ids t := by
  revert h
  fun_cases rotateRight t <;> intro h <;> cases h
  all_goals
    obtain ⟨rfl, ⟨rfl, h4, h23⟩, h1⟩ := hp
    exact ⟨⟨rfl, h4, ⟨rfl, parentOk_setPar _ h23, h1⟩⟩, by simp⟩

theorem rotateRightLeft_parent {t t' : T} {p : Option Nat}
    (h : rotateRightLeft t = .ok t') (hp : ParentOk p t) : ParentOk p t' ∧ ids t' = ids t := by
  revert h
  fun_cases rotateRightLeft t <;> intro h <;> cases h
  obtain ⟨rfl, h1, rfl, ⟨rfl, h2, h3⟩, h4⟩ := hp
  exact ⟨⟨rfl, ⟨rfl, h1, parentOk_setPar _ h2⟩, ⟨rfl, parentOk_setPar _ h3, h4⟩⟩, by simp⟩

theorem rotateLeftRight_parent {t t' : T} {p : Option Nat}
    (h : rotateLeftRight t = .ok t') (hp : ParentOk p t) : ParentOk p t' ∧ ids t' = ids t := by
  revert h
  fun_cases rotateLeftRight t <;> intro h <;> cases h
  obtain ⟨rfl, ⟨rfl, h4, rfl, h3, h2⟩, h1⟩ := hp
  exact ⟨⟨rfl, ⟨rfl, h4, parentOk_setPar _ h3⟩, ⟨rfl, parentOk_setPar _ h2, h1⟩⟩, by simp⟩

theorem rebalance_parent {t t' : T} {d : Bool} {p : Option Nat}
    (h : rebalance t = .ok (t', d)) (hp : ParentOk p t) : ParentOk p t' ∧ ids t' = ids t := by
  revert h
  fun_cases rebalance t <;> intro h
  case case3 => exact rotateRight_parent h hp
  case case4 e => cases h; exact rotateLeftRight_parent e hp
  case case7 => exact rotateLeft_parent h hp
  case case8 e => cases h; exact rotateRightLeft_parent e hp
  case case10 => cases h; exact ⟨hp, rfl⟩
  all_goals cases h

theorem insRetrace_cases {left : Bool} {l r t' : T} {k : Int} {v : Nat} {b : Int} {i : Nat}
    {p : Option Nat} {g g' : Bool}
    (h : insRetrace left l k v b r i p g = .ok (t', g')) :
    (∃ b', t' = .node l k v b' r i p) ∨ (∃ b' d, rebalance (.node l k v b' r i p) = .ok (t', d)) := by
  revert h
  fun_cases insRetrace left l k v b r i p g <;> intro h <;> cases h
  case case4 e => exact .inr ⟨_, _, e⟩    -- factor ±2
  all_goals exact .inl ⟨_, rfl⟩

theorem delRetrace_cases {left : Bool} {l r t' : T} {k : Int} {v : Nat} {b : Int} {i : Nat}
    {p : Option Nat} {s s' : Bool}
    (h : delRetrace left l k v b r i p s = .ok (t', s')) :
    (∃ b', t' = .node l k v b' r i p) ∨ (∃ b', rebalance (.node l k v b' r i p) = .ok (t', s')) := by
  revert h
  fun_cases delRetrace left l k v b r i p s <;> intro h
  case case4 => exact .inr ⟨_, h⟩    -- factor ±2
  all_goals cases h; exact .inl ⟨_, rfl⟩

theorem retrace_parent {l r t' : T} {k : Int} {v : Nat} {i : Nat} {p : Option Nat}
    (h : (∃ b', t' = .node l k v b' r i p) ∨ (∃ b' d, rebalance (.node l k v b' r i p) = .ok (t', d)))
    (hl : ParentOk (some i) l) (hr : ParentOk (some i) r) :
    ParentOk p t' ∧ ids t' = ids l ++ i :: ids r := by
  rcases h with ⟨b', rfl⟩ | ⟨b', d, e⟩
  · exact ⟨⟨rfl, hl, hr⟩, rfl⟩
  · exact rebalance_parent e ⟨rfl, hl, hr⟩

theorem ins_parent (x : Int) (xv : Nat) (fresh : Nat) (t : T) (par : Option Nat) : ∀ (t' : T) (g : Bool),
    ins x xv fresh par t = .ok (some (t', g)) → ParentOk par t →
    ParentOk par t' ∧ Adds fresh (ids t) (ids t') := by
  fun_induction ins x xv fresh par t <;> intro t' g h hp <;> cases h
  case case1 => exact ⟨⟨rfl, trivial, trivial⟩, [], [], rfl, rfl⟩    -- the new leaf
  case case5 e ih e2 =>    -- into `l`
    obtain ⟨rfl, hl, hr⟩ := hp
    obtain ⟨hl', ha⟩ := ih _ _ e hl
    obtain ⟨hq, hids⟩ := retrace_parent (insRetrace_cases e2) hl' hr
    exact ⟨hq, hids ▸ ha.left _⟩
  case case9 e ih e2 =>    -- into `r`
    obtain ⟨rfl, hl, hr⟩ := hp
    obtain ⟨hr', ha⟩ := ih _ _ e hr
    obtain ⟨hq, hids⟩ := retrace_parent (insRetrace_cases e2) hl hr'
    exact ⟨hq, hids ▸ ha.right _ _⟩

/-- removal frees one node and moves no other -/
def Drops (t' t : T) : Prop := ∃ j, Adds j (ids t') (ids t)

theorem delRetrace_drops_left {left : Bool} {l l' r t' : T} {k : Int} {v : Nat} {b : Int} {i : Nat}
    {p : Option Nat} {s s' : Bool} (h : delRetrace left l' k v b r i p s = .ok (t', s'))
    (hl : ParentOk (some i) l' ∧ Drops l' l) (hr : ParentOk (some i) r) {k0 v0 b0 p0} :
    ParentOk p t' ∧ Drops t' (.node l k0 v0 b0 r i p0) := by
  obtain ⟨hq, e⟩ := retrace_parent ((delRetrace_cases h).imp_right fun ⟨b', e⟩ => ⟨b', s', e⟩) hl.1 hr
  obtain ⟨j, ha⟩ := hl.2
  exact ⟨hq, j, e ▸ ha.left _⟩

theorem delRetrace_drops_right {left : Bool} {l r r' t' : T} {k : Int} {v : Nat} {b : Int} {i : Nat}
    {p : Option Nat} {s s' : Bool} (h : delRetrace left l k v b r' i p s = .ok (t', s'))
    (hl : ParentOk (some i) l) (hr : ParentOk (some i) r' ∧ Drops r' r) {k0 v0 b0 p0} :
    ParentOk p t' ∧ Drops t' (.node l k0 v0 b0 r i p0) := by
  obtain ⟨hq, e⟩ := retrace_parent ((delRetrace_cases h).imp_right fun ⟨b', e⟩ => ⟨b', s', e⟩) hl hr.1
  obtain ⟨j, ha⟩ := hr.2
  exact ⟨hq, j, e ▸ ha.right _ _⟩

theorem drops_leaf (k v b i p) : Drops .nil (.node .nil k v b .nil i p) := ⟨i, [], [], rfl, rfl⟩

theorem popMax_parent (t : T) : ∀ (p : Option Nat) (t' : T) (km : Int) (vm : Nat) (s : Bool),
    popMax t = .ok (t', km, vm, s) → ParentOk p t → ParentOk p t' ∧ Drops t' t := by
  fun_induction popMax t <;> intro p t' km vm s h hp
  case case1 => cases h
  case case2 => cases h; exact ⟨trivial, drops_leaf ..⟩    -- a leaf
  case case5 e2 e ih =>    -- the maximum node has a left child: the predecessor's entry comes from `l`
    -- the principle leaves the `match`es on the two calls in `h`; their equations reduce them
    simp only [e, e2] at h; cases h
    obtain ⟨rfl, hl, hr⟩ := hp
    exact delRetrace_drops_left e2 (ih _ _ _ _ _ e hl) hr
  case case8 e2 e ih =>    -- go on in `r`
    simp only [e, e2] at h; cases h
    obtain ⟨rfl, hl, hr⟩ := hp
    exact delRetrace_drops_right e2 hl (ih _ _ _ _ _ e hr)
  all_goals (simp only [*] at h; cases h)

theorem popMin_parent (t : T) : ∀ (p : Option Nat) (t' : T) (km : Int) (vm : Nat) (s : Bool),
    popMin t = .ok (t', km, vm, s) → ParentOk p t → ParentOk p t' ∧ Drops t' t := by
  fun_induction popMin t <;> intro p t' km vm s h hp
  case case1 => cases h
  case case2 => cases h; exact ⟨trivial, drops_leaf ..⟩
  case case5 e2 e ih =>    -- the minimum node has a right child: the successor's entry comes from `r`
    simp only [e, e2] at h; cases h
    obtain ⟨rfl, hl, hr⟩ := hp
    exact delRetrace_drops_right e2 hl (ih _ _ _ _ _ e hr)
  case case8 e2 e ih =>    -- go on in `l`
    simp only [e, e2] at h; cases h
    obtain ⟨rfl, hl, hr⟩ := hp
    exact delRetrace_drops_left e2 (ih _ _ _ _ _ e hl) hr
  all_goals (simp only [*] at h; cases h)

theorem delRoot_parent {t t' : T} {p : Option Nat} {s : Bool}
    (h : delRoot t = .ok (t', s)) (hp : ParentOk p t) : ParentOk p t' ∧ Drops t' t := by
  revert h
  fun_cases delRoot t <;> intro h
  case case1 => cases h
  case case2 => cases h; exact ⟨trivial, drops_leaf ..⟩
  case case4 e =>    -- a left child: `popMax l`
    simp only [e] at h
    obtain ⟨rfl, hl, hr⟩ := hp
    exact delRetrace_drops_left h (popMax_parent _ _ _ _ _ _ e hl) hr
  case case6 e =>    -- none: `popMin r`
    simp only [e] at h
    obtain ⟨rfl, hl, hr⟩ := hp
    exact delRetrace_drops_right h hl (popMin_parent _ _ _ _ _ _ e hr)
  all_goals (simp only [*] at h; cases h)

theorem del_parent (x : Int) (t : T) : ∀ (p : Option Nat) (t' : T) (s : Bool),
    del x t = .ok (some (t', s)) → ParentOk p t → ParentOk p t' ∧ Drops t' t := by
  fun_induction del x t <;> intro p t' s h hp <;> cases h
  case case2 e => exact delRoot_parent e hp    -- `x = k`: this node
  case case6 e ih e2 =>    -- into `l`
    obtain ⟨rfl, hl, hr⟩ := hp
    exact delRetrace_drops_left e2 (ih _ _ _ e hl) hr
  case case10 e ih e2 =>    -- into `r`
    obtain ⟨rfl, hl, hr⟩ := hp
    exact delRetrace_drops_right e2 hl (ih _ _ _ e hr)

end MgProof.C09
