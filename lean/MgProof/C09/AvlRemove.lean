import MgProof.C09.AvlLemmas
/-!
# C09 — AVL tree: removal (swap down to a leaf, unlink, retrace) keeps the invariant and
removes exactly one entry of the in-order sequence
-/
namespace MgProof.C09
open MgModel.C09 MgModel.C09.T

/-- as `insRetrace_spec`, for a child that shrank by `s`; here `rebalance` may or may not lower
the node, and its answer is passed on -/
theorem delRetrace_spec (left : Bool) {l r : T} (k : Int) (v : Nat) (i : Nat) (p : Option Nat)
    {b : Int} {hl0 hr0 : Nat} {s : Bool} (hl : Avl l) (hr : Avl r)
    (hb : b = (hr0 : Int) - (hl0 : Int)) (hb1 : -1 ≤ b) (hb2 : b ≤ 1)
    (hhl : height l + (s && left).toNat = hl0) (hhr : height r + (s && !left).toNat = hr0) :
    ∃ t' s', delRetrace left l k v b r i p s = .ok (t', s') ∧ Avl t' ∧
      toList t' = toList l ++ (k, v) :: toList r ∧
      height t' + s'.toNat = max hl0 hr0 + 1 := by
  cases s with
  | false =>
    simp only [Bool.false_and, Bool.toNat_false, Nat.add_zero] at hhl hhr
    subst hhl hhr
    exact ⟨_, _, rfl, ⟨hl, hr, hb, hb1, hb2⟩, rfl, rfl⟩
  | true =>
    rcases bal_cases hb1 hb2 with rfl | rfl | rfl <;> cases left <;>
      simp only [Bool.true_and, Bool.not_true, Bool.not_false, Bool.toNat_true, Bool.toNat_false,
        Nat.add_zero] at hhl hhr
    -- `b = -1`, `0`, `1`, each first for the right child shrunk (`b - 1`), then the left (`b + 1`)
    · -- `b - 1 = -2`: `rebalance_left`
      obtain ⟨t', d, e, ht', hlist, hht, _⟩ := rebalance_left k v i p hl hr (by omega)
      exact ⟨t', d, by simp [delRetrace, e], ht', hlist, by omega⟩
    · exact ⟨.node l k v 0 r i p, true, rfl, ⟨hl, hr, by omega⟩, rfl,
        by simp only [height_node, Bool.toNat_true]; omega⟩
    · exact ⟨.node l k v (-1) r i p, false, rfl, ⟨hl, hr, by omega⟩, rfl,
        by simp only [height_node, Bool.toNat_false]; omega⟩
    · exact ⟨.node l k v 1 r i p, false, rfl, ⟨hl, hr, by omega⟩, rfl,
        by simp only [height_node, Bool.toNat_false]; omega⟩
    · exact ⟨.node l k v 0 r i p, true, rfl, ⟨hl, hr, by omega⟩, rfl,
        by simp only [height_node, Bool.toNat_true]; omega⟩
    · -- `b + 1 = 2`: `rebalance_right`
      obtain ⟨t', d, e, ht', hlist, hht, _⟩ := rebalance_right k v i p hl hr (by omega)
      exact ⟨t', d, by simp [delRetrace, e], ht', hlist, by omega⟩

/-- `delRetrace_spec` at a node of a balanced tree whose left child was replaced; the node may by
then hold another entry `(k, v)`: the swap-down puts the predecessor's or successor's there -/
theorem delRetrace_left {l l' r : T} {k0 : Int} {v0 : Nat} {b : Int} {i : Nat} {q : Option Nat}
    {s : Bool} (k : Int) (v : Nat) (ha : Avl (.node l k0 v0 b r i q)) (hl' : Avl l')
    (hh : height l' + s.toNat = height l) :
    ∃ t' s', delRetrace true l' k v b r i q s = .ok (t', s') ∧ Avl t' ∧
      toList t' = toList l' ++ (k, v) :: toList r ∧
      height t' + s'.toNat = height (.node l k0 v0 b r i q) := by
  obtain ⟨_, hr, hb, hb1, hb2⟩ := ha
  exact delRetrace_spec true k v i q hl' hr hb hb1 hb2 (by simpa using hh) (by simp)

theorem delRetrace_right {l r r' : T} {k0 : Int} {v0 : Nat} {b : Int} {i : Nat} {q : Option Nat}
    {s : Bool} (k : Int) (v : Nat) (ha : Avl (.node l k0 v0 b r i q)) (hr' : Avl r')
    (hh : height r' + s.toNat = height r) :
    ∃ t' s', delRetrace false l k v b r' i q s = .ok (t', s') ∧ Avl t' ∧
      toList t' = toList l ++ (k, v) :: toList r' ∧
      height t' + s'.toNat = height (.node l k0 v0 b r i q) := by
  obtain ⟨hl, _, hb, hb1, hb2⟩ := ha
  exact delRetrace_spec false k v i q hl hr' hb hb1 hb2 (by simp) (by simpa using hh)

theorem popMax_spec : ∀ t : T, t ≠ .nil → Avl t →
    ∃ t' km vm s, popMax t = .ok (t', km, vm, s) ∧ Avl t' ∧
      toList t = toList t' ++ [(km, vm)] ∧ height t' + s.toNat = height t := by
  intro t
  induction t with
  | nil => intro h; exact absurd rfl h
  | node l k v b r i q ihl ihr =>
    intro _ ha
    cases r with
    | nil =>
      cases l with
      | nil => exact ⟨.nil, k, v, true, rfl, trivial, rfl, rfl⟩
      | node ll lk lv lb lr li lp =>
        obtain ⟨l', k2, v2, s, e, hl', hlist, hh⟩ := ihl (by simp) ha.1
        obtain ⟨t', s', e', ht', hlist', hh'⟩ := delRetrace_left k2 v2 ha hl' hh
        refine ⟨t', k, v, s', by rw [popMax]; simp only [e, e'], ht', ?_, hh'⟩
        rw [hlist', toList_node, hlist]; simp
    | node rl rk rv rb rr ri rp =>
      obtain ⟨r', km, vm, s, e, hr', hlist, hh⟩ := ihr (by simp) ha.2.1
      obtain ⟨t', s', e', ht', hlist', hh'⟩ := delRetrace_right k v ha hr' hh
      refine ⟨t', km, vm, s', by rw [popMax]; simp only [e, e'], ht', ?_, hh'⟩
      rw [hlist', toList_node, hlist]; simp

theorem popMin_spec : ∀ t : T, t ≠ .nil → Avl t →
    ∃ t' km vm s, popMin t = .ok (t', km, vm, s) ∧ Avl t' ∧
      toList t = (km, vm) :: toList t' ∧ height t' + s.toNat = height t := by
  intro t
  induction t with
  | nil => intro h; exact absurd rfl h
  | node l k v b r i q ihl ihr =>
    intro _ ha
    cases l with
    | nil =>
      cases r with
      | nil => exact ⟨.nil, k, v, true, rfl, trivial, rfl, rfl⟩
      | node rl rk rv rb rr ri rp =>
        obtain ⟨r', k2, v2, s, e, hr', hlist, hh⟩ := ihr (by simp) ha.2.1
        obtain ⟨t', s', e', ht', hlist', hh'⟩ := delRetrace_right k2 v2 ha hr' hh
        refine ⟨t', k, v, s', by rw [popMin]; simp only [e, e'], ht', ?_, hh'⟩
        rw [hlist', toList_node, hlist]; simp
    | node ll lk lv lb lr li lp =>
      obtain ⟨l', km, vm, s, e, hl', hlist, hh⟩ := ihl (by simp) ha.1
      obtain ⟨t', s', e', ht', hlist', hh'⟩ := delRetrace_left k v ha hl' hh
      refine ⟨t', km, vm, s', by rw [popMin]; simp only [e, e'], ht', ?_, hh'⟩
      rw [hlist', toList_node, hlist]; simp

theorem delRoot_spec {l r : T} (k : Int) (v : Nat) (b : Int) (i : Nat) (q : Option Nat)
    (ha : Avl (.node l k v b r i q)) :
    ∃ t' s, delRoot (.node l k v b r i q) = .ok (t', s) ∧ Avl t' ∧
      toList t' = toList l ++ toList r ∧ height t' + s.toNat = height (.node l k v b r i q) := by
  cases l with
  | nil =>
    cases r with
    | nil => exact ⟨.nil, true, rfl, trivial, rfl, rfl⟩
    | node rl rk rv rb rr ri rp =>
      obtain ⟨r', km, vm, s, e, hr', hlist, hh⟩ := popMin_spec _ (by simp) ha.2.1
      obtain ⟨t', s', e', ht', hlist', hh'⟩ := delRetrace_right km vm ha hr' hh
      exact ⟨t', s', by simp [delRoot, e, e'], ht', by simp [hlist', hlist], hh'⟩
  | node ll lk lv lb lr li lp =>
    obtain ⟨l', km, vm, s, e, hl', hlist, hh⟩ := popMax_spec _ (by simp) ha.1
    obtain ⟨t', s', e', ht', hlist', hh'⟩ := delRetrace_left km vm ha hl' hh
    exact ⟨t', s', by simp [delRoot, e, e'], ht', by rw [hlist', hlist]; simp, hh'⟩

theorem del_spec (x : Int) : ∀ t : T, Avl t → Sorted t →
    (del x t = .ok none ∧ find t x = none) ∨
    (∃ t' s, del x t = .ok (some (t', s)) ∧ Avl t' ∧ height t' + s.toNat = height t ∧
      ∃ xv, Inserted x xv (toList t') (toList t)) := by
  intro t
  induction t with
  | nil => intro _ _; exact .inl ⟨rfl, rfl⟩
  | node l k v b r i q ihl ihr =>
    intro ha hs
    obtain ⟨sl, sr, hlk, hkr⟩ := sorted_node.mp hs
    by_cases hxk : x = k
    · subst hxk
      obtain ⟨t', s, e, ht', hlist, hh⟩ := delRoot_spec x v b i q ha
      exact .inr ⟨t', s, by simp [del, e], ht', hh, v, _, _, hlist, rfl, hlk, hkr⟩
    by_cases hlt : x < k
    · rcases ihl ha.1 sl with ⟨e, hf⟩ | ⟨l', s, e, hl', hh, xv, hins⟩
      · left; simp [del, find, hxk, hlt, e, hf]
      · obtain ⟨t', s', e', ht', hlist, hht⟩ := delRetrace_left k v ha hl' hh
        refine .inr ⟨t', s', by simp [del, hxk, hlt, e, e'], ht', hht, xv, ?_⟩
        rw [hlist]; exact hins.left v hlt hkr
    · have hgt : k < x := by omega
      rcases ihr ha.2.1 sr with ⟨e, hf⟩ | ⟨r', s, e, hr', hh, xv, hins⟩
      · left; simp [del, find, hxk, hlt, e, hf]
      · obtain ⟨t', s', e', ht', hlist, hht⟩ := delRetrace_right k v ha hr' hh
        refine .inr ⟨t', s', by simp [del, hxk, hlt, e, e'], ht', hht, xv, ?_⟩
        rw [hlist]; exact hins.right v hgt hlk

end MgProof.C09
