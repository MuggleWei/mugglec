import MgModel.Common.Conc
/-! What the proof directories share about the interleaving models. Per-thread state is a function `Nat → α`
changed at one thread by `upd`, and invariants speak of it in four ways: a lock names its owner, somebody is at a
pc with `P`, so many threads are, the lowest one is. The first three come with what a step of one thread does to
them, the fourth with what its result means. -/
namespace MgModel.Conc

theorem upd_upd {α : Type} (f : Nat → α) (i : Nat) (a b : α) : upd (upd f i a) i b = upd f i b := by
  funext j; simp only [upd]; split <;> rfl

theorem upd_eq_self {α : Type} {f : Nat → α} {i : Nat} {a : α} (h : f i = a) : upd f i a = f := by
  funext j
  by_cases e : j = i
  · rw [e, upd_same, h]
  · exact upd_other _ _ _ _ e

theorem upd_self {α : Type} (f : Nat → α) (i : Nat) : upd f i (f i) = f := upd_eq_self rfl

theorem upd_elim {α : Type} {Q : α → Prop} {f : Nat → α} {t u : Nat} {a : α}
    (h : Q (upd f t a u)) : u = t ∧ Q a ∨ u ≠ t ∧ Q (f u) := by
  by_cases e : u = t
  · exact .inl ⟨e, by simpa [e] using h⟩
  · exact .inr ⟨e, by simpa [e] using h⟩

theorem upd_eq_cases {α : Type} {f : Nat → α} {t u : Nat} {a x : α} (h : upd f t a u = x) :
    u = t ∧ a = x ∨ u ≠ t ∧ f u = x :=
  upd_elim (Q := (· = x)) h

theorem upd_intro {α : Type} {Q : α → Prop} {f : Nat → α} {t u : Nat} {a : α}
    (ha : u = t → Q a) (hf : u ≠ t → Q (f u)) : Q (upd f t a u) := by
  by_cases e : u = t
  · simpa [e] using ha e
  · simpa [e] using hf e

theorem upd_forall {α : Type} {P : Nat → α → Prop} {f : Nat → α} {t : Nat} {a : α}
    (h : ∀ j, j ≠ t → P j (f j)) (ha : P t a) : ∀ j, P j (upd f t a j) :=
  fun _ => upd_intro (fun e => e ▸ ha) (h _)

/-- two functions changed at the same index -/
theorem upd_forall₂ {α β : Type} {P : Nat → α → β → Prop} {f : Nat → α} {g : Nat → β} {t : Nat} {a : α} {b : β}
    (h : ∀ j, j ≠ t → P j (f j) (g j)) (hab : P t a b) : ∀ j, P j (upd f t a j) (upd g t b j) := fun j => by
  by_cases e : j = t
  · rw [e, upd_same, upd_same]; exact hab
  · rw [upd_other _ _ _ _ e, upd_other _ _ _ _ e]; exact h j e

/-! `ok t`: `t` is a thread of the model; `inM`: the pcs at which the lock is held. `own_acquire` / `own_release`
conclude for the literal new owner word, as `{ hi with own := … }` wants it. -/

section owner
variable {α : Type} {inM : α → Bool} {ok : Nat → Prop} {mtx : Option Nat} {pc : Nat → α}
  {t0 : Nat} {p' : α}

theorem own_same (h : ∀ t, mtx = some t ↔ (ok t ∧ inM (pc t) = true)) (heq : inM p' = inM (pc t0)) :
    ∀ t, mtx = some t ↔ (ok t ∧ inM (upd pc t0 p' t) = true) :=
  upd_forall (P := fun t a => mtx = some t ↔ (ok t ∧ inM a = true)) (fun t _ => h t) (heq ▸ h t0)

theorem own_acquire (h : ∀ t, mtx = some t ↔ (ok t ∧ inM (pc t) = true)) (hn : mtx = none)
    (ht0 : ok t0) (hp : inM p' = true) :
    ∀ t, some t0 = some t ↔ (ok t ∧ inM (upd pc t0 p' t) = true) :=
  upd_forall (P := fun t a => some t0 = some t ↔ (ok t ∧ inM a = true))
    (fun t ht => ⟨fun e => absurd (Option.some.inj e).symm ht,
      fun e => nomatch hn ▸ (h t).2 e⟩)
    ⟨fun _ => ⟨ht0, hp⟩, fun _ => rfl⟩

theorem own_release (h : ∀ t, mtx = some t ↔ (ok t ∧ inM (pc t) = true)) (hh : mtx = some t0)
    (hp : inM p' = false) :
    ∀ t, (none : Option Nat) = some t ↔ (ok t ∧ inM (upd pc t0 p' t) = true) :=
  upd_forall (P := fun t a => (none : Option Nat) = some t ↔ (ok t ∧ inM a = true))
    (fun t ht => ⟨nofun, fun e => absurd (Option.some.inj (hh ▸ (h t).2 e)).symm ht⟩)
    ⟨nofun, fun e => nomatch hp ▸ e.2⟩

theorem outside_of_free (h : ∀ t, mtx = some t ↔ (ok t ∧ inM (pc t) = true)) (hn : mtx = none)
    {t : Nat} (ht : ok t) : inM (pc t) = false :=
  Bool.eq_false_iff.2 fun e => nomatch hn ▸ (h t).2 ⟨ht, e⟩

theorem free_of_outside (h : ∀ t, mtx = some t ↔ (ok t ∧ inM (pc t) = true))
    (ho : ∀ t, ok t → inM (pc t) = false) : mtx = none :=
  Option.eq_none_iff_forall_ne_some.2 fun t e => nomatch (ho t ((h t).1 e).1) ▸ ((h t).1 e).2

theorem holder_of_inside (h : ∀ t, mtx = some t ↔ (ok t ∧ inM (pc t) = true)) {t : Nat} (ht : ok t)
    (e : inM (pc t) = true) : mtx = some t :=
  (h t).2 ⟨ht, e⟩

/-- the same for a lock without owner word: at most one thread inside -/
theorem excl_upd {t : Nat}
    (h : ∀ a b, a ≠ t → b ≠ t → inM (pc a) = true → inM (pc b) = true → a = b)
    (hp : inM p' = true → ∀ a, a ≠ t → inM (pc a) = false) :
    ∀ a b, inM (upd pc t p' a) = true → inM (upd pc t p' b) = true → a = b := by
  intro a b ha hb
  rcases upd_elim (Q := fun x => inM x = true) ha with ⟨ea, ha⟩ | ⟨ea, ha⟩ <;>
    rcases upd_elim (Q := fun x => inM x = true) hb with ⟨eb, hb⟩ | ⟨eb, hb⟩
  · exact ea.trans eb.symm
  · exact absurd hb (by rw [hp ha b eb]; nofun)
  · exact absurd ha (by rw [hp hb a ea]; nofun)
  · exact h a b ea eb ha hb

end owner

def Ex {α : Type} (P : α → Prop) (pc : Nat → α) (n : Nat) : Prop := ∃ t, t < n ∧ P (pc t)

section ex
variable {α : Type} {P : α → Prop} {pc : Nat → α} {n t0 : Nat} {p' : α}

theorem Ex.new (h0 : t0 < n) (hp : P p') : Ex P (upd pc t0 p') n :=
  ⟨t0, h0, by rw [upd_same]; exact hp⟩

theorem Ex.keep (h : Ex P pc n) (hk : P (pc t0) → P p') : Ex P (upd pc t0 p') n :=
  let ⟨t, ht, hp⟩ := h
  ⟨t, ht, upd_intro (Q := P) (fun e => hk (e ▸ hp)) fun _ => hp⟩

theorem Ex.back (h : Ex P (upd pc t0 p') n) (hn : ¬ P p') : Ex P pc n :=
  let ⟨t, ht, hp⟩ := h
  ⟨t, ht, (upd_elim hp).elim (fun e => absurd e.2 hn) And.right⟩

end ex

/-- `S` sums `g` below its argument: the recursion by which the models and invariants count or sum over the indices
below a bound (threads: `cntP`, `pcount`, `sumTo`; the blocks of a pool: a `countP` over `List.range`) -/
def IsSum (S g : Nat → Nat) : Prop := S 0 = 0 ∧ ∀ n, S (n + 1) = S n + g n

namespace IsSum
variable {S S' g g' : Nat → Nat}

theorem congr (hS : IsSum S g) (hS' : IsSum S' g') (n : Nat) (h : ∀ i, i < n → g' i = g i) : S' n = S n := by
  induction n with
  | zero => rw [hS.1, hS'.1]
  | succ n ih => rw [hS.2, hS'.2, ih fun i hi => h i (Nat.lt_succ_of_lt hi), h n (Nat.lt_succ_self n)]

theorem zero (hS : IsSum S g) (n : Nat) (h : ∀ i, i < n → g i = 0) : S n = 0 := by
  induction n with
  | zero => exact hS.1
  | succ n ih => rw [hS.2, ih fun i hi => h i (Nat.lt_succ_of_lt hi), h n (Nat.lt_succ_self n)]

theorem upd1 (hS : IsSum S g) (hS' : IsSum S' g') {n t : Nat} (ht : t < n)
    (h : ∀ i, i < n → i ≠ t → g' i = g i) : S' n + g t = S n + g' t := by
  induction n with
  | zero => omega
  | succ n ih =>
    rw [hS.2, hS'.2]
    by_cases htn : t = n
    · subst htn
      rw [congr hS hS' t fun i hi => h i (by omega) (by omega)]
      omega
    · have := ih (by omega) fun i hi => h i (by omega)
      rw [h n (by omega) fun e => htn e.symm]
      omega

theorem upd {α : Type} {w : α → Nat} {f : Nat → α} {t n : Nat} {a : α}
    (hS : IsSum S fun i => w (f i)) (hS' : IsSum S' fun i => w (upd f t a i)) (ht : t < n) :
    S' n + w (f t) = S n + w a := by
  have := upd1 hS hS' ht fun i _ hi => by rw [upd_other _ _ _ _ hi]
  rwa [upd_same] at this

theorem le (hS : IsSum S g) (hS' : IsSum S' g') (n : Nat) (h : ∀ i, i < n → g i ≤ g' i) : S n ≤ S' n := by
  induction n with
  | zero => rw [hS.1, hS'.1]; exact Nat.le_refl 0
  | succ n ih =>
    rw [hS.2, hS'.2]
    exact Nat.add_le_add (ih fun i hi => h i (Nat.lt_succ_of_lt hi)) (h n (Nat.lt_succ_self n))

theorem lt (hS : IsSum S g) (hS' : IsSum S' g') {n t : Nat} (ht : t < n) (h : ∀ i, i < n → g i ≤ g' i)
    (hs : g t < g' t) : S n < S' n := by
  induction n with
  | zero => omega
  | succ n ih =>
    rw [hS.2, hS'.2]
    by_cases htn : t = n
    · subst htn
      have := le hS hS' t fun i hi => h i (by omega); omega
    · have := ih (by omega) fun i hi => h i (by omega); have := h n (by omega); omega

theorem term_le (hS : IsSum S g) {n t : Nat} (ht : t < n) : g t ≤ S n := by
  induction n with
  | zero => omega
  | succ n ih =>
    rw [hS.2]
    by_cases htn : t = n
    · subst htn; omega
    · have := ih (by omega); omega

theorem pos (hS : IsSum S g) {n : Nat} (h : 0 < S n) : ∃ i, i < n ∧ 0 < g i := by
  induction n with
  | zero => rw [hS.1] at h; omega
  | succ n ih =>
    rw [hS.2] at h
    by_cases hn : 0 < g n
    · exact ⟨n, by omega, hn⟩
    · obtain ⟨i, hi, hg⟩ := ih (by omega)
      exact ⟨i, by omega, hg⟩

end IsSum

/-! `F k i` is the lowest thread with `P` among `i, …, i+k-1`: the wake-one of the futex and condition-variable models,
given by its two equations since every model defines its own. -/

section first
variable {P : Nat → Prop} [DecidablePred P] {F : Nat → Nat → Option Nat}

theorem first_some (h0 : ∀ i, F 0 i = none) (hs : ∀ k i, F (k + 1) i = if P i then some i else F k (i + 1))
    {k i w : Nat} (h : F k i = some w) : P w ∧ i ≤ w ∧ w < i + k := by
  induction k generalizing i with
  | zero => rw [h0] at h; cases h
  | succ k ih =>
    rw [hs] at h
    split at h
    · cases h; exact ⟨‹_›, Nat.le_refl _, by omega⟩
    · have := ih h; exact ⟨this.1, by omega, by omega⟩

theorem first_none (hs : ∀ k i, F (k + 1) i = if P i then some i else F k (i + 1))
    {k i : Nat} (h : F k i = none) : ∀ u, i ≤ u → u < i + k → ¬ P u := by
  induction k generalizing i with
  | zero => intro u h1 h2; omega
  | succ k ih =>
    rw [hs] at h
    split at h
    · cases h
    · intro u h1 h2
      by_cases hu : u = i
      · exact hu ▸ ‹_›
      · exact ih h u (by omega) (by omega)

end first

theorem mem_merge {α : Type} [BEq α] [LawfulBEq α] {a b : List α} {x : α} :
    x ∈ a ++ b.filter (fun y => !a.contains y) ↔ x ∈ a ∨ x ∈ b := by
  rw [List.mem_append, List.mem_filter]
  constructor
  · exact fun h => h.imp_right And.left
  · intro h
    by_cases ha : x ∈ a
    · exact .inl ha
    · exact .inr ⟨h.resolve_left ha, by simpa using ha⟩

theorem mem_kmerge {a b : List Nat} {x : Nat} : x ∈ kmerge a b ↔ x ∈ a ∨ x ∈ b := mem_merge

/-- what one thread learns takes nothing from what anybody knew -/
theorem know_grows {α : Type} {know : Nat → List α} {t : Nat} {kn : List α} (h : know t ⊆ kn) :
    ∀ u, know u ⊆ upd know t kn u :=
  upd_forall (P := fun u l => know u ⊆ l) (fun _ _ _ h => h) h

/-- `Q` need only be preserved from reachable states: what was proved of those before (`P`) may be used -/
theorem Reach.inv_of {σ : Type} {step : σ → Tok → Option (σ × List String)} {init : σ} {P Q : σ → Prop}
    (hP : ∀ s, Reach step init s → P s) (h0 : Q init)
    (hstep : ∀ s t s' ev, P s → Q s → step s t = some (s', ev) → Q s') :
    ∀ s, Reach step init s → Q s := by
  intro s hr
  induction hr with
  | init => exact h0
  | step hr hs ih => exact hstep _ _ _ _ (hP _ hr) ih hs

end MgModel.Conc

theorem Nat.mod_inj_of_lt_add {a b n : Nat} (h : a % n = b % n) (hab : a ≤ b) (hbn : b < a + n) : a = b := by
  have h0 : (b - a) % n = 0 := Nat.sub_mod_eq_zero_of_mod_eq h.symm
  rw [Nat.mod_eq_of_lt (by omega)] at h0
  omega

/-- a history grows at its end -/
theorem List.pairwise_concat {α : Type} {R : α → α → Prop} {l : List α} {a : α} (hl : l.Pairwise R)
    (ha : ∀ b ∈ l, R b a) : (l ++ [a]).Pairwise R :=
  List.pairwise_append.mpr ⟨hl, List.pairwise_singleton _ _, fun b hb _ hc => List.mem_singleton.mp hc ▸ ha b hb⟩
