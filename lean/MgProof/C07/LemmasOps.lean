import MgProof.C07.Lemmas
/-!
# C07 — the operations, branch by branch

`accounting` gives the four space helpers in each layout. Every branch of the C code has one lemma:
what it does to `Inv` and to `abs`, and the `memcpy` bound it guarantees. Those whose layout
needs arithmetic state it with `omega`.
-/
namespace MgProof.C07
open MgModel.C07

/-- the "total 3 status" of the comment at the head of bytes_buffer.c -/
theorem layout (s : BB) : (s.r ≤ s.w ∧ s.r ≠ 0) ∨ (s.r ≤ s.w ∧ s.r = 0) ∨ s.w < s.r := by omega

theorem accounting (s : BB) :
    (s.r ≤ s.w ∧ contiguousReadable s = s.w - s.r ∧ jumpReadable s = 0 ∧
      (s.r ≠ 0 ∧ contiguousWritable s = s.c - s.w ∧ jumpWritable s = s.r - 1 ∨
       s.r = 0 ∧ contiguousWritable s = s.c - s.w - 1 ∧ jumpWritable s = 0)) ∨
    (s.w < s.r ∧ contiguousReadable s = s.t - s.r ∧ jumpReadable s = s.w ∧
      contiguousWritable s = s.r - s.w - 1 ∧ jumpWritable s = 0) := by
  unfold contiguousReadable jumpReadable contiguousWritable jumpWritable
  rcases layout s with ⟨hl, hr⟩ | ⟨hl, hr⟩ | hl
  · rw [if_pos hl, if_pos hl, if_pos hl, if_pos hl, if_pos hr, if_pos hr]
    exact .inl ⟨hl, rfl, rfl, .inl ⟨hr, rfl, rfl⟩⟩
  · rw [if_pos hl, if_pos hl, if_pos hl, if_pos hl, if_neg (not_not_intro hr),
      if_neg (not_not_intro hr)]
    exact .inl ⟨hl, rfl, rfl, .inr ⟨hr, rfl, rfl⟩⟩
  · have hn := Int.not_le.2 hl
    rw [if_neg hn, if_neg hn, if_neg hn, if_neg hn]
    exact .inr ⟨hl, rfl, rfl, rfl, rfl⟩

theorem abs_length {s : BB} (inv : Inv s) : ((abs s).length : Int) = readable s := by
  have hb := inv.bounds
  unfold readable
  rcases accounting s with ⟨hl, hcr, hjr, -⟩ | ⟨hl, hcr, hjr, -, -⟩
  · rw [abs_ring_flat hl, ring_length inv.r0 hl (by omega) (Int.le_refl 0) (by omega), hcr, hjr]
  · have := inv.wrap hl
    rw [abs_ring_wrap hl, ring_length inv.r0 this (by omega) inv.w0 (by omega), hcr, hjr]

theorem advanceW_eq (s : BB) (n : Int) : advanceW s n =
    { s with w := if s.w + n = s.c then 0 else s.w + n,
             t := if s.t < s.w + n then s.c else s.t } := by
  simp only [advanceW]
  split <;> split <;> rfl

theorem advanceW_wrap0 {s : BB} {n : Int} (h1 : ¬ s.t < s.w + n) (h2 : s.w + n = s.c) :
    advanceW s n = { s with w := 0 } := by
  rw [advanceW_eq, if_pos h2, if_neg h1]

theorem advanceW_c (s : BB) (n : Int) : (advanceW s n).c = s.c := by rw [advanceW_eq]

theorem clear_spec {s : BB} (inv : Inv s) :
    Inv (clear s) ∧ abs (clear s) = [] ∧ (clear s).c = s.c :=
  ⟨inv_empty inv.cpos inv.len, (abs_ring_flat (Int.le_refl 0)).trans (ring_nil _ _), rfl⟩

theorem refresh_eq {s : BB} (h : s.w = s.r) : refresh s = clear s := if_pos h

theorem refresh_ne {s : BB} (h : s.w ≠ s.r) : refresh s = s := if_neg h

theorem refresh_spec {s : BB} (inv : Inv s) :
    Inv (refresh s) ∧ abs (refresh s) = abs s ∧ (refresh s).c = s.c := by
  by_cases h : s.w = s.r
  · have ⟨inv', hab, hc⟩ := clear_spec inv
    rw [refresh_eq h]
    refine ⟨inv', ?_, hc⟩
    rw [hab, abs_ring_flat (Int.le_of_eq h.symm), h, ring_nil]
  · rw [refresh_ne h]
    exact ⟨inv, rfl, rfl⟩

theorem refresh_with_t (s : BB) (x : Int) :
    refresh { s with t := x } = { refresh s with t := if s.w = s.r then s.c else x } := by
  unfold refresh
  by_cases h : s.w = s.r <;> simp [h, clear]

/-! ## The writer's branches

Offsets are written `(0 : Int).toNat` and bounds `0 + |data| ≤ |buf|` where the offset is `0`:
the shape `wr_ok` takes and produces. -/

/-- `data` is stored at `w` and the writer advances over its first `k` bytes. `writer_move_n`
called with `ptr == buffer` because `w == 0` ("start or jump" in the C file) sets `w = k` without
the fix-up of `t` that `advanceW` does: hence `w'`, `t'` instead of `advanceW`, with `t'` free
where the layout does not read it. -/
theorem append_at_w {s : BB} (inv : Inv s) {data : List Byte} {k : Int} (hk0 : 0 ≤ k)
    (hk : k ≤ data.length) (hfit : (data.length : Int) ≤ contiguousWritable s) {w' t' : Int}
    (hw : w' = s.w + k ∧ w' < s.c ∨ w' = 0 ∧ s.w + k = s.c ∧ t' = s.c)
    (ht : 0 ≤ t' ∧ t' ≤ s.c ∧ (s.w < s.r → t' = s.t)) :
    s.w + data.length ≤ s.buf.length ∧ Inv ⟨s.c, w', s.r, t', store s.buf s.w.toNat data⟩ ∧
      abs ⟨s.c, w', s.r, t', store s.buf s.w.toNat data⟩ = abs s ++ data.take k.toNat := by
  have hi := inv.bounds
  have ht' := And.intro ht.1 ht.2.1
  rcases accounting s with ⟨hl, -, -, hcw⟩ | ⟨hl, -, -, hcw, -⟩
  · have ⟨hb, hrw, hr, hrc⟩ : s.w + data.length ≤ s.buf.length ∧ s.r ≤ s.w + k ∧
        (s.w + k = s.c → 0 < s.r) ∧ s.r ≤ s.c := by omega
    have hlen := istore_length (b := s.buf) (src := data) inv.w0 hb
    rcases hw with ⟨rfl, hwc⟩ | ⟨rfl, hc, rfl⟩
    · refine ⟨hb, inv.writer hlen ⟨Int.add_nonneg inv.w0 hk0, hwc⟩ ht'
        (fun h => absurd hrw (Int.not_le.2 h)), ?_⟩
      rw [abs_ring_flat hrw, abs_ring_flat hl]
      exact ring_store_end inv.r0 hl hb hk0 hk
    · refine ⟨hb, inv.writer hlen ⟨Int.le_refl 0, Int.lt_of_lt_of_le Int.zero_lt_one inv.cpos⟩ ht'
        (fun _ => hrc), ?_⟩
      rw [abs_ring_wrap (hr hc), abs_ring_flat hl, ← hc]
      exact ring_store_end inv.r0 hl hb hk0 hk
  · have hrt := inv.wrap hl
    obtain rfl := ht.2.2 hl
    obtain ⟨rfl, hwc, hb, hkr, hfr, hrb⟩ : w' = s.w + k ∧ w' < s.c ∧
        s.w + data.length ≤ s.buf.length ∧ s.w + k < s.r ∧ s.w + data.length ≤ s.r ∧
        s.r ≤ s.buf.length := by omega
    have hlen := istore_length (b := s.buf) (src := data) inv.w0 hb
    refine ⟨hb, inv.writer hlen ⟨Int.add_nonneg inv.w0 hk0, hwc⟩ ht' (fun _ => hrt), ?_⟩
    rw [abs_ring_wrap hkr, abs_ring_wrap hl]
    exact ring_store_front inv.w0 hfr hrb hk0 hk

theorem advanceW_append {s : BB} (inv : Inv s) {data : List Byte} {k : Int} (hk0 : 0 ≤ k)
    (hk : k ≤ data.length) (hfit : (data.length : Int) ≤ contiguousWritable s) :
    s.w + data.length ≤ s.buf.length ∧
      Inv (advanceW { s with buf := store s.buf s.w.toNat data } k) ∧
      abs (advanceW { s with buf := store s.buf s.w.toNat data } k) =
        abs s ++ data.take k.toNat := by
  have hi := inv.bounds
  have h : s.w + k ≤ s.c ∧ (s.w < s.r → s.w + k ≤ s.t) := by
    have := accounting s
    have := inv.wrap
    omega
  rw [advanceW_eq]
  exact append_at_w inv hk0 hk hfit (by simp only; omega) (by simp only; omega)

/-- the jump: `data` goes to `[0, |data|)` and `w` becomes the mark -/
theorem jump_to_front {s : BB} (inv : Inv s) {data : List Byte} {k : Int} (hk0 : 0 ≤ k)
    (hk : k ≤ data.length) (hcw : contiguousWritable s < data.length)
    (hfit : (data.length : Int) ≤ jumpWritable s) :
    0 + (data.length : Int) ≤ s.buf.length ∧ 0 < s.w ∧
      Inv ⟨s.c, k, s.r, s.w, store s.buf (0 : Int).toNat data⟩ ∧
      abs ⟨s.c, k, s.r, s.w, store s.buf (0 : Int).toNat data⟩ = abs s ++ data.take k.toNat := by
  have hi := inv.bounds
  obtain ⟨hl, hb, hfr, hkr, hkc, hrb, hw⟩ : s.r ≤ s.w ∧ 0 + (data.length : Int) ≤ s.buf.length ∧
      0 + (data.length : Int) ≤ s.r ∧ k < s.r ∧ k < s.c ∧ s.r ≤ s.buf.length ∧ 0 < s.w := by
    have := accounting s
    omega
  have hlen := istore_length (b := s.buf) (src := data) (Int.le_refl 0) hb
  refine ⟨hb, hw, inv.writer hlen ⟨hk0, hkc⟩ ⟨inv.w0, Int.le_of_lt inv.wc⟩ (fun _ => hl), ?_⟩
  rw [abs_ring_wrap hkr, abs_ring_flat hl, ← ring_store_front (Int.le_refl 0) hfr hrb hk0 hk,
    Int.zero_add]

theorem cw_wrapped {c w r t : Int} {b : List Byte} (h : w < r) :
    contiguousWritable ⟨c, w, r, t, b⟩ = r - w - 1 := if_neg (Int.not_le.2 h)

/-- the two-piece `write`: `d1` fills `[w, c)`, which wraps the writer to `0` with the mark at `c`;
`d2` is then appended at the front -/
theorem split_write {s : BB} (inv : Inv s) {d1 d2 : List Byte}
    (h1 : d1.length = (contiguousWritable s).toNat) (h2 : 0 < d2.length)
    (h3 : (d2.length : Int) ≤ jumpWritable s) :
    0 < contiguousWritable s ∧ s.w + (d1.length : Int) ≤ s.buf.length ∧
    0 + (d2.length : Int) ≤ (store s.buf s.w.toNat d1).length ∧
    Inv ⟨s.c, d2.length, s.r, s.c, store (store s.buf s.w.toNat d1) (0 : Int).toNat d2⟩ ∧
      abs ⟨s.c, d2.length, s.r, s.c, store (store s.buf s.w.toNat d1) (0 : Int).toNat d2⟩ =
        abs s ++ (d1 ++ d2) := by
  have hi := inv.bounds
  -- `r - 0 - 1`: the space in front of the reader once the writer stands at `0` (`cw_wrapped`)
  obtain ⟨hl, hr, hm0, h1, hc, hd2, hd2c, hc0⟩ : s.r ≤ s.w ∧ 0 < s.r ∧ 0 < contiguousWritable s ∧
      (d1.length : Int) = contiguousWritable s ∧ s.w + d1.length = s.c ∧
      (d2.length : Int) ≤ s.r - 0 - 1 ∧ (d2.length : Int) < s.c ∧ 0 ≤ s.c := by
    have := accounting s
    omega
  have ⟨hb1, inv1, hab1⟩ := append_at_w inv (Int.natCast_nonneg _) (Int.le_refl _)
    (Int.le_of_eq h1) (.inr ⟨rfl, hc, rfl⟩)
    ⟨hc0, Int.le_refl s.c, fun h => absurd hl (Int.not_le.2 h)⟩
  have ⟨hb2, inv2, hab2⟩ := append_at_w inv1 (Int.natCast_nonneg _) (Int.le_refl _)
    ((cw_wrapped hr).symm ▸ hd2) (.inl ⟨(Int.zero_add _).symm, hd2c⟩)
    ⟨hc0, Int.le_refl s.c, fun _ => rfl⟩
  rw [take_length_toNat] at hab1 hab2
  exact ⟨hm0, hb1, hb2, inv2, by rw [hab2, hab1, List.append_assoc]⟩

theorem consume {s : BB} (inv : Inv s) {n : Int} (hn : 0 ≤ n) (h : n ≤ contiguousReadable s) :
    rd s s.r n = .ok (slice s.buf s.r.toNat n.toNat) ∧
      ((slice s.buf s.r.toNat n.toNat).length : Int) = n ∧
      Inv { s with r := s.r + n } ∧
      abs s = slice s.buf s.r.toNat n.toNat ++ abs { s with r := s.r + n } := by
  have hi := inv.bounds
  rcases accounting s with ⟨hl, hcr, -, -⟩ | ⟨hl, hcr, -, -, -⟩
  · have ⟨hb, hw⟩ : s.r + n ≤ s.buf.length ∧ s.r + n ≤ s.w := by omega
    refine ⟨rd_ok inv.r0 hn hb, isl_length inv.r0 hn hb,
      inv.reader (Int.add_nonneg inv.r0 hn) (fun h' => absurd hw (Int.not_le.2 h')), ?_⟩
    rw [abs_ring_flat hw, abs_ring_flat hl]
    exact ring_pop inv.r0 hn hw
  · have hrt := inv.wrap hl
    have ⟨hb, ht, hw⟩ : s.r + n ≤ s.buf.length ∧ s.r + n ≤ s.t ∧ s.w < s.r + n := by omega
    refine ⟨rd_ok inv.r0 hn hb, isl_length inv.r0 hn hb,
      inv.reader (Int.add_nonneg inv.r0 hn) (fun _ => ht), ?_⟩
    rw [abs_ring_wrap hw, abs_ring_wrap hl]
    exact ring_pop inv.r0 hn ht

/-- `s2` of `read` -/
theorem wrap_at_mark {s : BB} (inv : Inv s) :
    Inv (if s.r = s.t ∧ s.r > s.w then { s with r := 0 } else s) ∧
      abs (if s.r = s.t ∧ s.r > s.w then { s with r := 0 } else s) = abs s ∧
      (if s.r = s.t ∧ s.r > s.w then { s with r := 0 } else s).c = s.c := by
  split
  next h =>
    refine ⟨inv.reader (Int.le_refl 0) (fun h' => absurd h' (Int.not_lt.2 inv.w0)), ?_, rfl⟩
    rw [abs_ring_flat inv.w0, abs_ring_wrap h.2, h.1, ring_wrap]
  next => exact ⟨inv, rfl, rfl⟩

theorem copySplit_ok {s : BB} {cr rem : Int} (hr : 0 ≤ s.r) (hcr : 0 ≤ cr) (hrem : 0 ≤ rem)
    (h1 : s.r + cr ≤ s.buf.length) (h2 : rem ≤ s.buf.length) :
    copySplit s cr rem = .ok (slice s.buf s.r.toNat cr.toNat ++ slice s.buf 0 rem.toNat) := by
  unfold copySplit
  rw [rd_ok (Int.le_refl 0) hrem (by omega)]
  by_cases h : cr > 0
  · rw [if_pos h, rd_ok hr hcr h1]
    rfl
  · obtain rfl : cr = 0 := by omega
    rw [if_neg h, if_pos rfl]
    rfl

/-- the two-piece read: all of `[r, t)` and the first `n - (t - r)` bytes at the front -/
theorem consume_split {s : BB} (inv : Inv s) {n : Int} (h1 : contiguousReadable s < n)
    (h2 : n ≤ contiguousReadable s + jumpReadable s) :
    ∃ d, copySplit s (contiguousReadable s) (n - contiguousReadable s) = .ok d ∧
      (d.length : Int) = n ∧ Inv { s with r := n - contiguousReadable s } ∧
      abs s = d ++ abs { s with r := n - contiguousReadable s } := by
  have hi := inv.bounds
  rcases accounting s with ⟨hl, hcr, hjr, -⟩ | ⟨hl, hcr, hjr, -, -⟩
  · omega
  · have hrt := inv.wrap hl
    rw [hcr] at h1 h2 ⊢
    rw [hjr] at h2
    have ⟨ht, hm0, hm, hmb, hcr0, hrt'⟩ : s.t ≤ s.buf.length ∧ 0 ≤ n - (s.t - s.r) ∧
        n - (s.t - s.r) ≤ s.w ∧ n - (s.t - s.r) ≤ s.buf.length ∧ 0 ≤ s.t - s.r ∧
        s.r + (s.t - s.r) ≤ s.buf.length := by omega
    refine ⟨ring s.buf s.r s.t (n - (s.t - s.r)), copySplit_ok inv.r0 hcr0 hm0 hrt' hmb, ?_,
      inv.reader hm0 (fun h => absurd hm (Int.not_le.2 h)), ?_⟩
    · rw [ring_length inv.r0 hrt ht hm0 hmb]
      omega
    · rw [abs_ring_flat hm, abs_ring_wrap hl]
      exact ring_split hm0 hm

/-- the end of every successful read: `refresh`, and `d` / the rest as the specification's
`take n` / `drop n` -/
theorem delivered {s s1 : BB} {d : List Byte} {n : Int} (inv1 : Inv s1)
    (hab : abs s = d ++ abs s1) (hd : (d.length : Int) = n) :
    Inv (refresh s1) ∧ (refresh s1).c = s1.c ∧ n ≤ (abs s).length ∧
      (abs s).take n.toNat = d ∧ abs (refresh s1) = (abs s).drop n.toNat := by
  have ⟨inv', hab', hc⟩ := refresh_spec inv1
  have hn : n.toNat = d.length := by rw [← hd, Int.toNat_natCast]
  rw [hab', hab, hn, List.length_append, List.take_left, List.drop_left]
  exact ⟨inv', hc, by omega, rfl, rfl⟩

/-! ## The operations

`unfold f; simp only` exposes the body of a model function and removes its `let`s. -/

theorem write_spec {s : BB} (inv : Inv s) (src : List Byte) :
    ∃ s' b, write s src = .ok (s', b) ∧ Inv s' ∧ s'.c = s.c ∧
      (b = true ↔ (src.length : Int) ≤ writable s) ∧
      (b = true → abs s' = abs s ++ src) ∧ (b = false → s' = s) := by
  have hn := Int.natCast_nonneg src.length
  have hjw0 : 0 ≤ jumpWritable s := by
    have := accounting s
    have := inv.r0
    omega
  unfold write writable
  simp only
  by_cases h1 : contiguousWritable s ≥ src.length
  · have ⟨hb, inv', hab⟩ := advanceW_append inv hn (Int.le_refl _) h1
    rw [take_length_toNat] at hab
    rw [if_pos h1, wr_ok inv.w0 hb]
    exact ⟨_, true, rfl, inv', advanceW_c _ _,
      ⟨fun _ => Int.le_trans h1 (Int.le_add_of_nonneg_right hjw0), fun _ => rfl⟩,
      fun _ => hab, nofun⟩
  · rw [if_neg h1]
    by_cases h2 : contiguousWritable s + jumpWritable s < src.length
    · rw [if_pos h2]
      exact ⟨s, false, rfl, inv, rfl, ⟨nofun, fun h => absurd h (Int.not_le.2 h2)⟩, nofun,
        fun _ => rfl⟩
    · rw [if_neg h2]
      by_cases h3 : jumpWritable s ≥ src.length
      · have ⟨hb, _, inv', hab⟩ := jump_to_front inv hn (Int.le_refl _) (Int.not_le.1 h1) h3
        rw [take_length_toNat] at hab
        rw [if_pos h3, wr_ok (s := { s with t := s.w }) (Int.le_refl 0) hb]
        exact ⟨_, true, rfl, inv', rfl, ⟨fun _ => Int.not_lt.1 h2, fun _ => rfl⟩,
          fun _ => hab, nofun⟩
      · -- `src` is cut after `cw` bytes, as the C code does
        have hmn : (contiguousWritable s).toNat ≤ src.length :=
          Int.toNat_le.2 (Int.le_of_lt (Int.not_le.1 h1))
        have ⟨hm, hb1, hb2, inv', hab⟩ := split_write inv
          (d1 := src.take (contiguousWritable s).toNat) (d2 := src.drop (contiguousWritable s).toNat)
          (by rw [List.length_take, Nat.min_eq_left hmn]) (by rw [List.length_drop]; omega)
          (by rw [List.length_drop]; omega)
        have hld : ((src.drop (contiguousWritable s).toNat).length : Int)
            = src.length - contiguousWritable s := by
          rw [List.length_drop, Int.natCast_sub hmn, Int.toNat_of_nonneg (Int.le_of_lt hm)]
        rw [List.take_append_drop, hld] at hab
        rw [hld] at inv'
        -- the second `wr_bind` gets its state and bound as side goals: with `hb2` given here,
        -- `rw` unfolds `store` to find the state
        rw [if_neg h3, if_pos hm, wr_bind (s := { s with t := s.c }) _ inv.w0 hb1, wr_bind]
        · exact ⟨_, true, rfl, inv', rfl, ⟨fun _ => Int.not_lt.1 h2, fun _ => rfl⟩, fun _ => hab,
            nofun⟩
        · exact Int.le_refl 0
        · exact hb2

theorem read_spec {s : BB} (inv : Inv s) {n : Int} (hn : 0 ≤ n) :
    ∃ s' o, read s n = .ok (s', o) ∧ Inv s' ∧ s'.c = s.c ∧
      (n ≤ (abs s).length ∧ o = some ((abs s).take n.toNat) ∧ abs s' = (abs s).drop n.toNat ∨
       ((abs s).length : Int) < n ∧ o = none ∧ s' = s) := by
  unfold MgModel.C07.read
  simp only
  by_cases h1 : contiguousReadable s ≥ n
  · have ⟨hrd, hd, inv1, hab⟩ := consume inv hn h1
    have ⟨inv2, hab2, hc2⟩ := wrap_at_mark inv1
    have ⟨inv3, hc3, hle, htk, hdr⟩ := delivered inv2 (hab2 ▸ hab) hd
    rw [if_pos h1, hrd]
    exact ⟨_, _, rfl, inv3, hc3.trans hc2, .inl ⟨hle, by rw [htk], hdr⟩⟩
  · rw [if_neg h1]
    by_cases h2 : contiguousReadable s + jumpReadable s < n
    · rw [if_pos h2]
      exact ⟨s, none, rfl, inv, rfl,
        .inr ⟨Int.lt_of_le_of_lt (Int.le_of_eq (abs_length inv)) h2, rfl, rfl⟩⟩
    · have ⟨d, hcs, hd, inv1, hab⟩ := consume_split inv (Int.not_le.1 h1) (Int.not_lt.1 h2)
      have ⟨inv3, hc3, hle, htk, hdr⟩ := delivered inv1 hab hd
      rw [if_neg h2, hcs]
      exact ⟨_, _, rfl, inv3, hc3, .inl ⟨hle, by rw [htk], hdr⟩⟩

theorem fetch_eq_read (s : BB) (n : Int) : fetch s n = (·.2) <$> MgModel.C07.read s n := by
  unfold fetch MgModel.C07.read
  simp only
  split
  · cases rd s s.r n <;> rfl
  · split
    · rfl
    · cases copySplit s (contiguousReadable s) (n - contiguousReadable s) <;> rfl

theorem fetch_spec {s : BB} (inv : Inv s) {n : Int} (hn : 0 ≤ n) :
    ∃ o, fetch s n = .ok o ∧
      (n ≤ (abs s).length ∧ o = some ((abs s).take n.toNat) ∨
       ((abs s).length : Int) < n ∧ o = none) := by
  obtain ⟨s', o, h, -, -, hh⟩ := read_spec inv hn
  refine ⟨o, by rw [fetch_eq_read, h]; rfl, ?_⟩
  rcases hh with ⟨hle, ho, -⟩ | ⟨hlt, ho, -⟩
  · exact .inl ⟨hle, ho⟩
  · exact .inr ⟨hlt, ho⟩

theorem rz_spec {s : BB} (inv : Inv s) {n k : Int} (hn : 0 ≤ n) (hk0 : 0 ≤ k) (hk : k ≤ n) :
    readerFc s n = none ∨
    (readerFc s n = some s.r ∧ rd s s.r n = .ok ((abs s).take n.toNat) ∧
      (readerMove s k).2 = true ∧ Inv (readerMove s k).1 ∧ (readerMove s k).1.c = s.c ∧
      abs (readerMove s k).1 = (abs s).drop k.toNat) := by
  unfold readerFc readerMove
  by_cases h1 : contiguousReadable s ≥ n
  · -- at `n` for the bytes `reader_fc` exposes, at `k` for the state `reader_move` leaves
    have ⟨hrd, hd, inv1, hab⟩ := consume inv hn h1
    have ⟨_, hd', inv1', hab'⟩ := consume inv hk0 (Int.le_trans hk h1)
    have ⟨_, _, _, htk, _⟩ := delivered inv1 hab hd
    have ⟨inv3, hc3, _, _, hdr⟩ := delivered inv1' hab' hd'
    rw [if_pos h1, if_pos (Int.le_trans hk h1)]
    exact .inr ⟨rfl, by rw [hrd, htk], rfl, inv3, hc3, hdr⟩
  · rw [if_neg h1]
    exact .inl rfl

theorem wz_spec {s : BB} (inv : Inv s) (data : List Byte) {k : Int} (hk0 : 0 ≤ k)
    (hk : k ≤ data.length) :
    writerFc s data.length = none ∨
    ∃ off s1 s', writerFc s data.length = some off ∧ wr s off data = .ok s1 ∧
      writerMoveN s1 off k = (s', true) ∧ Inv s' ∧ s'.c = s.c ∧
      abs s' = abs s ++ data.take k.toNat := by
  unfold writerFc
  simp only
  by_cases h1 : contiguousWritable s ≥ data.length
  · rw [if_pos h1]
    refine .inr ⟨s.w, { s with buf := store s.buf s.w.toNat data }, ?_⟩
    unfold writerMoveN
    by_cases hw : s.w = 0
    · -- "start": `ptr == buffer` without a jump, `w = k` and `t` stays
      have hkc : k = s.w + k ∧ k < s.c := by
        have := accounting s
        have := inv.bounds
        have := inv.wrap
        omega
      have ⟨hb, inv', hab⟩ := append_at_w inv hk0 hk h1 (.inl hkc) ⟨inv.t0, inv.tc, fun _ => rfl⟩
      rw [if_pos hw, if_neg (Int.not_lt.2 (Int.le_of_eq hw))]
      exact ⟨_, rfl, wr_ok inv.w0 hb, rfl, inv', rfl, hab⟩
    · have ⟨hb, inv', hab⟩ := advanceW_append inv hk0 hk h1
      rw [if_neg hw]
      exact ⟨_, rfl, wr_ok inv.w0 hb, rfl, inv', advanceW_c _ _, hab⟩
  · rw [if_neg h1]
    by_cases h3 : jumpWritable s ≥ data.length
    · have ⟨hb, hw, inv', hab⟩ := jump_to_front inv hk0 hk (Int.not_le.1 h1) h3
      rw [if_pos h3]
      refine .inr ⟨0, { s with buf := store s.buf (0 : Int).toNat data }, ?_⟩
      unfold writerMoveN
      rw [if_pos rfl, if_pos hw]
      exact ⟨_, rfl, wr_ok (Int.le_refl 0) hb, rfl, inv', rfl, hab⟩
    · rw [if_neg h3]
      exact .inl rfl

theorem wd_spec {s : BB} (inv : Inv s) (data : List Byte) :
    writerFc s data.length = none ∨
    ∃ off s1 s', writerFc s data.length = some off ∧ wr s off data = .ok s1 ∧
      writerMove s1 data.length = (s', true) ∧ Inv s' ∧ s'.c = s.c ∧ abs s' = abs s ++ data := by
  have hn := Int.natCast_nonneg data.length
  unfold writerFc
  simp only
  by_cases h1 : contiguousWritable s ≥ data.length
  · have ⟨hb, inv', hab⟩ := advanceW_append inv hn (Int.le_refl _) h1
    rw [take_length_toNat] at hab
    rw [if_pos h1]
    exact .inr ⟨_, _, _, rfl, wr_ok inv.w0 hb, if_pos h1, inv', advanceW_c _ _, hab⟩
  · rw [if_neg h1]
    by_cases h3 : jumpWritable s ≥ data.length
    · have ⟨hb, _, inv', hab⟩ := jump_to_front inv hn (Int.le_refl _) (Int.not_le.1 h1) h3
      rw [take_length_toNat] at hab
      rw [if_pos h3]
      exact .inr ⟨_, _, _, rfl, wr_ok (Int.le_refl 0) hb, (if_neg h1).trans (if_pos h3),
        inv', rfl, hab⟩
    · rw [if_neg h3]
      exact .inl rfl

end MgProof.C07
