import MgProof.C07.LemmasOps
/-!
# C07 — property theorems (bytes buffer, muggle/c/memory/bytes_buffer.c)

Statement (properties.jsonl): for every sequence of operations on a bytes buffer
(copying write/read/fetch and the zero-copy find-contiguous / advance pairs on both
sides, including partial advances) the bytes obtained by the reader are exactly the
bytes accepted from the writer, in the same order, each exactly once; `readable()`
always equals bytes accepted minus bytes consumed; an operation fails only when it
lacks the space or data it needs and then changes nothing; no operation touches
memory outside the buffer.

Quantifiers: every capacity `c ≥ 1`, every state satisfying `Inv` (hence every reachable state:
`reachable_inv`), every operation list with sizes `≥ 0` and advances `0 ≤ k ≤ n` (`Op.Valid`).

The model is the code with fixes/C07-stale-truncation.patch applied. Without the patch the
property is FALSE: `stale_truncation_duplicates`.
-/
namespace MgProof.C07
open MgModel.C07

theorem refines_fail {s : BB} (inv : Inv s) {op : Op} (hst : step s op = .ok (s, .fail))
    (hsp : specStep (abs s) false op = (abs s, .fail)) :
    ∃ s' res, step s op = .ok (s', res) ∧ Inv s' ∧ s'.c = s.c ∧
      specStep (abs s) res.isOk op = (abs s', res) ∧ (res = .fail → s' = s) :=
  ⟨s, .fail, hst, inv, rfl, hsp, fun _ => rfl⟩

/-- **Clauses "bytes obtained = bytes accepted, in order, once", "fails … then changes
nothing", "no operation touches memory outside the buffer" — one operation.**
`step` returns `.ok`: every `memcpy` of the model is bounds-checked against the malloc'ed
block. -/
theorem step_refines {s : BB} (inv : Inv s) (op : Op) (hv : op.Valid) :
    ∃ s' res, step s op = .ok (s', res) ∧ Inv s' ∧ s'.c = s.c ∧
      specStep (abs s) res.isOk op = (abs s', res) ∧ (res = .fail → s' = s) := by
  cases op with
  | write src =>
    obtain ⟨s', b, h, inv', hc, _, hab, hun⟩ := write_spec inv src
    cases b with
    | true =>
      refine ⟨s', .ok [], ?_, inv', hc, ?_, nofun⟩
      · simp only [step, h]; rfl
      · simp only [specStep, Res.isOk, hab rfl, if_true]
    | false =>
      obtain rfl := hun rfl
      exact refines_fail inv (by simp only [step, h]; rfl) rfl
  | read n =>
    obtain ⟨s', o, h, inv', hc, hh⟩ := read_spec inv (n := n) hv
    rcases hh with ⟨hle, rfl, hab⟩ | ⟨hlt, rfl, hs⟩
    · refine ⟨s', .ok ((abs s).take n.toNat), ?_, inv', hc, ?_, nofun⟩
      · simp only [step, h]; rfl
      · simp only [specStep, hle, hab, if_true]
    · subst hs
      exact refines_fail inv (by simp only [step, h]; rfl) (if_neg (Int.not_le.2 hlt))
  | fetch n =>
    obtain ⟨o, h, hh⟩ := fetch_spec inv (n := n) hv
    rcases hh with ⟨hle, rfl⟩ | ⟨hlt, rfl⟩
    · refine ⟨s, .ok ((abs s).take n.toNat), ?_, inv, rfl, ?_, nofun⟩
      · simp only [step, h]; rfl
      · simp only [specStep, hle, if_true]
    · exact refines_fail inv (by simp only [step, h]; rfl) (if_neg (Int.not_le.2 hlt))
  | wz data k =>
    obtain ⟨hk0, hk⟩ : 0 ≤ k ∧ k ≤ data.length := hv
    have hpre : ¬ (k < 0 ∨ k > data.length) := by omega
    rcases wz_spec inv data hk0 hk with hfc | ⟨off, s1, s', hfc, hwr, hmv, inv', hc, hab⟩
    · exact refines_fail inv (by simp only [step, hpre, hfc, if_false]; rfl) rfl
    · refine ⟨s', .ok [], ?_, inv', hc, ?_, nofun⟩
      · simp only [step, hpre, hfc, hwr, if_false]; simp only [bind, Except.bind, hmv]; rfl
      · simp only [specStep, Res.isOk, hab, if_true]
  | wd data =>
    rcases wd_spec inv data with hfc | ⟨off, s1, s', hfc, hwr, hmv, inv', hc, hab⟩
    · exact refines_fail inv (by simp only [step, hfc]; rfl) rfl
    · refine ⟨s', .ok [], ?_, inv', hc, ?_, nofun⟩
      · simp only [step, hfc, hwr]; simp only [bind, Except.bind, hmv]; rfl
      · simp only [specStep, Res.isOk, hab, if_true]
  | rz n k =>
    obtain ⟨hn, hk0, hk⟩ : 0 ≤ n ∧ 0 ≤ k ∧ k ≤ n := hv
    rcases rz_spec inv hn hk0 hk with hfc | ⟨hfc, hrd, hb, inv', hc, hab⟩
    · exact refines_fail inv (by simp only [step, hfc]; rfl) rfl
    · refine ⟨(readerMove s k).1, .ok ((abs s).take n.toNat), ?_, inv', hc, ?_, nofun⟩
      · simp only [step, hfc, hrd]; simp only [bind, Except.bind, hb]; rfl
      · simp only [specStep, Res.isOk, hab, if_true]
  | clear =>
    obtain ⟨inv', hab, hc⟩ := clear_spec inv
    exact ⟨clear s, .ok [], rfl, inv', hc, by simp only [specStep, hab], nofun⟩

/-- **Main refinement theorem (every history).** No out-of-block access; the bytes returned and
the verdicts of `read`/`fetch` are those of the byte-queue specification started at `abs s`
(the other verdicts are an input of the specification; they are characterised below).
`specRun` stops at the shorter list, so without `rs.length = ops.length` the last conjunct would
also hold of a truncated `rs`. -/
theorem run_refines (ops : List Op) : ∀ {s : BB}, Inv s → (∀ op ∈ ops, op.Valid) →
    ∃ s' rs, run s ops = .ok (s', rs) ∧ Inv s' ∧ s'.c = s.c ∧ rs.length = ops.length ∧
      specRun (abs s) ops rs = (abs s', rs) := by
  induction ops with
  | nil => intro s inv _; exact ⟨s, [], rfl, inv, rfl, rfl, rfl⟩
  | cons op ops ih =>
    intro s inv hv
    obtain ⟨s1, x, h1, inv1, hc1, hsp, _⟩ := step_refines inv op (hv op (by simp))
    obtain ⟨s2, xs, h2, inv2, hc2, hlen, hsr⟩ := ih inv1 (fun o ho => hv o (by simp [ho]))
    refine ⟨s2, x :: xs, ?_, inv2, by omega, by simp [hlen], ?_⟩
    · simp [run, h1, h2, bind, Except.bind, pure, Except.pure]
    · simp [specRun, hsp, hsr]

theorem reachable_inv {c : Int} (hc : 1 ≤ c) (ops : List Op) (hv : ∀ op ∈ ops, op.Valid) :
    ∃ s0 s' rs, init c = some s0 ∧ run s0 ops = .ok (s', rs) ∧ Inv s' ∧ s'.c = c ∧
      specRun [] ops rs = (abs s', rs) := by
  obtain ⟨s0, h0, inv0, hab0, hc0⟩ := inv_init hc
  obtain ⟨s', rs, h, inv', hc', _, hsr⟩ := run_refines ops inv0 hv
  exact ⟨s0, s', rs, h0, h, inv', by omega, by rw [← hab0]; exact hsr⟩

/-- **Clause "`readable()` always equals bytes accepted minus bytes consumed"**, first half:
`muggle_bytes_buffer_readable` is the length of the queue. The second half is
`readable_eq_accepted_minus_consumed`. -/
theorem readable_eq_queue_length {s : BB} (inv : Inv s) : readable s = (abs s).length :=
  (abs_length inv).symm

theorem specStep_conserves_departed (q : List Byte) (ok : Bool) (op : Op) (hv : op.Valid) :
    q ++ accepted (specStep q ok op).2 op =
      departed q (specStep q ok op).2 op ++ (specStep q ok op).1 := by
  cases op with
  | write src => cases ok <;> simp [specStep, accepted, departed, obtained, Res.isOk]
  | read n =>
    by_cases h : n ≤ q.length <;> simp [specStep, accepted, departed, obtained, h]
  | fetch n =>
    by_cases h : n ≤ q.length <;> simp [specStep, accepted, departed, obtained, h]
  | wz data k => cases ok <;> simp [specStep, accepted, departed, obtained, Res.isOk]
  | wd data => cases ok <;> simp [specStep, accepted, departed, obtained, Res.isOk]
  | rz n k =>
    obtain ⟨hn, hk0, hk⟩ : 0 ≤ n ∧ 0 ≤ k ∧ k ≤ n := hv
    cases ok with
    | false => simp [specStep, accepted, departed, obtained]
    | true =>
      simp only [specStep, accepted, departed, obtained, if_true, List.append_nil]
      rw [List.take_take, Nat.min_eq_left (by omega), List.take_append_drop]
  | clear => simp [specStep, accepted, departed]

/-- conservation is a property of the specification alone -/
theorem specRun_conserves (ops : List Op) : ∀ (q : List Byte) (rs : List Res) {q' : List Byte},
    (∀ op ∈ ops, op.Valid) → specRun q ops rs = (q', rs) →
    q ++ acceptedAll ops rs = departedAll q ops rs ++ q' := by
  induction ops with
  | nil =>
    intro q rs q' _ h
    obtain rfl : q = q' := by cases rs <;> exact congrArg Prod.fst h
    simp [acceptedAll, departedAll]
  | cons op ops ih =>
    intro q rs q' hv h
    cases rs with
    | nil =>
      obtain rfl : q = q' := congrArg Prod.fst h
      simp [acceptedAll, departedAll]
    | cons r rs =>
      rcases hs : specStep q r.isOk op with ⟨q1, x⟩
      rcases hr : specRun q1 ops rs with ⟨q2, xs⟩
      simp only [specRun, hs, hr, Prod.mk.injEq, List.cons.injEq] at h
      obtain ⟨rfl, rfl, rfl⟩ := h
      have hstep := specStep_conserves_departed q x.isOk op (hv op (by simp))
      rw [hs] at hstep
      simp only [acceptedAll, departedAll, hs]
      rw [← List.append_assoc, hstep, List.append_assoc,
        ih q1 xs (fun o ho => hv o (by simp [ho])) hr, List.append_assoc]

theorem departedAll_eq_obtainedAll (ops : List Op) : ∀ (q : List Byte) (rs : List Res),
    (∀ op ∈ ops, op ≠ .clear) → departedAll q ops rs = obtainedAll ops rs := by
  induction ops with
  | nil => intro q rs _; simp [departedAll, obtainedAll]
  | cons op ops ih =>
    intro q rs hnc
    cases rs with
    | nil => simp [departedAll, obtainedAll]
    | cons r rs =>
      have hd : departed q r op = obtained r op := by
        cases op with
        | clear => exact absurd rfl (hnc _ List.mem_cons_self)
        | _ => rfl
      simp only [departedAll, obtainedAll, hd,
        ih _ rs (fun o ho => hnc o (List.mem_cons_of_mem _ ho))]

theorem stream_conservation_with_clear (ops : List Op) : ∀ {s : BB}, Inv s →
    (∀ op ∈ ops, op.Valid) →
    ∃ s' rs, run s ops = .ok (s', rs) ∧
      abs s ++ acceptedAll ops rs = departedAll (abs s) ops rs ++ abs s' := by
  intro s inv hv
  obtain ⟨s', rs, h, _, _, _, hsr⟩ := run_refines ops inv hv
  exact ⟨s', rs, h, specRun_conserves ops _ rs hv hsr⟩

/-- **Clause "the bytes obtained by the reader are exactly the bytes accepted from the
writer, in the same order, each exactly once" — every history.** Without `clear`:
queued at the start ++ accepted = obtained ++ still queued. From `init` the first term is
empty, so the reader's stream is a prefix of the writer's: nothing lost, duplicated or
reordered. -/
theorem stream_conservation (ops : List Op) : ∀ {s : BB}, Inv s → (∀ op ∈ ops, op.Valid) →
    (∀ op ∈ ops, op ≠ .clear) →
    ∃ s' rs, run s ops = .ok (s', rs) ∧
      abs s ++ acceptedAll ops rs = obtainedAll ops rs ++ abs s' := by
  intro s inv hv hnc
  obtain ⟨s', rs, h, hcons⟩ := stream_conservation_with_clear ops inv hv
  exact ⟨s', rs, h, departedAll_eq_obtainedAll ops _ rs hnc ▸ hcons⟩

/-- **Clause "`readable()` always equals bytes accepted minus bytes consumed"**, as a count,
for every `clear`-free history from `init c`. -/
theorem readable_eq_accepted_minus_consumed {c : Int} (hc : 1 ≤ c) (ops : List Op)
    (hv : ∀ op ∈ ops, op.Valid) (hnc : ∀ op ∈ ops, op ≠ .clear) :
    ∃ s0 s' rs, init c = some s0 ∧ run s0 ops = .ok (s', rs) ∧
      readable s' = ((acceptedAll ops rs).length : Int) - (obtainedAll ops rs).length := by
  obtain ⟨s0, s', rs, h0, h, inv', _, hsr⟩ := reachable_inv hc ops hv
  refine ⟨s0, s', rs, h0, h, ?_⟩
  have hcons := specRun_conserves ops _ rs hv hsr
  rw [List.nil_append, departedAll_eq_obtainedAll ops _ rs hnc] at hcons
  have := congrArg List.length hcons
  rw [List.length_append] at this
  rw [readable_eq_queue_length inv']
  omega

/-! ### "fails only when it lacks the space or data it needs" — the verdicts -/

theorem read_fails_iff {s : BB} (inv : Inv s) {n : Int} (hn : 0 ≤ n) :
    (∃ s', read s n = .ok (s', none)) ↔ readable s < n := by
  obtain ⟨s', o, h, _, _, hh⟩ := read_spec inv hn
  rw [readable_eq_queue_length inv, h]
  rcases hh with ⟨hle, rfl, _⟩ | ⟨hlt, rfl, _⟩
  · exact ⟨fun ⟨_, h'⟩ => (nomatch h'), fun hlt => by omega⟩
  · exact ⟨fun _ => hlt, fun _ => ⟨s', rfl⟩⟩

theorem fetch_fails_iff {s : BB} (inv : Inv s) {n : Int} (hn : 0 ≤ n) :
    fetch s n = .ok none ↔ readable s < n := by
  obtain ⟨o, h, hh⟩ := fetch_spec inv hn
  rw [readable_eq_queue_length inv, h]
  rcases hh with ⟨hle, rfl⟩ | ⟨hlt, rfl⟩
  · exact ⟨nofun, fun hlt => by omega⟩
  · exact ⟨fun _ => hlt, fun _ => rfl⟩

theorem write_fails_iff {s : BB} (inv : Inv s) (src : List Byte) :
    (∃ s', write s src = .ok (s', false)) ↔ writable s < src.length := by
  obtain ⟨s', b, h, _, _, hiff, _, _⟩ := write_spec inv src
  rw [h]
  cases b with
  | false => exact ⟨fun _ => Int.not_le.1 (fun hle => nomatch hiff.2 hle), fun _ => ⟨s', rfl⟩⟩
  | true => exact ⟨fun ⟨_, h'⟩ => (nomatch h'), fun hlt => absurd (hiff.1 rfl) (Int.not_le.2 hlt)⟩

/-- `writable()` is the capacity minus the one slot kept free, minus the queued bytes, minus
the tail `[t, c)` given up by a jump while the buffer is wrapped. -/
theorem writable_eq {s : BB} (inv : Inv s) :
    writable s = s.c - 1 - (abs s).length - (if s.w < s.r then s.c - s.t else 0) := by
  have hlen := abs_length inv
  have := accounting s
  unfold readable at hlen
  unfold writable
  omega

theorem writerFc_eq_none_iff (s : BB) (n : Int) :
    writerFc s n = none ↔ contiguousWritable s < n ∧ jumpWritable s < n := by
  unfold writerFc
  simp only
  split
  · exact ⟨nofun, fun h => by omega⟩
  · split
    · exact ⟨nofun, fun h => by omega⟩
    · exact ⟨fun _ => by omega, fun _ => rfl⟩

theorem readerFc_eq_none_iff (s : BB) (n : Int) :
    readerFc s n = none ↔ contiguousReadable s < n := by
  unfold readerFc
  split
  · exact ⟨nofun, fun h => by omega⟩
  · exact ⟨fun _ => by omega, fun _ => rfl⟩

/-- true of every state: `writerFc_eq_none_iff` -/
theorem writer_fc_fails_iff {s : BB} (inv : Inv s) (data : List Byte) :
    writerFc s data.length = none ↔
      (contiguousWritable s < data.length ∧ jumpWritable s < data.length) :=
  writerFc_eq_none_iff s data.length

/-- true of every state and every `n`: `readerFc_eq_none_iff` -/
theorem reader_fc_fails_iff {s : BB} (inv : Inv s) {n : Int} (hn : 0 ≤ n) :
    readerFc s n = none ↔ contiguousReadable s < n :=
  readerFc_eq_none_iff s n

/-- **Clause "no operation touches memory outside the buffer" (cursor part).** All cursors
are inside `[0, c]`, hence C `int`s when `c ≤ INT_MAX`; the block has exactly `c` bytes. -/
theorem cursors_bounded {s : BB} (inv : Inv s) :
    0 ≤ s.w ∧ s.w < s.c ∧ 0 ≤ s.r ∧ s.r ≤ s.c ∧ 0 ≤ s.t ∧ s.t ≤ s.c ∧
      (s.buf.length : Int) = s.c :=
  ⟨inv.w0, inv.wc, inv.r0, inv.rc, inv.t0, inv.tc, inv.len⟩

/-- The accounting of the C file's header comment stays inside `[0, c − 1]`: every sum the C code
forms (`cw + jw`, `cr + jr`, and `w + n` / `r + n` after `n ≤ cw` / `n ≤ cr`) is at most
`c`, so no `int` overflow is possible for any `c ≤ INT_MAX` and any `n`. -/
theorem accounting_bounded {s : BB} (inv : Inv s) :
    0 ≤ contiguousWritable s ∧ 0 ≤ jumpWritable s ∧ writable s ≤ s.c - 1 ∧
    0 ≤ contiguousReadable s ∧ 0 ≤ jumpReadable s ∧ readable s ≤ s.c - 1 ∧
    s.w + contiguousWritable s ≤ s.c ∧ s.r + contiguousReadable s ≤ s.c := by
  have := inv.bounds
  have := inv.wrap
  have := accounting s
  unfold writable readable
  omega

/-- **The region handed out by `writer_fc(n)` is free.** The caller may overwrite all `n`
claimed bytes and advance by `0`: the queue is unchanged. -/
theorem writer_fc_region_free {s : BB} (inv : Inv s) (data : List Byte) :
    ∃ s' res, step s (.wz data 0) = .ok (s', res) ∧ Inv s' ∧ abs s' = abs s := by
  obtain ⟨s', res, h, inv', _, hsp, _⟩ := step_refines inv (.wz data 0) (by simp [Op.Valid])
  -- either verdict leaves the specification's queue alone: `data.take 0 = []`
  have hq : (specStep (abs s) res.isOk (.wz data 0)).1 = abs s := by
    cases res.isOk <;> simp [specStep]
  exact ⟨s', res, h, inv', (congrArg Prod.fst hsp).symm.trans hq⟩

/-- Non-vacuity: a wrapped state with a pending truncation mark (`w = 2 < r = 3`,
`t = 4 < c = 5`) is reachable and satisfies `Inv`. -/
example : ∃ s0 s rs, init 5 = some s0 ∧
    run s0 [.write [1, 2, 3, 4], .read 3, .write [5, 6]] = .ok (s, rs) ∧
    Inv s ∧ s.w = 2 ∧ s.r = 3 ∧ s.t = 4 ∧ abs s = [4, 5, 6] := by
  refine ⟨_, { c := 5, w := 2, r := 3, t := 4, buf := [5, 6, 3, 4, 0] }, _, rfl, rfl, ?_,
    rfl, rfl, rfl, by decide⟩
  constructor <;> simp

/-- **The patch changes nothing else.** For every state (invariant or not) and every `n`,
`read` and `Orig.read` agree except in the one situation of the defect: a contiguous read that
ends exactly on `t` while the buffer is NOT wrapped (`r + n = t ∧ r + n ≤ w`: `t` is stale). -/
theorem fix_agrees_unless_stale_hit (s : BB) (n : Int)
    (h : ¬ (contiguousReadable s ≥ n ∧ s.r + n = s.t ∧ s.r + n ≤ s.w)) :
    MgModel.C07.read s n = Orig.read s n := by
  unfold MgModel.C07.read Orig.read
  simp only
  by_cases h1 : contiguousReadable s ≥ n
  · -- outside the defect `r + n = t` forces `r + n > w`, so the two wrap tests agree
    have hc : (s.r + n = s.t ∧ s.r + n > s.w) ↔ s.r + n = s.t :=
      ⟨fun h2 => h2.1, fun h2 => ⟨h2, by omega⟩⟩
    simp only [h1, if_true, hc]
  · simp only [h1, if_false]

/-- **Negation witness for `muggle_bytes_buffer_read` without the patch (`Orig.read`).**
Capacity 16, `write 12; read 6; write 5; read 6; write 7; read 12; read 12`: the reader wraps
at `t = 12` and `t` stays (stale), the writer lands exactly on the stale mark (`w = 12`), the
sixth operation drains the buffer but its `r == t` test fires in the contiguous layout and sets
`r := 0`, and the seventh delivers the same 12 bytes again: 36 bytes obtained from 24 accepted. -/
theorem stale_truncation_duplicates :
    ∃ s0 s rs, init 16 = some s0 ∧
      Orig.run s0 [.write (List.replicate 12 7), .read 6, .write (List.replicate 5 8), .read 6,
        .write [1, 2, 3, 4, 5, 6, 9], .read 12, .read 12] = .ok (s, rs) ∧
      rs[5]? = some (.ok [8, 8, 8, 8, 8, 1, 2, 3, 4, 5, 6, 9]) ∧
      rs[6]? = some (.ok [8, 8, 8, 8, 8, 1, 2, 3, 4, 5, 6, 9]) ∧
      readable s = 12 := by
  refine ⟨_, _, _, rfl, rfl, ?_, ?_, ?_⟩ <;> decide

end MgProof.C07
