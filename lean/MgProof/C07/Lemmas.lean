import MgModel.C07.BytesBuffer
/-!
# C07 — `slice`/`store`, the ring of unread bytes, the representation invariant

`ring` is the two-piece list that `abs` is in either layout; it has one lemma for each way the
queue changes, and only these look inside `slice`, `store` and the `Int.toNat` of a cursor.
-/
namespace MgProof.C07
open MgModel.C07

theorem slice_length (b : List Byte) (off n : Nat) (h : off + n ≤ b.length) :
    (slice b off n).length = n := by
  simp only [slice, List.length_take, List.length_drop]; omega

theorem store_length (b : List Byte) (off : Nat) (src : List Byte)
    (h : off + src.length ≤ b.length) : (store b off src).length = b.length := by
  simp only [store, List.length_append, List.length_take, List.length_drop]; omega

theorem slice_zero (b : List Byte) (o : Nat) : slice b o 0 = [] := List.take_zero

theorem slice_append (b : List Byte) (o n m : Nat) :
    slice b o (n + m) = slice b o n ++ slice b (o + n) m := by
  simp only [slice]
  rw [List.take_add, List.drop_drop]

theorem slice_take (b : List Byte) (o n k : Nat) (h : k ≤ n) :
    (slice b o n).take k = slice b o k := by
  simp only [slice, List.take_take, Nat.min_eq_left h]

theorem slice_drop (b : List Byte) (o n k : Nat) :
    (slice b o n).drop k = slice b (o + k) (n - k) := by
  simp only [slice, List.drop_take, List.drop_drop]

theorem slice_store_same (b : List Byte) (off : Nat) (src : List Byte) (k : Nat)
    (h : off + src.length ≤ b.length) (hk : k ≤ src.length) :
    slice (store b off src) off k = src.take k := by
  have : (b.take off).length = off := List.length_take_of_le (by omega)
  simp only [slice, store, List.append_assoc]
  rw [List.drop_left' this, List.take_append_of_le_length hk]

theorem slice_store_before (b : List Byte) (off : Nat) (src : List Byte) (o n : Nat)
    (h : o + n ≤ off) (h2 : off ≤ b.length) :
    slice (store b off src) o n = slice b o n := by
  have : (b.take off).length = off := List.length_take_of_le (by omega)
  simp only [slice, store, List.append_assoc]
  rw [List.drop_append_of_le_length (by omega),
    List.take_append_of_le_length (by rw [List.length_drop]; omega),
    List.drop_take, List.take_take, Nat.min_eq_left (by omega)]

theorem slice_store_after (b : List Byte) (off : Nat) (src : List Byte) (o n : Nat)
    (h : off + src.length ≤ o) (h2 : off + src.length ≤ b.length) :
    slice (store b off src) o n = slice b o n := by
  have : (b.take off ++ src).length = off + src.length := by
    rw [List.length_append, List.length_take]; omega
  simp only [slice, store]
  rw [List.drop_append, List.drop_eq_nil_of_le (by omega), List.nil_append, List.drop_drop, this]
  congr 2; omega

/-! At `Int` offsets and sizes, as `rd` and `wr` take them. -/

theorem isl_zero (b : List Byte) (o : Int) : slice b o.toNat (0 : Int).toNat = [] :=
  slice_zero b o.toNat

theorem isl_length {b : List Byte} {o n : Int} (ho : 0 ≤ o) (hn : 0 ≤ n)
    (h : o + n ≤ b.length) : ((slice b o.toNat n.toNat).length : Int) = n := by
  rw [slice_length _ _ _ (by omega), Int.toNat_of_nonneg hn]

theorem istore_length {b : List Byte} {off : Int} {src : List Byte} (ho : 0 ≤ off)
    (h : off + src.length ≤ b.length) : (store b off.toNat src).length = b.length :=
  store_length _ _ _ (by omega)

theorem take_length_toNat (l : List Byte) : l.take ((l.length : Int)).toNat = l := by
  rw [Int.toNat_natCast, List.take_length]

theorem rd_ok {s : BB} {off n : Int} (ho : 0 ≤ off) (hn : 0 ≤ n) (h : off + n ≤ s.buf.length) :
    rd s off n = .ok (slice s.buf off.toNat n.toNat) :=
  if_pos ⟨ho, hn, h⟩

theorem wr_ok {s : BB} {off : Int} {src : List Byte} (ho : 0 ≤ off)
    (h : off + src.length ≤ s.buf.length) :
    wr s off src = .ok { s with buf := store s.buf off.toNat src } :=
  if_pos ⟨ho, h⟩

theorem wr_bind {α : Type} {s : BB} {off : Int} {src : List Byte} (f : BB → Except Err α)
    (ho : 0 ≤ off) (h : off + src.length ≤ s.buf.length) :
    (wr s off src >>= f) = f { s with buf := store s.buf off.toNat src } := by
  rw [wr_ok ho h]; rfl

/-- The bytes of `[r, e)` followed by those of `[0, f)`: what a ring holds whose reader is at `r`.
In the contiguous layout `e = w` and `f = 0`, in the wrapped one `e = t` and `f = w`. -/
def ring (b : List Byte) (r e f : Int) : List Byte :=
  slice b r.toNat (e - r).toNat ++ slice b 0 f.toNat

theorem abs_flat {s : BB} (h : s.r ≤ s.w) :
    abs s = slice s.buf s.r.toNat (s.w - s.r).toNat := if_pos h

theorem abs_wrap {s : BB} (h : s.w < s.r) :
    abs s = slice s.buf s.r.toNat (s.t - s.r).toNat ++ slice s.buf 0 s.w.toNat :=
  if_neg (Int.not_le.2 h)

/- On a state given by its fields: this also matches `abs s` (structure eta), whereas a lemma
about `abs s` does not rewrite `abs { s with r := … }`. -/
theorem abs_ring_flat {c w r t : Int} {b : List Byte} (h : r ≤ w) :
    abs ⟨c, w, r, t, b⟩ = ring b r w 0 := by
  rw [abs_flat h, ring, Int.toNat_zero, slice_zero, List.append_nil]

theorem abs_ring_wrap {c w r t : Int} {b : List Byte} (h : w < r) :
    abs ⟨c, w, r, t, b⟩ = ring b r t w :=
  abs_wrap h

theorem ring_nil (b : List Byte) (r : Int) : ring b r r 0 = [] := by
  simp only [ring, Int.sub_self, Int.toNat_zero, slice_zero, List.append_nil]

theorem ring_wrap (b : List Byte) (e f : Int) : ring b e e f = ring b 0 f 0 := by
  simp only [ring, Int.sub_self, Int.sub_zero, Int.toNat_zero, slice_zero, List.nil_append,
    List.append_nil]

theorem ring_length {b : List Byte} {r e f : Int} (hr : 0 ≤ r) (hre : r ≤ e) (he : e ≤ b.length)
    (hf0 : 0 ≤ f) (hf : f ≤ b.length) : ((ring b r e f).length : Int) = e - r + f := by
  have h1 : r.toNat + (e - r).toNat ≤ b.length := by
    rw [← Int.toNat_add hr (by omega), Int.toNat_le]; omega
  simp only [ring, List.length_append]
  rw [slice_length _ _ _ h1, slice_length _ _ _ (by rw [Nat.zero_add, Int.toNat_le]; exact hf),
    Int.natCast_add, Int.toNat_of_nonneg hf0, Int.toNat_of_nonneg (by omega)]

theorem ring_pop {b : List Byte} {r e f n : Int} (hr : 0 ≤ r) (hn : 0 ≤ n) (h : r + n ≤ e) :
    ring b r e f = slice b r.toNat n.toNat ++ ring b (r + n) e f := by
  have e1 : e - r = n + (e - (r + n)) := by omega
  simp only [ring]
  rw [e1, Int.toNat_add hn (by omega), Int.toNat_add hr hn, slice_append, List.append_assoc]

theorem ring_split {b : List Byte} {r e f m : Int} (hm0 : 0 ≤ m) (hm : m ≤ f) :
    ring b r e f = ring b r e m ++ ring b m f 0 := by
  have e1 : f = m + (f - m) := by omega
  simp only [ring, Int.toNat_zero, slice_zero, List.append_nil]
  rw [e1, Int.toNat_add hm0 (by omega), slice_append, Nat.zero_add, List.append_assoc, ← e1]

theorem ring_store_end {b data : List Byte} {r e k : Int} (hr : 0 ≤ r) (hre : r ≤ e)
    (h : e + data.length ≤ b.length) (hk0 : 0 ≤ k) (hk : k ≤ data.length) :
    ring (store b e.toNat data) r (e + k) 0 = ring b r e 0 ++ data.take k.toNat := by
  have e1 : e + k - r = e - r + k := by omega
  have e2 : r.toNat + (e - r).toNat = e.toNat := by
    rw [← Int.toNat_add hr (by omega)]; congr 1; omega
  have h1 : e.toNat + data.length ≤ b.length := by omega
  simp only [ring, Int.toNat_zero, slice_zero, List.append_nil]
  rw [e1, Int.toNat_add (by omega) hk0, slice_append, e2,
    slice_store_before _ _ _ _ _ (Nat.le_of_eq e2) (by omega),
    slice_store_same _ _ _ _ h1 (by omega)]

theorem ring_store_front {b data : List Byte} {r e f k : Int} (hf : 0 ≤ f)
    (hfr : f + data.length ≤ r) (hrb : r ≤ b.length) (hk0 : 0 ≤ k) (hk : k ≤ data.length) :
    ring (store b f.toNat data) r e (f + k) = ring b r e f ++ data.take k.toNat := by
  have h1 : f.toNat + data.length ≤ r.toNat := by omega
  have h2 : f.toNat + data.length ≤ b.length := by omega
  simp only [ring]
  rw [slice_store_after _ _ _ _ _ h1 h2, Int.toNat_add hf hk0, slice_append, Nat.zero_add,
    slice_store_before _ _ _ _ _ (Nat.le_of_eq (Nat.zero_add _)) (by omega),
    slice_store_same _ _ _ _ h2 (by omega), List.append_assoc]

/-- what holds in every state reachable from `init c`, `c ≥ 1`. In the contiguous
layout (`r ≤ w`) the truncation mark `t` is unconstrained inside `[0, c]`: it may be a
stale mark left behind when the reader wrapped; the fixed code never consults it there. -/
structure Inv (s : BB) : Prop where
  cpos : 1 ≤ s.c
  len  : (s.buf.length : Int) = s.c
  w0   : 0 ≤ s.w
  r0   : 0 ≤ s.r
  wc   : s.w < s.c
  t0   : 0 ≤ s.t
  tc   : s.t ≤ s.c
  wrap : s.w < s.r → s.r ≤ s.t

/-- Not a field: `reader_move` may leave `r = t = c`, so there is no `r < c`. -/
theorem Inv.rc {s : BB} (inv : Inv s) : s.r ≤ s.c :=
  (Int.lt_or_le s.w s.r).elim (fun h => Int.le_trans (inv.wrap h) inv.tc)
    (fun h => Int.le_of_lt (Int.lt_of_le_of_lt h inv.wc))

theorem Inv.bounds {s : BB} (inv : Inv s) : 1 ≤ s.c ∧ (s.buf.length : Int) = s.c ∧ 0 ≤ s.w ∧
    s.w < s.c ∧ 0 ≤ s.r ∧ 0 ≤ s.t ∧ s.t ≤ s.c ∧ s.r ≤ s.c :=
  ⟨inv.cpos, inv.len, inv.w0, inv.wc, inv.r0, inv.t0, inv.tc, inv.rc⟩

theorem Inv.writer {s : BB} (inv : Inv s) {w' t' : Int} {b' : List Byte}
    (hb : b'.length = s.buf.length) (hw : 0 ≤ w' ∧ w' < s.c) (ht : 0 ≤ t' ∧ t' ≤ s.c)
    (hwrap : w' < s.r → s.r ≤ t') : Inv ⟨s.c, w', s.r, t', b'⟩ :=
  ⟨inv.cpos, hb ▸ inv.len, hw.1, inv.r0, hw.2, ht.1, ht.2, hwrap⟩

theorem Inv.reader {s : BB} (inv : Inv s) {r' : Int} (hr : 0 ≤ r') (hwrap : s.w < r' → r' ≤ s.t) :
    Inv { s with r := r' } :=
  ⟨inv.cpos, inv.len, inv.w0, hr, inv.wc, inv.t0, inv.tc, hwrap⟩

theorem inv_empty {c : Int} {b : List Byte} (hc : 1 ≤ c) (hb : (b.length : Int) = c) :
    Inv ⟨c, 0, 0, c, b⟩ :=
  have h0 : (0 : Int) ≤ c := Int.le_trans (by decide) hc
  ⟨hc, hb, Int.le_refl 0, Int.le_refl 0, hc, h0, Int.le_refl c, fun h => absurd h (Int.lt_irrefl 0)⟩

theorem inv_init {c : Int} (hc : 1 ≤ c) : ∃ s, init c = some s ∧ Inv s ∧ abs s = [] ∧ s.c = c := by
  have h0 : (0 : Int) ≤ c := Int.le_trans (by decide) hc
  refine ⟨_, if_neg (Int.not_lt.2 h0), inv_empty hc ?_, ?_, rfl⟩
  · rw [List.length_replicate, Int.toNat_of_nonneg h0]
  · rw [abs_ring_flat (Int.le_refl _), ring_nil]

end MgProof.C07
