import MgModel.C15.Handle
import MgProof.Conc
/-!
# C15 — lemmas about the socket-handle model (`MgModel.C15.Handle`)

What a call of each C function of the model does to the record of the context it is applied to,
provided that context is live (`releaseCtx_spec`, …).
-/
namespace MgProof.C15
open MgModel.C15 MgModel.Conc

@[simp] theorem set_self (s : St) (c : Nat) : s.set c (s.ctx c) = s := by simp [St.set, upd_self]
@[simp] theorem set_ctx (s : St) (c : Nat) (x : Ctx) : (s.set c x).ctx c = x := by simp [St.set]
@[simp] theorem set_set (s : St) (c : Nat) (x y : Ctx) : (s.set c x).set c y = s.set c y := by
  simp [St.set, upd_upd]
theorem set_ctx_ne (s : St) (c c' : Nat) (x : Ctx) (h : c' ≠ c) : (s.set c x).ctx c' = s.ctx c' := by
  simp [St.set, upd, h]
@[simp] theorem set_reg (s : St) (c : Nat) (x : Ctx) : (s.set c x).reg = s.reg := rfl
@[simp] theorem set_queue (s : St) (c : Nat) (x : Ctx) : (s.set c x).queue = s.queue := rfl
@[simp] theorem set_backlog (s : St) (c : Nat) (x : Ctx) : (s.set c x).backlog = s.backlog := rfl
@[simp] theorem set_n (s : St) (c : Nat) (x : Ctx) : (s.set c x).n = s.n := rfl
@[simp] theorem set_cap (s : St) (c : Nat) (x : Ctx) : (s.set c x).cap = s.cap := rfl
@[simp] theorem set_exited (s : St) (c : Nat) (x : Ctx) : (s.set c x).exited = s.exited := rfl
@[simp] theorem set_fixed (s : St) (c : Nat) (x : Ctx) : (s.set c x).fixed = s.fixed := rfl

theorem live_ok {s : St} {c : Nat} (h : (s.ctx c).mem = .live) : s.live c = .ok (s.ctx c) := by
  simp [St.live, h]

theorem live_inv {s : St} {c : Nat} {x : Ctx} (h : s.live c = .ok x) : (s.ctx c).mem = .live ∧ x = s.ctx c := by
  unfold St.live at h
  split at h <;> simp_all

/-- what `muggle_socket_evloop_release_ctx` does to the record of a live context -/
def relRec (x : Ctx) : Ctx :=
  if x.ref = 0 then x
  else if x.ref = 1 then
    { x with ref := 0, nRel := x.nRel + 1, oRel := 0, flagClosed := true, fdOpen := false,
             nFdc := if x.fdOpen then x.nFdc + 1 else x.nFdc, mem := .freed, nFree := x.nFree + 1 }
  else { x with ref := x.ref - 1 }

theorem relRec_one {x : Ctx} (h : x.ref = 1) : relRec x =
    { x with ref := 0, nRel := x.nRel + 1, oRel := 0, flagClosed := true, fdOpen := false,
             nFdc := if x.fdOpen then x.nFdc + 1 else x.nFdc, mem := .freed, nFree := x.nFree + 1 } := by
  simp [relRec, h]

theorem relRec_many {x : Ctx} (h : 2 ≤ x.ref) : relRec x = { x with ref := x.ref - 1 } := by
  have h0 : x.ref ≠ 0 := by omega
  have h1 : x.ref ≠ 1 := by omega
  simp [relRec, h0, h1]

theorem relRec_bytes (x : Ctx) : (relRec x).inq = x.inq ∧ (relRec x).got = x.got ∧ (relRec x).sent = x.sent := by
  unfold relRec
  split
  · exact ⟨rfl, rfl, rfl⟩
  · split <;> exact ⟨rfl, rfl, rfl⟩

theorem releaseCtx_spec (s : St) (c : Nat) (h : (s.ctx c).mem = .live) :
    releaseCtx s c = .ok (s.set c (relRec (s.ctx c))) := by
  by_cases h0 : (s.ctx c).ref = 0
  · simp [releaseCtx, refRelease, St.live, h, bind, Except.bind, pure, Except.pure, relRec, h0]
  · by_cases h1 : (s.ctx c).ref = 1
    · cases hfd : (s.ctx c).fdOpen <;>
      simp [releaseCtx, refRelease, St.live, h, bind, Except.bind, pure, Except.pure, relRec, h1, hfd,
            cbRelease, ctxClose, closeFd, cbFree]
    · have : (s.ctx c).ref - 1 ≠ 0 := by omega
      simp [releaseCtx, refRelease, St.live, h, bind, Except.bind, pure, Except.pure, relRec, h0, h1, this]

theorem releaseCtx_err (s : St) (c : Nat) (h : (s.ctx c).mem ≠ .live) : ∃ e, releaseCtx s c = .error e := by
  unfold releaseCtx refRelease St.live
  cases hm : (s.ctx c).mem <;> simp_all [bind, Except.bind]

theorem onClose_spec (s : St) (c : Nat) (h : (s.ctx c).mem = .live) :
    onClose s c = .ok (s.set c (relRec { s.ctx c with nCls := (s.ctx c).nCls + 1, oCls := (s.ctx c).ref })) := by
  have h2 : ((s.set c { s.ctx c with nCls := (s.ctx c).nCls + 1, oCls := (s.ctx c).ref }).ctx c).mem = .live := by simp [h]
  simp only [onClose, cbClose, live_ok h, bind, Except.bind, pure, Except.pure]
  rw [releaseCtx_spec _ _ h2]
  simp

def wrelRec (x : Ctx) : Ctx := relRec { x with held := x.held - 1 }

theorem workerRelease_spec (s : St) (c : Nat) (h : (s.ctx c).mem = .live) :
    workerRelease s c = .ok (s.set c (wrelRec (s.ctx c))) := by
  have e : workerRelease s c = (s.live c).bind fun x => releaseCtx (s.set c { x with held := x.held - 1 }) c := rfl
  rw [e, live_ok h, Except.bind, releaseCtx_spec _ _ (by simp [h])]
  simp [wrelRec]

theorem wrelRec_many {x : Ctx} (h : 2 ≤ x.ref) : wrelRec x = { x with held := x.held - 1, ref := x.ref - 1 } :=
  relRec_many (x := { x with held := x.held - 1 }) h

theorem retain_spec (s : St) (c : Nat) (h : (s.ctx c).mem = .live) (hr : 1 ≤ (s.ctx c).ref) :
    retain s c = .ok (s.set c { s.ctx c with ref := (s.ctx c).ref + 1, held := (s.ctx c).held + 1 }) := by
  have h0 : (s.ctx c).ref ≠ 0 := by omega
  simp [retain, refRetain, St.live, h, bind, Except.bind, pure, Except.pure, h0]

theorem userShutdown_spec (s : St) (c : Nat) (h : (s.ctx c).mem = .live) :
    userShutdown s c = .ok (s.set c { s.ctx c with flagClosed := true, eof := true }) := by
  simp [userShutdown, St.live, h, bind, Except.bind, pure, Except.pure]

theorem drain_append (chunk : Nat) : ∀ (fuel : Nat) (inq acc : List Nat),
    (drain chunk fuel inq acc).1 ++ (drain chunk fuel inq acc).2 = acc ++ inq := by
  intro fuel
  induction fuel with
  | zero => intro inq acc; simp [drain]
  | succ k ih =>
    intro inq acc
    unfold drain
    split
    · rfl
    · rw [ih]; simp [List.append_assoc]

theorem drain_empties (chunk : Nat) (hc : 1 ≤ chunk) : ∀ (fuel : Nat) (inq acc : List Nat),
    inq.length ≤ fuel → (drain chunk fuel inq acc).2 = [] := by
  intro fuel
  induction fuel with
  | zero => intro inq acc h; simp [drain]; exact List.length_eq_zero_iff.mp (by omega)
  | succ k ih =>
    intro inq acc h
    unfold drain
    split
    · rename_i h1
      rcases h1 with h1 | h1
      · simpa using h1
      · omega
    · rename_i h1
      apply ih
      have : inq ≠ [] := by intro e; simp [e] at h1
      have : 0 < inq.length := List.length_pos_iff.mpr this
      simp [List.length_drop]; omega

/-- the record after `muggle_socket_evloop_on_read` for a client context -/
def readRec (x : Ctx) (chunk : Nat) : Ctx :=
  let r := drain chunk x.inq.length x.inq x.got
  { x with got := r.1, inq := r.2,
           flagClosed := x.flagClosed || ((chunk = 0) || (r.2.isEmpty && x.eof)) }

theorem readRec_drained (x : Ctx) {k : Nat} (hk : 1 ≤ k) :
    (readRec x k).inq = [] ∧ (readRec x k).got = x.got ++ x.inq := by
  have he := drain_empties k hk x.inq.length x.inq x.got (Nat.le_refl _)
  have ha := drain_append k x.inq.length x.inq x.got
  rw [he, List.append_nil] at ha
  exact ⟨he, ha⟩

theorem onReadClient_spec (s : St) (c : Nat) (k : Nat) (h : (s.ctx c).mem = .live) :
    onReadClient s c k = .ok (s.set c (readRec (s.ctx c) k)) := by
  simp [onReadClient, St.live, h, bind, Except.bind, pure, Except.pure, readRec]

/-- the poll back-end has no free slot -/
def full (s : St) : Bool :=
  match s.cap with
  | some k => decide (s.reg.length ≥ k)
  | none => false

@[simp] theorem full_set (s : St) (c : Nat) (y : Ctx) : full (s.set c y) = full s := rfl

theorem evloopAddCtx_spec (s : St) (c : Nat) (hl : (s.ctx c).mem = .live) (hfd : (s.ctx c).fdOpen = true) :
    evloopAddCtx s c = .ok (if full s then (s, false) else ({ s with reg := s.reg ++ [c] }, true)) := by
  unfold evloopAddCtx full
  simp only [live_ok hl, bind, Except.bind, hfd]
  cases s.cap with
  | none => simp [pure, Except.pure]
  | some k => by_cases h : s.reg.length ≥ k <;> simp [h, pure, Except.pure]

theorem cbAddCtx_spec (s : St) (c : Nat) (hl : (s.ctx c).mem = .live) :
    cbAddCtx s c = .ok (s.set c { s.ctx c with nAdd := (s.ctx c).nAdd + 1, oAdd := (s.ctx c).ref }) := by
  simp [cbAddCtx, live_ok hl, bind, Except.bind, pure, Except.pure]

theorem wakeOne_spec {s : St} {c : Nat} {rest : List Nat} (hq : s.queue = c :: rest)
    (hl : (s.ctx c).mem = .live) (hfd : (s.ctx c).fdOpen = true) (hfix : s.fixed = true) :
    wakeOne s = if full s then releaseCtx { s with queue := rest } c
      else .ok (({ s with queue := rest, reg := s.reg ++ [c] } : St).set c
                  { s.ctx c with nAdd := (s.ctx c).nAdd + 1, oAdd := (s.ctx c).ref }) := by
  unfold wakeOne
  rw [hq]
  simp only []
  rw [evloopAddCtx_spec { s with queue := rest } c hl hfd, show full { s with queue := rest } = full s from rfl]
  by_cases hf : full s
  · simp [hf, bind, Except.bind, hfix]
  · simp only [hf, bind, Except.bind]
    simp only [hfix]
    exact cbAddCtx_spec _ c hl

theorem acceptOne_spec {s : St} {c : Nat} {ok : Bool} {rest : List (Nat × Bool)} (hb : s.backlog = (c, ok) :: rest)
    (hfd : (s.ctx c).fdOpen = true) :
    acceptOne s = .ok (
      let s0 : St := { s with backlog := rest }
      let x := s.ctx c
      if ok = false then (s0.set c { x with fdOpen := false, nFdc := x.nFdc + 1 }, false)
      else if full s then
        (s0.set c { x with mem := .freed, ref := 1, flagClosed := false, nFree := x.nFree + 1, regFailed := true,
                           fdOpen := false, nFdc := x.nFdc + 1 }, false)
      else (({ s0 with reg := s.reg ++ [c] } : St).set c
              { x with mem := .live, ref := 1, flagClosed := false, nConn := x.nConn + 1, oConn := 1 }, true)) := by
  unfold acceptOne
  rw [hb]
  cases ok
  · simp [closeFd, hfd, pure, Except.pure]
  · simp only [Bool.not_true, Bool.false_eq_true, if_false]
    have e : ∀ y, full (({ s with backlog := rest } : St).set c y) = full s := fun _ => rfl
    rw [evloopAddCtx_spec _ c (by simp) (by simpa using hfd), e]
    by_cases hf : full s
    · simp [hf, bind, Except.bind, pure, Except.pure, cbFree, St.live, closeFd, hfd]
    · simp [hf, bind, Except.bind, pure, Except.pure, cbConn, St.live]
      simp [St.set, upd_upd]

/-- the second half of `dispatchCtx` (the first is `turnRead`) -/
def dispatchTail (s : St) (c : Nat) : Except Err St := do
  let y ← s.live c
  if y.flagClosed then
    let s ← onClose s c
    return { s with reg := s.reg.erase c }
  else return s

theorem dispatchCtx_eq (s : St) (c k : Nat) :
    dispatchCtx s c k = turnRead s c k >>= fun s1 => dispatchTail s1 c := by
  unfold dispatchCtx turnRead dispatchTail
  cases s.live c with
  | error e => rfl
  | ok x =>
    simp only [bind, Except.bind]
    -- the model writes the body of `turnRead` out again: listener or client, two branches each
    split
    · split <;> rfl
    · split <;> rfl

theorem turnRead_client {s : St} {c : Nat} (k : Nat) (hl : (s.ctx c).mem = .live)
    (hnl : (s.ctx c).isListener = false) :
    turnRead s c k =
      .ok (if !(s.ctx c).inq.isEmpty || (s.ctx c).eof then s.set c (readRec (s.ctx c) k) else s) := by
  unfold turnRead
  simp only [live_ok hl, bind, Except.bind, hnl, Bool.false_eq_true, if_false]
  split
  · exact onReadClient_spec s c k hl
  · rfl

theorem dispatchTail_spec (s : St) (c : Nat) (hl : (s.ctx c).mem = .live) :
    dispatchTail s c = .ok (if (s.ctx c).flagClosed then
        { s.set c (relRec { s.ctx c with nCls := (s.ctx c).nCls + 1, oCls := (s.ctx c).ref }) with reg := s.reg.erase c }
      else s) := by
  unfold dispatchTail
  simp only [live_ok hl, bind, Except.bind]
  split
  · simp only [onClose_spec s c hl, pure, Except.pure]; rfl
  · rfl

theorem dispatchTail_bytes {s s' : St} {c : Nat} (hl : (s.ctx c).mem = .live) (h : dispatchTail s c = .ok s') :
    (s'.ctx c).inq = (s.ctx c).inq ∧ (s'.ctx c).got = (s.ctx c).got ∧ (s'.ctx c).sent = (s.ctx c).sent := by
  rw [dispatchTail_spec s c hl] at h
  injection h with h
  subst h
  split
  · show ((s.set c _).ctx c).inq = _ ∧ ((s.set c _).ctx c).got = _ ∧ ((s.set c _).ctx c).sent = _
    rw [set_ctx]
    exact relRec_bytes _
  · exact ⟨rfl, rfl, rfl⟩

theorem closeBegin_spec (s : St) (c : Nat) (hl : (s.ctx c).mem = .live) :
    closeBegin s c = .ok (s.set c { s.ctx c with nCls := (s.ctx c).nCls + 1, oCls := (s.ctx c).ref, closing := true }) := by
  simp [closeBegin, cbClose, St.live, hl, bind, Except.bind, pure, Except.pure]

theorem closeEnd_spec (s : St) (c : Nat) (hl : (s.ctx c).mem = .live) :
    closeEnd s c = .ok { s.set c (relRec { s.ctx c with closing := false }) with reg := s.reg.erase c } := by
  have h2 : ((s.set c { s.ctx c with closing := false }).ctx c).mem = .live := by simp [hl]
  simp only [closeEnd, live_ok hl, bind, Except.bind, pure, Except.pure]
  rw [releaseCtx_spec _ _ h2]
  simp

theorem wakeOne_nil {s : St} (h : s.queue = []) : wakeOne s = .ok s := by unfold wakeOne; rw [h]; rfl

theorem clearOne_nil {s : St} (h : s.reg = []) : clearOne s = .ok s := by unfold clearOne; rw [h]; rfl

theorem exitOne_nil {s : St} (h : s.queue = []) : exitOne s = .ok s := by unfold exitOne; rw [h]; rfl

end MgProof.C15
