import MgProof.C15.HandleLemmas
/-!
# C15 — the ownership invariant of the socket-handle model and its preservation

`Good x r q` is what must hold of the record `x` of one context, given whether the
context is registered in the loop (`r`) and whether it sits in the hand-over queue (`q`).
`Inv s` = every context is `Good` + bookkeeping of the two lists, the backlog and the identities;
`Inv.fixed` restricts everything to the repaired `on_wake`.
-/
namespace MgProof.C15
open MgModel.C15

def b2n (b : Bool) : Nat := if b then 1 else 0

structure Good (x : Ctx) (r q : Bool) : Prop where
  /-- never allocated: nothing happened to it, nobody refers to it -/
  none_ : x.mem = .none → x.ref = 0 ∧ x.held = 0 ∧ r = false ∧ q = false ∧ x.nConn = 0 ∧ x.nAdd = 0 ∧
            x.nCls = 0 ∧ x.nRel = 0 ∧ x.nFree = 0 ∧ x.nFdc ≤ 1 ∧ (x.fdOpen = true → x.nFdc = 0) ∧ x.regFailed = false
  /-- live: the count is exactly the number of owners (loop registration, queue slot, worker
  retains), there is at least one, nothing was closed, released or freed yet -/
  live_ : x.mem = .live → x.ref = b2n r + b2n q + x.held ∧ 1 ≤ x.ref ∧ x.fdOpen = true ∧ x.nFdc = 0 ∧
            x.nFree = 0 ∧ x.nRel = 0 ∧ x.regFailed = false
  /-- freed: the count is zero (the untouched initial 1 on the accept-time registration-failure path, where
  nobody ever saw the context), no owner is left, closed / freed exactly once, released exactly once (never on
  that path) -/
  freed_ : x.mem = .freed → x.ref = (if x.regFailed then 1 else 0) ∧ x.held = 0 ∧ r = false ∧ q = false ∧ x.fdOpen = false ∧ x.nFdc = 1 ∧
            x.nFree = 1 ∧ x.nRel = (if x.regFailed then 0 else 1)
  once : x.nConn ≤ 1 ∧ x.nAdd ≤ 1 ∧ x.nCls ≤ 1
  /-- after `cb_close` the context has left the registration list, or the loop is still inside the callback -/
  clsReg : x.nCls = 1 → (r = false ∨ x.closing = true) ∧ q = false
  /-- while the loop is inside `cb_close` the context is still registered, i.e. the loop's own
  reference is still counted -/
  cl : x.closing = true → r = true ∧ x.mem = .live ∧ x.nCls = 1
  /-- the reference count the user callbacks saw -/
  obs : (x.nCls = 1 → 1 ≤ x.oCls) ∧ (x.nConn = 1 → x.oConn = 1) ∧ (x.nAdd = 1 → 1 ≤ x.oAdd) ∧
          (x.nRel = 1 → x.oRel = 0)
  bytes : x.got ++ x.inq = x.sent
  rf : x.regFailed = true → x.nCls = 0 ∧ x.nConn = 0
  /-- by origin: which announcements are possible -/
  oAcc : x.origin = .accepted → x.nAdd = 0 ∧ q = false ∧
            (x.mem ≠ .none → x.nConn = if x.regFailed then 0 else 1) ∧ (x.mem = .none → x.nConn = 0)
  oHand : x.origin = .handed → x.nConn = 0 ∧ x.mem ≠ .none ∧ x.regFailed = false ∧ (q = true → x.nAdd = 0) ∧
            (r = true → x.nAdd = 1)
  oLis : x.origin = .listener → x.nConn = 0 ∧ x.nAdd = 0 ∧ q = false
  oNone : x.origin = .none → x.mem = .none

structure Inv (s : St) : Prop where
  good : ∀ c, Good (s.ctx c) (decide (c ∈ s.reg)) (decide (c ∈ s.queue))
  regNd : s.reg.Nodup
  queueNd : s.queue.Nodup
  disj : ∀ c, c ∈ s.reg → c ∉ s.queue
  backlog : ∀ p ∈ s.backlog, (s.ctx p.1).mem = .none ∧ (s.ctx p.1).fdOpen = true ∧ (s.ctx p.1).nFdc = 0 ∧
              (s.ctx p.1).origin = .accepted ∧ (s.ctx p.1).got = [] ∧ p.1 < s.n
  backlogNd : (s.backlog.map Prod.fst).Nodup
  fresh : ∀ c, s.n ≤ c → (s.ctx c).mem = .none ∧ c ∉ s.reg ∧ c ∉ s.queue
  exited : s.exited = true → s.reg = [] ∧ s.queue = []
  fixed : s.fixed = true

theorem b2n_eq_zero {b : Bool} (h : b2n b = 0) : b = false := by cases b <;> simp_all [b2n]

theorem not_closing_of_not_reg {x : Ctx} {q : Bool} (h : Good x false q) : x.closing = false :=
  Bool.eq_false_iff.2 fun hc => nomatch (h.cl hc).1

/-! ## record level: what each operation of the model does to `Good`

A proof `{ h with … }` lists the clauses whose statement mentions a field the operation changes; the other
clauses of the new record unfold to those of the old one and are taken from `h`. -/

/-- no clause reads `flagClosed` or `eof`, and the byte queues are read by `bytes` only -/
theorem good_kernel {x : Ctx} {r q f e : Bool} {i s g : List Nat} (h : Good x r q) (hb : g ++ i = s) :
    Good { x with flagClosed := f, eof := e, inq := i, sent := s, got := g } r q :=
  { h with bytes := hb }

theorem good_read {x : Ctx} {r q : Bool} (h : Good x r q) (k : Nat) : Good (readRec x k) r q :=
  good_kernel h ((drain_append k _ _ _).trans h.bytes)

theorem good_send {x : Ctx} {r q : Bool} (h : Good x r q) (b : List Nat) :
    Good { x with inq := x.inq ++ b, sent := x.sent ++ b } r q :=
  good_kernel h (by rw [← List.append_assoc, h.bytes])

theorem good_retain {x : Ctx} {r q : Bool} (h : Good x r q) (hl : x.mem = .live) :
    Good { x with ref := x.ref + 1, held := x.held + 1 } r q :=
  { h with
    none_ := fun e => nomatch hl.symm.trans e
    live_ := fun e => have ⟨a, b, c⟩ := h.live_ e; ⟨by simp only [a]; omega, by simp only []; omega, c⟩
    freed_ := fun e => nomatch hl.symm.trans e }

/-- An owner drops its reference: the registration (`r' = false`), the queue slot (`q' = false`) or a worker
(`k = held - 1`). The loop stays inside `cb_close` exactly as long as the registration stays. -/
theorem good_drop {x : Ctx} {r q r' q' cl : Bool} {k : Nat} (h : Good x r q) (hl : x.mem = .live)
    (hown : b2n r' + b2n q' + k + 1 = b2n r + b2n q + x.held)
    (hr : r' = true → r = true ∧ cl = x.closing) (hq : q' = true → q = true) (hcl : cl = true → r' = true) :
    Good (relRec { x with held := k, closing := cl }) r' q' := by
  obtain ⟨href, hpos, hfd, hfdc, hfree, hrel, hrf⟩ := h.live_ hl
  have hm : x.mem ≠ .none := by simp [hl]
  rcases (by omega : x.ref = 1 ∨ 2 ≤ x.ref) with h1 | h2
  · rw [relRec_one (x := { x with held := k, closing := cl }) h1]
    obtain ⟨hr0, hq0, rfl⟩ : b2n r' = 0 ∧ b2n q' = 0 ∧ k = 0 := by omega
    obtain rfl := b2n_eq_zero hr0
    obtain rfl := b2n_eq_zero hq0
    obtain rfl : cl = false := Bool.eq_false_iff.2 fun e => nomatch hcl e
    exact { h with
      none_ := nofun
      live_ := nofun
      freed_ := fun _ => ⟨by simp [hrf], rfl, rfl, rfl, rfl, by simp [hfd, hfdc], by simp [hfree], by simp [hrf, hrel]⟩
      clsReg := fun _ => ⟨Or.inl rfl, rfl⟩
      cl := nofun
      obs := ⟨h.obs.1, h.obs.2.1, h.obs.2.2.1, fun _ => rfl⟩
      oAcc := fun o => have ⟨a, _, c, _⟩ := h.oAcc o; ⟨a, rfl, fun _ => c hm, nofun⟩
      oHand := fun o => have ⟨a, _, c, _, _⟩ := h.oHand o; ⟨a, nofun, c, nofun, nofun⟩
      oLis := fun o => have ⟨a, b, _⟩ := h.oLis o; ⟨a, b, rfl⟩
      oNone := fun o => absurd (h.oNone o) hm }
  · rw [relRec_many (x := { x with held := k, closing := cl }) h2]
    have hq0 : q = false → q' = false := fun e => Bool.eq_false_iff.2 fun e' => by rw [hq e'] at e; cases e
    exact { h with
      none_ := fun e => nomatch hl.symm.trans e
      live_ := fun _ => ⟨by simp only []; omega, by simp only []; omega, hfd, hfdc, hfree, hrel, hrf⟩
      freed_ := fun e => nomatch hl.symm.trans e
      clsReg := fun e => have ⟨a, b⟩ := h.clsReg e
        ⟨(Bool.eq_false_or_eq_true r').symm.imp_right fun e' =>
            (hr e').2.trans (a.resolve_left (by simp [(hr e').1])), hq0 b⟩
      cl := fun e => have ⟨_, c⟩ := hr (hcl e); ⟨hcl e, (h.cl (c ▸ e)).2⟩
      oAcc := fun o => have ⟨a, b, c⟩ := h.oAcc o; ⟨a, hq0 b, c⟩
      oHand := fun o => have ⟨a, b, c, d, e⟩ := h.oHand o; ⟨a, b, c, fun hq' => d (hq hq'), fun hr' => e (hr hr').1⟩
      oLis := fun o => have ⟨a, b, c⟩ := h.oLis o; ⟨a, b, hq0 c⟩ }

theorem good_release {x : Ctx} {r q : Bool} (h : Good x r q) (hl : x.mem = .live)
    (hrq : (r = true ∧ q = false) ∨ (r = false ∧ q = true)) (hc : x.closing = false) :
    Good (relRec x) false false :=
  good_drop (k := x.held) (cl := x.closing) h hl
    (by rcases hrq with ⟨rfl, rfl⟩ | ⟨rfl, rfl⟩ <;> simp [b2n] <;> omega) nofun nofun
    (fun e => by rw [hc] at e; cases e)

theorem good_wrel {x : Ctx} {r q : Bool} (h : Good x r q) (hl : x.mem = .live) (hh : 0 < x.held) :
    Good (wrelRec x) r q :=
  good_drop (cl := x.closing) h hl (by omega) (fun e => ⟨e, rfl⟩) id (fun e => (h.cl e).1)

theorem good_closeEnd {x : Ctx} (h : Good x true false) (hl : x.mem = .live) :
    Good (relRec { x with closing := false }) false false :=
  good_drop (k := x.held) h hl (by simp [b2n]; omega) nofun nofun nofun

theorem good_closeBegin {x : Ctx} (h : Good x true false) (hl : x.mem = .live) (hc : x.closing = false) :
    Good { x with nCls := x.nCls + 1, oCls := x.ref, closing := true } true false :=
  have ⟨_, hpos, _, _, _, _, hrf⟩ := h.live_ hl
  -- `clsReg`: registered and not inside `cb_close` means not closed yet
  have h0 : x.nCls = 0 := by
    have := h.once.2.2
    have : x.nCls ≠ 1 := fun e => by simpa [hc] using (h.clsReg e).1
    omega
  { h with
    none_ := fun e => nomatch hl.symm.trans e
    once := ⟨h.once.1, h.once.2.1, by simp only [h0]; omega⟩
    clsReg := fun _ => ⟨Or.inr rfl, rfl⟩
    cl := fun _ => ⟨rfl, hl, by simp only [h0]⟩
    obs := ⟨fun _ => hpos, h.obs.2⟩
    rf := fun e => by rw [hrf] at e; cases e }

/-- `on_close` in one step is `closeBegin` followed by `closeEnd` -/
theorem good_close {x : Ctx} (h : Good x true false) (hl : x.mem = .live) (hc : x.closing = false) :
    Good (relRec { x with nCls := x.nCls + 1, oCls := x.ref }) false false := by
  have e : ({ x with nCls := x.nCls + 1, oCls := x.ref } : Ctx) =
      { x with nCls := x.nCls + 1, oCls := x.ref, closing := false } := by rw [← hc]
  rw [e]
  exact good_closeEnd (good_closeBegin h hl hc) hl

theorem good_add {x : Ctx} (h : Good x false true) (hl : x.mem = .live) :
    Good { x with nAdd := x.nAdd + 1, oAdd := x.ref } true false :=
  have ⟨href, hpos, hrest⟩ := h.live_ hl
  have hm : x.mem ≠ .none := by simp [hl]
  have ho : x.origin = .handed := by
    cases e : x.origin
    · exact absurd (h.oNone e) hm
    · exact nomatch (h.oLis e).2.2
    · exact nomatch (h.oAcc e).2.1
    · rfl
  have ⟨hconn, _, hrf, hadd, _⟩ := h.oHand ho
  have hadd := hadd rfl
  { h with
    none_ := fun e => nomatch hl.symm.trans e
    live_ := fun _ => ⟨by simp [b2n] at href ⊢; omega, hpos, hrest⟩
    freed_ := fun e => nomatch hl.symm.trans e
    once := ⟨h.once.1, by simp only [hadd]; omega, h.once.2.2⟩
    clsReg := fun e => nomatch (h.clsReg e).2
    cl := fun e => nomatch (h.cl e).1
    obs := ⟨h.obs.1, h.obs.2.1, fun _ => hpos, h.obs.2.2.2⟩
    oAcc := fun e => by rw [ho] at e; cases e
    oHand := fun _ => ⟨hconn, hm, hrf, nofun, fun _ => by simp only [hadd]⟩
    oLis := fun e => by rw [ho] at e; cases e }

/-! A connection in the backlog has `mem = none`, so every counter `Good` reads is zero. -/

theorem good_allocfail {x : Ctx} (h : Good x false false) (hm : x.mem = .none) (hfd : x.fdOpen = true) :
    Good { x with fdOpen := false, nFdc := x.nFdc + 1 } false false :=
  have ⟨_, _, _, _, _, _, _, _, _, _, hfdc, _⟩ := h.none_ hm
  have hfdc : x.nFdc = 0 := hfdc hfd
  { h with
    none_ := fun e => have ⟨a, b, c, d, e1, e2, e3, e4, e5, _, _, e8⟩ := h.none_ e
      ⟨a, b, c, d, e1, e2, e3, e4, e5, by simp only [hfdc]; omega, nofun, e8⟩
    live_ := fun e => nomatch hm.symm.trans e
    freed_ := fun e => nomatch hm.symm.trans e }

theorem good_regfail {x : Ctx} (h : Good x false false) (hm : x.mem = .none) (hfd : x.fdOpen = true)
    (ho : x.origin = .accepted) :
    Good { x with mem := .freed, ref := 1, flagClosed := false, nFree := x.nFree + 1,
                  regFailed := true, fdOpen := false, nFdc := x.nFdc + 1 } false false :=
  have ⟨_, hheld, _, _, hconn, hadd, hcls, hrel, hfree, _, hfdc, _⟩ := h.none_ hm
  { h with
    none_ := nofun
    live_ := nofun
    freed_ := fun _ => ⟨rfl, hheld, rfl, rfl, rfl, by simp only [hfdc hfd], by simp only [hfree], hrel⟩
    cl := fun e => nomatch (h.cl e).1
    rf := fun _ => ⟨hcls, hconn⟩
    oAcc := fun _ => ⟨hadd, rfl, fun _ => hconn, nofun⟩
    oHand := fun e => by rw [ho] at e; cases e
    oNone := fun e => by rw [ho] at e; cases e }

theorem good_accept {x : Ctx} (h : Good x false false) (hm : x.mem = .none) (hfd : x.fdOpen = true)
    (ho : x.origin = .accepted) :
    Good { x with mem := .live, ref := 1, flagClosed := false, nConn := x.nConn + 1, oConn := 1 } true false :=
  have ⟨_, hheld, _, _, hconn, hadd, hcls, hrel, hfree, _, hfdc, hrf⟩ := h.none_ hm
  { h with
    none_ := nofun
    live_ := fun _ => ⟨by simp [b2n, hheld], Nat.le_refl 1, hfd, hfdc hfd, hfree, hrel, hrf⟩
    freed_ := nofun
    once := ⟨by simp only [hconn]; omega, h.once.2⟩
    clsReg := fun e => by rw [hcls] at e; cases e
    cl := fun e => nomatch (h.cl e).1
    obs := ⟨h.obs.1, fun _ => rfl, h.obs.2.2⟩
    rf := fun e => by rw [hrf] at e; cases e
    oAcc := fun _ => ⟨hadd, rfl, fun _ => by simp [hconn, hrf], nofun⟩
    oHand := fun e => by rw [ho] at e; cases e
    oLis := fun e => by rw [ho] at e; cases e
    oNone := fun e => by rw [ho] at e; cases e }

end MgProof.C15
