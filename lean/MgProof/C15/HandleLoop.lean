import MgProof.C15.HandleSteps
/-!
# C15 — the acts of the event loop preserve the ownership invariant and cannot fail
-/
namespace MgProof.C15
open MgModel.C15

/-- The loop gives up the reference of a slot of the registration list or of the queue (`cb_clear`, `on_exit`,
a hand-over that cannot be registered). A queued context is never inside `cb_close`. -/
theorem releaseCtx_inv {s : St} (hi : Inv s) (hex : s.exited = false) {c : Nat} {R Q : List Nat}
    (hR : ListUpd c s.reg R false) (hQ : ListUpd c s.queue Q false)
    (hc : (c ∈ s.reg ∧ (s.ctx c).closing = false) ∨ c ∈ s.queue) :
    releaseCtx { s with reg := R, queue := Q } c = .ok { s.set c (relRec (s.ctx c)) with reg := R, queue := Q } ∧
      Inv { s.set c (relRec (s.ctx c)) with reg := R, queue := Q } := by
  have hl : (s.ctx c).mem = .live := hc.elim (fun h => live_of_reg hi h.1) (live_of_queue hi)
  refine ⟨releaseCtx_spec { s with reg := R, queue := Q } c hl, inv_update_live hi c _ hl hR hQ nofun ?_ (.inl hex)⟩
  rcases hc with ⟨h, hcl⟩ | h
  · exact good_release (hi.good_reg h) hl (.inl ⟨rfl, rfl⟩) hcl
  · exact good_release (hi.good_queue h) hl (.inr ⟨rfl, rfl⟩) (not_closing_of_not_reg (hi.good_queue h))

/-- what `turnRead_inv` needs of the accept loop, for the listener whose turn it is -/
structure Accepted (s s' : St) : Prop where
  inv : Inv s'
  running : s'.exited = false
  reg : ∀ c, c ∈ s.reg → c ∈ s'.reg
  live : ∀ c, (s.ctx c).mem = .live → s'.ctx c = s.ctx c

theorem Accepted.trans {s s1 s2 : St} (h1 : Accepted s s1) (h2 : Accepted s1 s2) : Accepted s s2 :=
  ⟨h2.inv, h2.running, fun c h => h2.reg c (h1.reg c h), fun c hl => by
    have e := h1.live c hl
    rw [h2.live c (e ▸ hl), e]⟩

theorem acceptOne_inv {s : St} (hi : Inv s) (hex : s.exited = false) :
    ∃ s' b, acceptOne s = .ok (s', b) ∧ Accepted s s' := by
  cases hb : s.backlog with
  | nil => exact ⟨s, false, by unfold acceptOne; rw [hb]; rfl, hi, hex, fun _ h => h, fun _ _ => rfl⟩
  | cons p rest =>
    obtain ⟨c, ok⟩ := p
    obtain ⟨hm, hfd, -, ho, -, hcn⟩ := hi.backlog (c, ok) (by simp [hb])
    have ⟨hcr, hcq⟩ := hi.not_owned hm
    have g : Good (s.ctx c) false false := by simpa [hcr, hcq] using hi.good c
    have hnd : c ∉ rest.map Prod.fst ∧ (rest.map Prod.fst).Nodup := by simpa [hb] using hi.backlogNd
    have hupd : ∀ {R : List Nat} {r : Bool} (y : Ctx), ListUpd c s.reg R r → Good y r false →
        Inv (({ s with backlog := rest, reg := R } : St).set c y) ∧
          ∀ c', (s.ctx c').mem = .live → (({ s with backlog := rest, reg := R } : St).set c y).ctx c' = s.ctx c' :=
      fun y hR hg =>
        ⟨inv_update hi c y rest s.n (Nat.le_refl _) (fun h => absurd hcn (by omega))
          (fun p hp => ⟨fun _ => by simp [hb, hp], fun e => absurd (e ▸ List.mem_map_of_mem hp) hnd.1⟩) hnd.2
          hR (.absent hi.queueNd hcq) (fun _ => rfl) hg (.inl hex),
         fun c' hl' => set_ctx_ne _ _ _ _ fun e => by rw [e, hm] at hl'; cases hl'⟩
    have hR := ListUpd.absent hi.regNd hcr
    rw [acceptOne_spec hb hfd]
    cases ok with
    | false =>
      have ⟨h1, h2⟩ := hupd _ hR (good_allocfail g hm hfd)
      exact ⟨_, false, rfl, h1, hex, fun _ h => h, h2⟩
    | true =>
      simp only [Bool.true_eq_false, if_false]
      by_cases hf : full s
      · have ⟨h1, h2⟩ := hupd _ hR (good_regfail g hm hfd ho)
        rw [if_pos hf]
        exact ⟨_, false, rfl, h1, hex, fun _ h => h, h2⟩
      · have ⟨h1, h2⟩ := hupd _ (.push hi.regNd hcr) (good_accept g hm hfd ho)
        rw [if_neg hf]
        exact ⟨_, true, rfl, h1, hex, fun _ h => by simp [h], h2⟩

theorem acceptLoop_inv : ∀ (fuel : Nat) {s : St}, Inv s → s.exited = false →
    ∃ s', acceptLoop fuel s = .ok s' ∧ Accepted s s' := by
  intro fuel
  induction fuel with
  | zero => intro s hi hex; exact ⟨s, rfl, hi, hex, fun _ h => h, fun _ _ => rfl⟩
  | succ k ih =>
    intro s hi hex
    obtain ⟨s1, b, h1, a1⟩ := acceptOne_inv hi hex
    unfold acceptLoop
    simp only [h1, bind, Except.bind]
    cases b with
    | false => exact ⟨s1, rfl, a1⟩
    | true =>
      obtain ⟨s2, h2, a2⟩ := ih a1.inv a1.running
      exact ⟨s2, by simpa using h2, a1.trans a2⟩

/-- `onWake`, `clearAll`, `exitAll` have one shape (`hs` holds by `rfl` for each): while the list `l` is not
empty, `one` takes its head. `P` is what `one` preserves. -/
theorem fuel_loop {one : St → Except Err St} {loop : Nat → St → Except Err St} {l : St → List Nat} {P : St → Prop}
    (h0 : ∀ s, loop 0 s = .ok s)
    (hs : ∀ k s, loop (k + 1) s = if (l s).isEmpty then .ok s else one s >>= loop k)
    (hone : ∀ s c rest, P s → l s = c :: rest → ∃ s', one s = .ok s' ∧ P s' ∧ l s' = rest) :
    ∀ (fuel : Nat) (s : St), P s → (l s).length ≤ fuel → ∃ s', loop fuel s = .ok s' ∧ P s' ∧ l s' = [] := by
  intro fuel
  induction fuel with
  | zero => intro s hp hl; exact ⟨s, h0 s, hp, List.length_eq_zero_iff.mp (by omega)⟩
  | succ k ih =>
    intro s hp hl
    rw [hs]
    cases hq : l s with
    | nil => exact ⟨s, rfl, hp, hq⟩
    | cons c rest =>
      obtain ⟨s1, h1, hp1, hl1⟩ := hone s c rest hp hq
      obtain ⟨s2, h2, hp2, hl2⟩ := ih s1 hp1 (by rw [hl1]; rw [hq] at hl; exact Nat.le_of_succ_le_succ hl)
      rw [show (c :: rest).isEmpty = false from rfl, if_neg nofun, h1]
      exact ⟨s2, h2, hp2, hl2⟩

theorem wakeOne_inv {s : St} (hi : Inv s) (hex : s.exited = false) {c : Nat} {rest : List Nat}
    (hq : s.queue = c :: rest) : ∃ s', wakeOne s = .ok s' ∧ (Inv s' ∧ s'.exited = false) ∧ s'.queue = rest := by
  have hcq : c ∈ s.queue := by simp [hq]
  have hl := live_of_queue hi hcq
  have g := hi.good_queue hcq
  have hcr : c ∉ s.reg := fun h => hi.disj c h hcq
  have hQ := ListUpd.tail hi.queueNd hq
  rw [wakeOne_spec hq hl (g.live_ hl).2.2.1 hi.fixed]
  by_cases hf : full s
  · have ⟨h, hi'⟩ := releaseCtx_inv hi hex (.absent hi.regNd hcr) hQ (.inr hcq)
    rw [if_pos hf]
    exact ⟨_, h, ⟨hi', hex⟩, rfl⟩
  · rw [if_neg hf]
    exact ⟨_, rfl, ⟨inv_update_live hi c _ hl (.push hi.regNd hcr) hQ (fun _ => rfl) (good_add g hl) (.inl hex),
      hex⟩, rfl⟩

theorem onWake_inv {s : St} (hi : Inv s) (hex : s.exited = false) :
    ∃ s', onWake s.queue.length s = .ok s' ∧ Inv s' :=
  have ⟨s', h, hp, _⟩ := fuel_loop (loop := onWake) (l := St.queue) (P := fun s => Inv s ∧ s.exited = false)
    (fun _ => rfl) (fun _ _ => rfl) (fun _ _ _ hp hq => wakeOne_inv hp.1 hp.2 hq) s.queue.length s ⟨hi, hex⟩ (Nat.le_refl _)
  ⟨s', h, hp.1⟩

theorem clearOne_inv {s : St} (hi : Inv s) (hex : s.exited = false)
    (hnc : ∀ c ∈ s.reg, (s.ctx c).closing = false) {c : Nat} {rest : List Nat} (hr : s.reg = c :: rest) :
    ∃ s', clearOne s = .ok s' ∧ (Inv s' ∧ s'.exited = false ∧ ∀ c ∈ s'.reg, (s'.ctx c).closing = false) ∧
      s'.reg = rest := by
  unfold clearOne
  rw [hr]
  have hcr : c ∈ s.reg := by simp [hr]
  have hR := ListUpd.tail hi.regNd hr
  have ⟨h, hi'⟩ := releaseCtx_inv hi hex hR (hi.queue_of_reg hcr) (.inl ⟨hcr, hnc c hcr⟩)
  refine ⟨_, h, ⟨hi', hex, fun c' hc' => ?_⟩, rfl⟩
  have hne : c' ≠ c := fun e => by rw [e, hR.mem] at hc'; cases hc'
  exact (congrArg Ctx.closing (set_ctx_ne s c c' _ hne)).trans (hnc c' ((hR.same c' hne).1 hc'))

theorem exitOne_inv {s : St} (hi : Inv s) (hex : s.exited = false) (hr : s.reg = []) {c : Nat} {rest : List Nat}
    (hq : s.queue = c :: rest) :
    ∃ s', exitOne s = .ok s' ∧ (Inv s' ∧ s'.exited = false ∧ s'.reg = []) ∧ s'.queue = rest := by
  unfold exitOne
  rw [hq]
  have ⟨h, hi'⟩ := releaseCtx_inv hi hex (.absent hi.regNd (by simp [hr])) (ListUpd.tail hi.queueNd hq)
    (.inr (by simp [hq]))
  exact ⟨_, h, ⟨hi', hex, hr⟩, rfl⟩

theorem runExit_inv {s : St} (hi : Inv s) (hex : s.exited = false)
    (hnc : ∀ c ∈ s.reg, (s.ctx c).closing = false) :
    ∃ s', runExit s = .ok s' ∧ Inv s' := by
  obtain ⟨s1, h1, ⟨hi1, hex1, _⟩, hr1⟩ := fuel_loop (loop := clearAll) (l := St.reg)
    (P := fun s => Inv s ∧ s.exited = false ∧ ∀ c ∈ s.reg, (s.ctx c).closing = false)
    (fun _ => rfl) (fun _ _ => rfl) (fun _ _ _ hp hr => clearOne_inv hp.1 hp.2.1 hp.2.2 hr)
    s.reg.length s ⟨hi, hex, hnc⟩ (Nat.le_refl _)
  obtain ⟨s2, h2, ⟨hi2, _, hr2⟩, hq2⟩ := fuel_loop (loop := exitAll) (l := St.queue)
    (P := fun s => Inv s ∧ s.exited = false ∧ s.reg = [])
    (fun _ => rfl) (fun _ _ => rfl) (fun _ _ _ hp hq => exitOne_inv hp.1 hp.2.1 hp.2.2 hq)
    s1.queue.length s1 ⟨hi1, hex1, hr1⟩ (Nat.le_refl _)
  refine ⟨{ s2 with exited := true }, ?_, { hi2 with exited := fun _ => ⟨hr2, hq2⟩ }⟩
  simp [runExit, h1, h2, bind, Except.bind, pure, Except.pure]

theorem turnRead_inv {s : St} (hi : Inv s) {c : Nat} (hc : c ∈ s.reg) (k : Nat) :
    ∃ s', turnRead s c k = .ok s' ∧ Inv s' ∧ c ∈ s'.reg ∧ (s'.ctx c).closing = (s.ctx c).closing := by
  have hl := live_of_reg hi hc
  cases hlis : (s.ctx c).isListener
  · rw [turnRead_client k hl hlis]
    split
    · exact ⟨_, rfl, inv_set hi c _ hl (good_read (hi.good c) k), hc, by rw [set_ctx]; rfl⟩
    · exact ⟨s, rfl, hi, hc, rfl⟩
  · unfold turnRead
    simp only [live_ok hl, bind, Except.bind, hlis, if_true]
    split
    · exact ⟨s, rfl, hi, hc, rfl⟩
    · obtain ⟨s', h, a⟩ := acceptLoop_inv (s.backlog.length + 1) hi (hi.running_of_reg hc)
      exact ⟨s', h, a.inv, a.reg c hc, by rw [a.live c hl]⟩

theorem dispatchTail_inv {s : St} (hi : Inv s) {c : Nat} (hc : c ∈ s.reg) (hnc : (s.ctx c).closing = false) :
    ∃ s', dispatchTail s c = .ok s' ∧ Inv s' := by
  have hl := live_of_reg hi hc
  rw [dispatchTail_spec s c hl]
  split
  · exact ⟨_, rfl, inv_unregister hi _ hc (good_close (hi.good_reg hc) hl hnc)⟩
  · exact ⟨s, rfl, hi⟩

theorem dispatchCtx_inv {s : St} (hi : Inv s) {c : Nat} (hc : c ∈ s.reg) (hnc : (s.ctx c).closing = false)
    (k : Nat) : ∃ s', dispatchCtx s c k = .ok s' ∧ Inv s' := by
  obtain ⟨s1, h1, hi1, hc1, hcl1⟩ := turnRead_inv hi hc k
  obtain ⟨s2, h2, hi2⟩ := dispatchTail_inv hi1 hc1 (hcl1.trans hnc)
  exact ⟨s2, by rw [dispatchCtx_eq, h1]; exact h2, hi2⟩

theorem closeBegin_inv {s : St} (hi : Inv s) {c : Nat} (hc : c ∈ s.reg) (hnc : (s.ctx c).closing = false) :
    ∃ s', closeBegin s c = .ok s' ∧ Inv s' := by
  have hl := live_of_reg hi hc
  refine ⟨_, closeBegin_spec s c hl, inv_set hi c _ hl ?_⟩
  rw [decide_eq_true hc, decide_eq_false (hi.disj c hc)]
  exact good_closeBegin (hi.good_reg hc) hl hnc

theorem closeEnd_inv {s : St} (hi : Inv s) {c : Nat} (hcl : (s.ctx c).closing = true) :
    ∃ s', closeEnd s c = .ok s' ∧ Inv s' := by
  obtain ⟨hr, hl, _⟩ := (hi.good c).cl hcl
  have hc : c ∈ s.reg := by simpa using hr
  exact ⟨_, closeEnd_spec s c hl, inv_unregister hi _ hc (good_closeEnd (hi.good_reg hc) hl)⟩

end MgProof.C15
