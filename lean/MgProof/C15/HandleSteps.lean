import MgProof.C15.HandleInv
/-!
# C15 — the generic step of the ownership invariant (one context changes), and with it the acts of
worker threads and peers and the creation of identities
-/
namespace MgProof.C15
open MgModel.C15

theorem decide_eq_of_iff {p : Prop} [Decidable p] {b : Bool} (h : p ↔ b = true) : decide p = b := by
  cases b <;> simp_all

/-- `l'` is `l` except that `c` may have entered or left; `b` tells whether `c` is in `l'` -/
structure ListUpd (c : Nat) (l l' : List Nat) (b : Bool) : Prop where
  same : ∀ c', c' ≠ c → (c' ∈ l' ↔ c' ∈ l)
  nodup : l'.Nodup
  mem : c ∈ l' ↔ b = true

theorem ListUpd.refl {c : Nat} {l : List Nat} {b : Bool} (h : l.Nodup) (hb : c ∈ l ↔ b = true) : ListUpd c l l b :=
  ⟨fun _ _ => .rfl, h, hb⟩

theorem ListUpd.absent {c : Nat} {l : List Nat} (h : l.Nodup) (hc : c ∉ l) : ListUpd c l l false :=
  .refl h (by simp [hc])

theorem ListUpd.erase {c : Nat} {l : List Nat} (h : l.Nodup) : ListUpd c l (l.erase c) false :=
  ⟨fun _ hne => by simp [List.mem_erase_of_ne hne], h.erase c, by simp [h.mem_erase_iff]⟩

theorem ListUpd.tail {c : Nat} {l rest : List Nat} (h : l.Nodup) (e : l = c :: rest) : ListUpd c l rest false := by
  subst e; simpa using ListUpd.erase (c := c) h

theorem ListUpd.push {c : Nat} {l : List Nat} (h : l.Nodup) (hc : c ∉ l) : ListUpd c l (l ++ [c]) true :=
  ⟨fun _ hne => by simp [hne],
   List.nodup_append.2 ⟨h, by simp, fun a ha b hb e => hc (by rwa [← List.mem_singleton.1 hb, ← e])⟩,
   by simp⟩

theorem disj_decide {s : St} (hi : Inv s) (c : Nat) : decide (c ∈ s.reg) = true → decide (c ∈ s.queue) = false := by
  simpa using hi.disj c

theorem Inv.queue_of_reg {s : St} (hi : Inv s) {c : Nat} (hc : c ∈ s.reg) : ListUpd c s.queue s.queue false :=
  .absent hi.queueNd (hi.disj c hc)

theorem Inv.running_of_reg {s : St} (hi : Inv s) {c : Nat} (hc : c ∈ s.reg) : s.exited = false :=
  Bool.eq_false_iff.2 fun he => by rw [(hi.exited he).1] at hc; cases hc

theorem Inv.not_owned {s : St} (hi : Inv s) {c : Nat} (hm : (s.ctx c).mem = .none) : c ∉ s.reg ∧ c ∉ s.queue :=
  have ⟨_, _, hr, hq, _⟩ := (hi.good c).none_ hm
  ⟨by simpa using hr, by simpa using hq⟩

/-- The generic step: the record of one context `c` is replaced; only `c` may enter or leave the registration
list and the queue; the backlog may shrink, or gain an entry for `c` (`hB`: then `y` is as `Inv.backlog` wants
it); identities may be handed out (`hcn`: a `c` beyond them stays untouched); after exit both lists stay empty
(`hex`). -/
theorem inv_update {s : St} (hi : Inv s) (c : Nat) (y : Ctx) {R Q : List Nat} {r q : Bool}
    (B : List (Nat × Bool)) (n : Nat) (hn : s.n ≤ n) (hcn : n ≤ c → y.mem = .none ∧ r = false ∧ q = false)
    (hB : ∀ p ∈ B, (p.1 ≠ c → p ∈ s.backlog) ∧ (p.1 = c → y.mem = .none ∧ y.fdOpen = true ∧ y.nFdc = 0 ∧
            y.origin = .accepted ∧ y.got = [] ∧ c < n))
    (hBn : (B.map Prod.fst).Nodup)
    (hR : ListUpd c s.reg R r) (hQ : ListUpd c s.queue Q q) (hrq : r = true → q = false)
    (hg : Good y r q) (hex : s.exited = false ∨ (R = s.reg ∧ Q = s.queue)) :
    Inv { s.set c y with reg := R, queue := Q, backlog := B, n := n } := by
  constructor
  case good =>
    intro c'
    show Good ((s.set c y).ctx c') (decide (c' ∈ R)) (decide (c' ∈ Q))
    by_cases h : c' = c
    · subst h
      rw [set_ctx, decide_eq_of_iff hR.mem, decide_eq_of_iff hQ.mem]
      exact hg
    · rw [set_ctx_ne _ _ _ _ h, decide_eq_decide.2 (hR.same c' h), decide_eq_decide.2 (hQ.same c' h)]
      exact hi.good c'
  case regNd => exact hR.nodup
  case queueNd => exact hQ.nodup
  case disj =>
    intro c' h1 h2
    by_cases h : c' = c
    · subst h
      have := hrq (hR.mem.1 h1)
      rw [hQ.mem.1 h2] at this; cases this
    · exact hi.disj c' ((hR.same c' h).1 h1) ((hQ.same c' h).1 h2)
  case backlog =>
    intro p hp
    show ((s.set c y).ctx p.1).mem = .none ∧ _
    by_cases h : p.1 = c
    · rw [h, set_ctx]; exact (hB p hp).2 h
    · have ⟨a, b, c1, d, e, f⟩ := hi.backlog p ((hB p hp).1 h)
      rw [set_ctx_ne _ _ _ _ h]
      exact ⟨a, b, c1, d, e, Nat.lt_of_lt_of_le f hn⟩
  case backlogNd => exact hBn
  case fresh =>
    intro c' hc'
    show ((s.set c y).ctx c').mem = .none ∧ c' ∉ R ∧ c' ∉ Q
    by_cases h : c' = c
    · subst h
      have ⟨a, b, c1⟩ := hcn hc'
      rw [set_ctx]
      exact ⟨a, fun m => (by rw [hR.mem.1 m] at b; cases b), fun m => (by rw [hQ.mem.1 m] at c1; cases c1)⟩
    · have ⟨a, b, c1⟩ := hi.fresh c' (Nat.le_trans hn hc')
      rw [set_ctx_ne _ _ _ _ h]
      exact ⟨a, fun m => b ((hR.same c' h).1 m), fun m => c1 ((hQ.same c' h).1 m)⟩
  case exited =>
    intro he
    have he : s.exited = true := he
    rcases hex with hex | ⟨rfl, rfl⟩
    · rw [hex] at he; cases he
    · exact hi.exited he
  case fixed => exact hi.fixed

theorem live_of_owner {s : St} (hi : Inv s) {c : Nat} (h : 0 < (s.ctx c).held ∨ c ∈ s.reg ∨ c ∈ s.queue) :
    (s.ctx c).mem = .live := by
  have g := hi.good c
  have owned : ¬ ((s.ctx c).held = 0 ∧ decide (c ∈ s.reg) = false ∧ decide (c ∈ s.queue) = false) := fun ⟨a, b, d⟩ => by
    rcases h with h | h | h
    · omega
    · simp [h] at b
    · simp [h] at d
  cases hm : (s.ctx c).mem
  · have ⟨_, a, b, d, _⟩ := g.none_ hm
    exact absurd ⟨a, b, d⟩ owned
  · rfl
  · have ⟨_, a, b, d, _⟩ := g.freed_ hm
    exact absurd ⟨a, b, d⟩ owned

theorem live_of_reg {s : St} (hi : Inv s) {c : Nat} (h : c ∈ s.reg) : (s.ctx c).mem = .live :=
  live_of_owner hi (.inr (.inl h))

theorem live_of_queue {s : St} (hi : Inv s) {c : Nat} (h : c ∈ s.queue) : (s.ctx c).mem = .live :=
  live_of_owner hi (.inr (.inr h))

theorem inv_update_live {s : St} (hi : Inv s) (c : Nat) (y : Ctx) {R Q : List Nat} {r q : Bool}
    (hl : (s.ctx c).mem = .live) (hR : ListUpd c s.reg R r) (hQ : ListUpd c s.queue Q q)
    (hrq : r = true → q = false) (hg : Good y r q) (hex : s.exited = false ∨ (R = s.reg ∧ Q = s.queue)) :
    Inv { s.set c y with reg := R, queue := Q } :=
  have hm {P : Prop} : (s.ctx c).mem = .none → P := fun e => by rw [hl] at e; cases e
  inv_update hi c y s.backlog s.n (Nat.le_refl _) (fun h => hm (hi.fresh c h).1)
    (fun p hp => ⟨fun _ => hp, fun e => hm (e ▸ (hi.backlog p hp).1)⟩) hi.backlogNd hR hQ hrq hg hex

theorem inv_set {s : St} (hi : Inv s) (c : Nat) (y : Ctx) (hl : (s.ctx c).mem = .live)
    (hg : Good y (decide (c ∈ s.reg)) (decide (c ∈ s.queue))) : Inv (s.set c y) :=
  inv_update_live hi c y hl (.refl hi.regNd (by simp)) (.refl hi.queueNd (by simp)) (disj_decide hi c) hg (.inr ⟨rfl, rfl⟩)

theorem inv_unregister {s : St} (hi : Inv s) {c : Nat} (y : Ctx) (hc : c ∈ s.reg) (hg : Good y false false) :
    Inv { s.set c y with reg := s.reg.erase c } :=
  inv_update_live hi c y (live_of_reg hi hc) (.erase hi.regNd) (hi.queue_of_reg hc) nofun hg
    (.inl (hi.running_of_reg hc))

/-- for a record that need not be live (bytes arrive, the peer closes): `h1`–`h5` are the fields `Inv.backlog` reads -/
theorem inv_set_kernel {s : St} (hi : Inv s) (c : Nat) (y : Ctx)
    (h1 : y.mem = (s.ctx c).mem) (h2 : y.fdOpen = (s.ctx c).fdOpen) (h3 : y.nFdc = (s.ctx c).nFdc)
    (h4 : y.origin = (s.ctx c).origin) (h5 : y.got = (s.ctx c).got)
    (hg : Good y (decide (c ∈ s.reg)) (decide (c ∈ s.queue))) : Inv (s.set c y) :=
  inv_update hi c y s.backlog s.n (Nat.le_refl _)
    (fun h => have ⟨a, b, c1⟩ := hi.fresh c h; ⟨h1 ▸ a, by simpa using b, by simpa using c1⟩)
    (fun p hp => ⟨fun _ => hp, fun e => by rw [h1, h2, h3, h4, h5, ← e]; exact hi.backlog p hp⟩)
    hi.backlogNd (.refl hi.regNd (by simp)) (.refl hi.queueNd (by simp)) (disj_decide hi c) hg (.inr ⟨rfl, rfl⟩)

theorem Inv.good_reg {s : St} (hi : Inv s) {c : Nat} (h : c ∈ s.reg) : Good (s.ctx c) true false := by
  have := hi.good c
  rwa [decide_eq_true h, decide_eq_false (hi.disj c h)] at this

theorem Inv.good_queue {s : St} (hi : Inv s) {c : Nat} (h : c ∈ s.queue) : Good (s.ctx c) false true := by
  have := hi.good c
  rwa [decide_eq_false fun hr => hi.disj c hr h, decide_eq_true h] at this

theorem retain_inv {s : St} (hi : Inv s) {c : Nat} (hl : (s.ctx c).mem = .live) :
    ∃ s', retain s c = .ok s' ∧ Inv s' :=
  have g := hi.good c
  ⟨_, retain_spec s c hl (g.live_ hl).2.1, inv_set hi c _ hl (good_retain g hl)⟩

theorem workerRelease_inv {s : St} (hi : Inv s) {c : Nat} (hh : 0 < (s.ctx c).held) :
    ∃ s', workerRelease s c = .ok s' ∧ Inv s' :=
  have hl := live_of_owner hi (.inl hh)
  ⟨_, workerRelease_spec s c hl, inv_set hi c _ hl (good_wrel (hi.good c) hl hh)⟩

theorem userShutdown_inv {s : St} (hi : Inv s) {c : Nat} (hl : (s.ctx c).mem = .live) :
    ∃ s', userShutdown s c = .ok s' ∧ Inv s' :=
  ⟨_, userShutdown_spec s c hl, inv_set hi c _ hl (good_kernel (hi.good c) (hi.good c).bytes)⟩

theorem send_inv {s : St} (hi : Inv s) (c : Nat) (b : List Nat) : Inv (send s c b) := by
  unfold send
  simp only []
  split
  · exact inv_set_kernel hi c _ rfl rfl rfl rfl rfl (good_send (hi.good c) b)
  · exact hi

theorem peerClose_inv {s : St} (hi : Inv s) (c : Nat) : Inv (peerClose s c) :=
  inv_set_kernel hi c _ rfl rfl rfl rfl rfl (good_kernel (hi.good c) (hi.good c).bytes)

theorem connect_inv {s : St} (hi : Inv s) (ok : Bool) : Inv (connect s ok) := by
  have ⟨_, hr, hq⟩ := hi.fresh s.n (Nat.le_refl _)
  refine inv_update (r := false) (q := false) hi s.n _ (s.backlog ++ [(s.n, ok)]) (s.n + 1) (Nat.le_succ _)
    (fun h => absurd h (by omega))
    (fun p hp => ⟨fun hne => ?_, fun _ => ⟨rfl, rfl, rfl, rfl, rfl, Nat.lt_succ_self _⟩⟩) ?_
    (.absent hi.regNd hr) (.absent hi.queueNd hq) nofun (by constructor <;> simp)
    (.inr ⟨rfl, rfl⟩)
  · rcases List.mem_append.1 hp with h | h
    · exact h
    · exact absurd (by rw [List.mem_singleton.1 h]) hne
  · rw [List.map_append, List.nodup_append]
    refine ⟨hi.backlogNd, by simp, fun a ha b hb => ?_⟩
    obtain ⟨p, hp, rfl⟩ := List.mem_map.1 ha
    have := (hi.backlog p hp).2.2.2.2.2
    simp at hb; omega

theorem handOver_inv {s : St} (hi : Inv s) (hex : s.exited = false) : Inv (handOver s) := by
  have ⟨_, hr, hq⟩ := hi.fresh s.n (Nat.le_refl _)
  exact inv_update (r := false) (q := true) hi s.n _ s.backlog (s.n + 1) (Nat.le_succ _)
    (fun h => absurd h (by omega))
    (fun p hp => ⟨fun _ => hp, fun e => absurd (hi.backlog p hp).2.2.2.2.2 (by omega)⟩) hi.backlogNd
    (.absent hi.regNd hr) (.push hi.queueNd hq) nofun (by constructor <;> simp [b2n]) (.inl hex)

end MgProof.C15
