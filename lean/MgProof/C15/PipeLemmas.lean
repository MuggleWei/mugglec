import MgModel.C15.Pipe
import MgProof.Conc
/-!
# C15 — lemmas about the event-loop pipe model (`MgModel.C15.Pipe`)

The invariant `PInv` of the N-writers / 1-reader program and its preservation by every step of
every thread (hence for every schedule, FIFO capacity and split of the byte stream); the delivered pointers are read
off `PInv.stream` by regrouping bytes (`groups_split`).
-/
namespace MgProof.C15.Pipe
open MgModel.C15.Pipe MgModel.Conc

theorem msgBytes_length (m : Nat) : (msgBytes m).length = 8 := by simp [msgBytes]

theorem groups_split {n : Nat} (hn : 0 < n) : ∀ (A B : List (List Nat)) (r : List Nat),
    (∀ a ∈ A, a.length = n) → (∀ b ∈ B, b.length = n) → A.flatten ++ r = B.flatten →
    ∃ C, B = A ++ C ∧ r = C.flatten := by
  intro A
  induction A with
  | nil => intro B r _ _ h; exact ⟨B, rfl, by simpa using h⟩
  | cons a A ih =>
    intro B r hA hB h
    have ha : a.length = n := hA a (by simp)
    cases B with
    | nil =>
      have : a = [] := by simpa using congrArg (List.take a.length) h
      rw [this] at ha; simp at ha; omega
    | cons b B =>
      simp only [List.flatten_cons, List.append_assoc] at h
      obtain ⟨rfl, e2⟩ := List.append_inj h (by rw [ha, hB b (by simp)])
      obtain ⟨C, rfl, hr⟩ := ih B r (fun x hx => hA x (by simp [hx])) (fun x hx => hB x (by simp [hx])) e2
      exact ⟨C, rfl, hr⟩

theorem aligned : ∀ (A B : List (List Nat)) (r : List Nat),
    (∀ a ∈ A, a.length = 8) → (∀ b ∈ B, b.length = 8) → A.flatten ++ r = B.flatten →
    A = B.take A.length := by
  intro A B r hA hB h
  obtain ⟨C, rfl, -⟩ := groups_split (by omega) A B r hA hB h
  rw [List.take_left']; rfl

theorem groups_eq {n : Nat} (hn : 0 < n) {A B : List (List Nat)} (hA : ∀ a ∈ A, a.length = n)
    (hB : ∀ b ∈ B, b.length = n) (h : A.flatten = B.flatten) : A = B := by
  obtain ⟨C, rfl, hr⟩ := groups_split hn A B [] hA hB (by simpa using h)
  cases C with
  | nil => simp
  | cons c C =>
    have h8 : c.length = n := hB c (by simp)
    rw [List.flatten_cons] at hr
    rw [(List.append_eq_nil_iff.1 hr.symm).1] at h8
    simp at h8; omega

theorem xfer_le_req (a b c : Nat) : xfer a b c ≤ a := by
  unfold xfer; simp only []; split <;> omega

theorem xfer_le_avail (a b c : Nat) : xfer a b c ≤ b := by
  unfold xfer; simp only []; split <;> omega

def inCs : WPc → Bool
  | .fence => true | .wr _ => true | .slp _ => true | .unl => true
  | _ => false

/-- the pointer whose write is in progress -/
def cur (s : St) : List Nat :=
  match s.holder with
  | some w => [(s.todo w).headD 0]
  | none => []

/-- pointers written by writer `w` so far, in order -/
def proj (l : List (Nat × Nat)) (w : Nat) : List Nat := (l.filter (fun p => p.1 == w)).map Prod.snd

structure PInv (s : St) : Prop where
  lock01 : s.lock = 0 ∨ s.lock = 1
  lockHolder : s.lock = 1 ↔ s.holder ≠ none
  cs : ∀ w, inCs (s.wpc w) = true ↔ s.holder = some w
  /-- what the holder still has to put into the pipe, by program counter -/
  link : ∀ w, s.holder = some w → ∃ m rest, s.todo w = m :: rest ∧
            (s.wpc w = .fence → s.unsent = msgBytes m) ∧
            (∀ rem, (s.wpc w = .wr rem ∨ s.wpc w = .slp rem) →
                s.unsent = (msgBytes m).drop (8 - rem) ∧ 0 < rem ∧ rem ≤ 8) ∧
            (s.wpc w = .unl → s.unsent = [])
  idle : s.holder = none → s.unsent = []
  /-- conservation of the byte stream -/
  stream : s.delivered.flatten ++ (s.buf ++ s.fifo ++ s.unsent) =
             ((s.doneLog.map Prod.snd) ++ cur s).flatMap msgBytes
  order : ∀ w, proj s.doneLog w ++ s.todo w = s.progs w
  busy : ∀ w, (s.wpc w = .acq ∨ s.wpc w = .yld) → s.todo w ≠ []
  fin : ∀ w, s.wpc w = .done → s.todo w = []
  rbuf : (∀ off, (s.rpc = .rd off ∨ s.rpc = .slp off) → s.buf.length = off ∧ off < 8) ∧
         (s.rpc = .fence → s.buf.length = 8) ∧ ((s.rpc = .yld ∨ s.rpc = .done) → s.buf = [])
  groups : ∀ g ∈ s.delivered, g.length = 8
  outside : ∀ w, s.nw ≤ w → s.wpc w = .done

/-! ## the clauses `link` and `rbuf` as functions of the program counter

`PInv` spells them out as implications, so that the invariant reads without these definitions; the step
lemmas take and give them in this form, which `cases` on a pc evaluates. -/

/-- `u`: the bytes of pointer `m` not yet in the pipe -/
def linkOk (m : Nat) (u : List Nat) : WPc → Prop
  | .fence => u = msgBytes m
  | .wr rem | .slp rem => u = (msgBytes m).drop (8 - rem) ∧ 0 < rem ∧ rem ≤ 8
  | .unl => u = []
  | _ => True

theorem link_iff {td u : List Nat} {pc : WPc} :
    (∃ m rest, td = m :: rest ∧ (pc = .fence → u = msgBytes m) ∧
      (∀ rem, (pc = .wr rem ∨ pc = .slp rem) → u = (msgBytes m).drop (8 - rem) ∧ 0 < rem ∧ rem ≤ 8) ∧
      (pc = .unl → u = [])) ↔ td ≠ [] ∧ linkOk (td.headD 0) u pc := by
  have key : ∀ m, ((pc = .fence → u = msgBytes m) ∧
      (∀ rem, (pc = .wr rem ∨ pc = .slp rem) → u = (msgBytes m).drop (8 - rem) ∧ 0 < rem ∧ rem ≤ 8) ∧
      (pc = .unl → u = [])) ↔ linkOk m u pc := fun m => by cases pc <;> simp [linkOk]
  constructor
  · rintro ⟨m, rest, rfl, h⟩; exact ⟨nofun, (key m).1 h⟩
  · rintro ⟨hne, h⟩
    obtain ⟨m, rest, rfl⟩ := List.exists_cons_of_ne_nil hne
    exact ⟨m, rest, rfl, (key m).2 h⟩

def rbufOk (b : List Nat) : RPc → Prop
  | .rd off | .slp off => b.length = off ∧ off < 8
  | .fence => b.length = 8
  | .yld | .done => b = []

theorem rbuf_iff {b : List Nat} {pc : RPc} :
    ((∀ off, (pc = .rd off ∨ pc = .slp off) → b.length = off ∧ off < 8) ∧ (pc = .fence → b.length = 8) ∧
      ((pc = .yld ∨ pc = .done) → b = [])) ↔ rbufOk b pc := by
  cases pc <;> simp [rbufOk]

theorem PInv.link' {s : St} (hi : PInv s) {w : Nat} (hh : s.holder = some w) :
    s.todo w ≠ [] ∧ linkOk ((s.todo w).headD 0) s.unsent (s.wpc w) :=
  link_iff.1 (hi.link w hh)

theorem PInv.link_at {s : St} (hi : PInv s) {w : Nat} {pc : WPc} (hpc : s.wpc w = pc) (hcs : inCs pc = true) :
    s.holder = some w ∧ s.todo w ≠ [] ∧ linkOk ((s.todo w).headD 0) s.unsent pc := by
  have hh := (hi.cs w).1 (hpc ▸ hcs)
  have := hi.link' hh
  rw [hpc] at this
  exact ⟨hh, this⟩

/-- `PInv.cs` in the form of `MgProof.Conc`'s owner lemmas (every index counts as a thread: `outside` keeps the others
at `done`) -/
theorem PInv.own {s : St} (hi : PInv s) : ∀ w, s.holder = some w ↔ (True ∧ inCs (s.wpc w) = true) :=
  fun w => (hi.cs w).symm.trans (and_iff_right trivial).symm

theorem cs_of_own {h : Option Nat} {pc : Nat → WPc} (hw : ∀ w, h = some w ↔ (True ∧ inCs (pc w) = true)) :
    ∀ w, inCs (pc w) = true ↔ h = some w :=
  fun w => ((hw w).trans (and_iff_right trivial)).symm

theorem PInv.outside_upd {s : St} (hi : PInv s) {t : Nat} (ht : t < s.nw) (pc : WPc) :
    ∀ w, s.nw ≤ w → upd s.wpc t pc w = .done :=
  upd_forall (P := fun w (pc : WPc) => s.nw ≤ w → pc = .done) (ha := fun h => absurd h (by omega)) fun w _ => hi.outside w

/-- `progs`, `nw` never change: `reach_pinv` relates `order` to the programs of the configuration -/
def StepOk (s s' : St) : Prop := PInv s' ∧ s'.progs = s.progs ∧ s'.nw = s.nw

theorem cur_congr {s s' : St} (h1 : s'.holder = s.holder) (h2 : s'.todo = s.todo) : cur s' = cur s := by
  unfold cur; rw [h1, h2]

/-- A step of writer `t` that neither takes nor clears the lock: it spins between `acq` and `yld`, or it
holds the lock and moves bytes from `unsent` to the pipe. -/
theorem pinv_writer {s : St} (hi : PInv s) (t : Nat) (ht : t < s.nw) (pc : WPc) (fifo' unsent' : List Nat) (wi' : Nat)
    (hcs : inCs pc = inCs (s.wpc t)) (hstream : fifo' ++ unsent' = s.fifo ++ s.unsent)
    (hspin : inCs pc = false → unsent' = s.unsent ∧ (s.wpc t = .acq ∨ s.wpc t = .yld) ∧ (pc = .acq ∨ pc = .yld))
    (hlink : linkOk ((s.todo t).headD 0) unsent' pc) :
    StepOk s { s with wpc := upd s.wpc t pc, fifo := fifo', unsent := unsent', wi := wi' } := by
  have hu : s.holder ≠ some t → unsent' = s.unsent := fun h =>
    (hspin (hcs.trans (Bool.eq_false_iff.2 fun e => h ((hi.cs t).1 e)))).1
  exact ⟨{ hi with
    cs := cs_of_own (own_same hi.own hcs)
    link := fun w hw => link_iff.2 <| by
      have ⟨h1, h2⟩ := hi.link' hw
      refine ⟨h1, upd_forall (P := fun w (pc : WPc) => s.holder = some w → linkOk ((s.todo w).headD 0) unsent' pc)
        (ha := fun _ => hlink) (fun w e hw => ?_) w hw⟩
      rw [hu fun h => e (Option.some.inj (hw.symm.trans h))]
      exact (hi.link' hw).2
    idle := fun h => (hu (by rw [show s.holder = none from h]; nofun)).trans (hi.idle h)
    stream := by
      show s.delivered.flatten ++ (s.buf ++ fifo' ++ unsent') = _
      rw [List.append_assoc s.buf, hstream, ← List.append_assoc s.buf]
      exact hi.stream
    busy := upd_forall (P := fun w (pc : WPc) => pc = .acq ∨ pc = .yld → s.todo w ≠ [])
      (ha := fun h => hi.busy t (hspin (by rcases h with rfl | rfl <;> rfl)).2.1) fun w _ => hi.busy w
    fin := upd_forall (P := fun w (pc : WPc) => pc = .done → s.todo w = [])
      (ha := fun h => by have := (hspin (by rw [h]; rfl)).2.2; rw [h] at this; simp at this) fun w _ => hi.fin w
    outside := hi.outside_upd ht _ }, rfl, rfl⟩

theorem pinv_pc {s : St} (hi : PInv s) (t : Nat) (ht : t < s.nw) (pc : WPc) (hcs : inCs pc = inCs (s.wpc t))
    (hspin : inCs pc = false → (s.wpc t = .acq ∨ s.wpc t = .yld) ∧ (pc = .acq ∨ pc = .yld))
    (hlink : linkOk ((s.todo t).headD 0) s.unsent pc) : StepOk s { s with wpc := upd s.wpc t pc } :=
  pinv_writer hi t ht pc s.fifo s.unsent s.wi hcs rfl (fun h => ⟨rfl, hspin h⟩) hlink

theorem holder_none_of_unlocked {s : St} (hi : PInv s) (h : s.lock = 0) : s.holder = none := by
  cases hh : s.holder with
  | none => rfl
  | some w =>
    have := hi.lockHolder.mpr (by simp [hh])
    omega

/-- the test_and_set succeeds -/
theorem pinv_acquire {s : St} (hi : PInv s) (t : Nat) (ht : t < s.nw) (hpc : s.wpc t = .acq) (hl : s.lock = 0) :
    StepOk s { s with lock := 1, wpc := upd s.wpc t .fence, holder := some t,
                      unsent := msgBytes ((s.todo t).headD 0) } := by
  have hn := holder_none_of_unlocked hi hl
  exact ⟨{ hi with
    lock01 := .inr rfl
    lockHolder := by simp
    cs := cs_of_own (own_acquire hi.own hn trivial rfl)
    link := fun w hw => link_iff.2 <| by
      obtain rfl : t = w := Option.some.inj hw
      have : linkOk ((s.todo t).headD 0) (msgBytes ((s.todo t).headD 0)) (upd s.wpc t .fence t) := by
        rw [upd_same]; rfl
      exact ⟨hi.busy t (.inl hpc), this⟩
    idle := nofun
    stream := by
      have := hi.stream
      simp only [cur, hn, hi.idle hn, List.append_nil] at this
      show s.delivered.flatten ++ (s.buf ++ s.fifo ++ msgBytes ((s.todo t).headD 0)) =
        ((s.doneLog.map Prod.snd) ++ [(s.todo t).headD 0]).flatMap msgBytes
      rw [List.flatMap_append, ← this]
      simp [List.append_assoc]
    busy := upd_forall (P := fun w (pc : WPc) => pc = .acq ∨ pc = .yld → s.todo w ≠ []) (ha := by simp) fun w _ => hi.busy w
    fin := upd_forall (P := fun w (pc : WPc) => pc = .done → s.todo w = []) (ha := nofun) fun w _ => hi.fin w
    outside := hi.outside_upd ht _ }, rfl, rfl⟩

theorem proj_append (l : List (Nat × Nat)) (t m w : Nat) :
    proj (l ++ [(t, m)]) w = if t = w then proj l w ++ [m] else proj l w := by
  unfold proj
  by_cases h : t = w <;> simp [h, List.filter_append]

/-- the holder clears the lock: its pointer is committed -/
theorem pinv_unlock {s : St} (hi : PInv s) (t : Nat) (ht : t < s.nw) (hpc : s.wpc t = .unl) :
    StepOk s { s with lock := 0, holder := none, doneLog := s.doneLog ++ [(t, (s.todo t).headD 0)],
                      todo := upd s.todo t (s.todo t).tail,
                      wpc := upd s.wpc t (if (s.todo t).tail.isEmpty then .done else .acq) } := by
  have ⟨hh, hne, hu⟩ := hi.link_at hpc rfl
  obtain ⟨m, rest, hm⟩ := List.exists_cons_of_ne_nil hne
  have hpc' : ∀ pc : WPc, (if (s.todo t).tail.isEmpty then WPc.done else .acq) = pc →
      (pc = .acq ∨ pc = .yld → (s.todo t).tail ≠ []) ∧ (pc = .done → (s.todo t).tail = []) := by
    intro pc h
    split at h <;> subst h
    · next he => exact ⟨fun h => h.elim nofun nofun, fun _ => List.isEmpty_iff.1 he⟩
    · next he => exact ⟨fun _ e => he (by rw [e]; rfl), nofun⟩
  exact ⟨{ hi with
    lock01 := .inl rfl
    lockHolder := by simp
    cs := cs_of_own (own_release hi.own hh (by split <;> rfl))
    link := nofun
    idle := fun _ => hu
    stream := by
      have := hi.stream
      simp only [cur, hh] at this
      show s.delivered.flatten ++ (s.buf ++ s.fifo ++ s.unsent) =
        (((s.doneLog ++ [(t, (s.todo t).headD 0)]).map Prod.snd) ++ []).flatMap msgBytes
      rw [this]
      simp
    order := fun w => by
      show proj (s.doneLog ++ [(t, (s.todo t).headD 0)]) w ++ upd s.todo t (s.todo t).tail w = s.progs w
      rw [proj_append, ← hi.order w]
      by_cases hw : t = w
      · subst hw; simp [hm]
      · simp [hw, upd_other _ _ _ _ (Ne.symm hw)]
    busy := upd_forall₂ (P := fun _ (pc : WPc) (l : List Nat) => pc = .acq ∨ pc = .yld → l ≠ [])
      (fun w _ => hi.busy w) (hpc' _ rfl).1
    fin := upd_forall₂ (P := fun _ (pc : WPc) (l : List Nat) => pc = .done → l = []) (fun w _ => hi.fin w) (hpc' _ rfl).2
    outside := hi.outside_upd ht _ }, rfl, rfl⟩

theorem pinv_reader {s : St} (hi : PInv s) (buf' fifo' : List Nat) (del' : List (List Nat)) (rpc' : RPc) (ri' : Nat)
    (hstream : del'.flatten ++ (buf' ++ fifo') = s.delivered.flatten ++ (s.buf ++ s.fifo))
    (hr : rbufOk buf' rpc') (hg : ∀ g ∈ del', g.length = 8) :
    StepOk s { s with buf := buf', fifo := fifo', delivered := del', rpc := rpc', ri := ri' } :=
  ⟨{ hi with
    stream := by
      have := hi.stream
      show del'.flatten ++ (buf' ++ fifo' ++ s.unsent) = ((s.doneLog.map Prod.snd) ++ cur s).flatMap msgBytes
      rw [← List.append_assoc, hstream, List.append_assoc]
      simpa [List.append_assoc] using this
    rbuf := rbuf_iff.2 hr
    groups := hg }, rfl, rfl⟩

theorem pinv_rpc {s : St} (hi : PInv s) (rpc' : RPc) (hr : rbufOk s.buf rpc') : StepOk s { s with rpc := rpc' } :=
  pinv_reader hi s.buf s.fifo s.delivered rpc' s.ri rfl hr hi.groups

def Post (s : St) : Option (St × List String) → Prop
  | some p => StepOk s p.1
  | none => True

theorem writerStep_inv {s : St} (hi : PInv s) (t : Nat) (ht : t < s.nw) : Post s (writerStep s t) := by
  unfold writerStep
  split
  · trivial
  · next hpc =>  -- `.acq`
    split
    · next hl => exact pinv_acquire hi t ht hpc hl
    · exact pinv_pc hi t ht .yld (by rw [hpc]; rfl) (fun _ => ⟨.inl hpc, .inr rfl⟩) trivial
  · next hpc =>  -- `.yld`
    exact pinv_pc hi t ht .acq (by rw [hpc]; rfl) (fun _ => ⟨.inr hpc, .inl rfl⟩) trivial
  · next hpc =>  -- `.fence`
    have ⟨_, _, hu⟩ := hi.link_at hpc rfl
    exact pinv_pc hi t ht (.wr 8) (by rw [hpc]; rfl) nofun ⟨hu, by omega, by omega⟩
  · next rem hpc =>  -- `.wr rem`: `n ≤ rem` bytes move to the pipe; `rem - n = 0` decides `.unl` or `.wr`
    obtain ⟨-, -, hu, hr0, hr8⟩ := hi.link_at hpc rfl
    simp only []
    split
    · exact pinv_pc hi t ht (.slp rem) (by rw [hpc]; rfl) nofun ⟨hu, hr0, hr8⟩
    · have hn := xfer_le_req rem (s.cap - s.fifo.length) (script s.wchunks s.wi)
      generalize xfer rem (s.cap - s.fifo.length) (script s.wchunks s.wi) = n at hn ⊢
      refine pinv_writer hi t ht _ _ (s.unsent.drop n) (s.wi + 1) ?_ ?_ ?_ ?_
      · rw [hpc]; split <;> rfl
      · rw [← hu, List.append_assoc, List.take_append_drop]
      · intro h; split at h <;> cases h
      · split
        · exact List.drop_eq_nil_of_le (by rw [hu]; simp [msgBytes_length]; omega)
        · exact ⟨by rw [hu, List.drop_drop]; congr 1; omega, by omega, by omega⟩
  · next rem hpc =>  -- `.slp rem`
    have ⟨_, _, hu⟩ := hi.link_at hpc rfl
    exact pinv_pc hi t ht (.wr rem) (by rw [hpc]; rfl) nofun hu
  · next hpc => exact pinv_unlock hi t ht hpc  -- `.unl`

theorem readerStep_inv {s : St} (hi : PInv s) (t : Nat) : Post s (readerStep s t) := by
  have hb := rbuf_iff.1 hi.rbuf
  unfold readerStep
  split
  · trivial
  · next off hpc =>  -- `.rd off`
    rw [hpc] at hb
    obtain ⟨hbl, ho8⟩ := hb
    split
    · split
      · exact pinv_rpc hi .yld (List.length_eq_zero_iff.1 (by omega))
      · exact pinv_rpc hi (.slp off) ⟨hbl, ho8⟩
    · simp only []
      have hn1 := xfer_le_req (8 - off) s.fifo.length (script s.rchunks s.ri)
      have hn2 := xfer_le_avail (8 - off) s.fifo.length (script s.rchunks s.ri)
      generalize xfer (8 - off) s.fifo.length (script s.rchunks s.ri) = n at hn1 hn2 ⊢
      have hlen : (s.buf ++ s.fifo.take n).length = off + n := by simp [List.length_take]; omega
      refine pinv_reader hi _ _ s.delivered _ (s.ri + 1) (by rw [List.append_assoc, List.take_append_drop]) ?_
        hi.groups
      split
      · next he => exact hlen.trans he
      · exact ⟨hlen, by omega⟩
  · next off hpc =>  -- `.slp off`
    rw [hpc] at hb
    exact pinv_rpc hi (.rd off) hb
  · next hpc =>  -- `.yld`
    rw [hpc] at hb
    exact pinv_rpc hi (.rd 0) ⟨by rw [show s.buf = [] from hb]; rfl, by omega⟩
  · next hpc =>  -- `.fence`
    rw [hpc] at hb
    simp only []
    refine pinv_reader hi [] s.fifo (s.delivered ++ [s.buf]) _ s.ri (by simp [List.append_assoc]) ?_ ?_
    · split
      · rfl
      · exact ⟨rfl, by omega⟩
    · intro g hg
      rcases List.mem_append.1 hg with hg | hg
      · exact hi.groups g hg
      · rw [List.mem_singleton.1 hg]; exact hb

theorem step_inv {s : St} (hi : PInv s) (tok : Tok) : Post s (step s tok) := by
  unfold step
  split
  · next ht => exact writerStep_inv hi _ ht
  · split
    · exact readerStep_inv hi _
    · trivial

theorem init_pinv (c : Conf) : PInv (mkInit c) where
  lock01 := .inl rfl
  lockHolder := by simp [mkInit]
  cs w := by simp only [mkInit]; split <;> simp [inCs]
  link := nofun
  idle _ := rfl
  stream := by simp [mkInit, cur]
  order w := by simp [mkInit, proj]
  busy w hw := by
    simp only [mkInit] at hw ⊢
    split at hw
    · next h => exact fun e => h.2 (by rw [e]; rfl)
    · rcases hw with hw | hw <;> cases hw
  fin w hw := by
    simp only [mkInit] at hw ⊢
    split at hw
    · cases hw
    · next h =>
      by_cases hlt : w < c.progs.length
      · simpa [hlt] using h
      · simp [List.getElem?_eq_none (Nat.le_of_not_lt hlt)]
  rbuf := rbuf_iff.2 <| by
    show rbufOk [] (if _ then _ else _)
    split
    · rfl
    · exact ⟨rfl, by omega⟩
  groups := nofun
  outside w hw := if_neg fun h => absurd h.1 (Nat.not_lt.2 hw)

theorem reach_pinv (c : Conf) : ∀ s, Reach step (mkInit c) s → StepOk (mkInit c) s :=
  Reach.inv _ ⟨init_pinv c, rfl, rfl⟩ fun _ tok _ _ hi h => by
    have := step_inv hi.1 tok
    rw [h] at this
    exact ⟨this.1, this.2.1.trans hi.2.1, this.2.2.trans hi.2.2⟩

theorem msgBytes_groups (l : List Nat) : ∀ b ∈ l.map msgBytes, b.length = 8 := by
  intro b hb
  obtain ⟨m, _, rfl⟩ := List.mem_map.1 hb
  exact msgBytes_length m

/-- the committed pointers (lock order), followed by the pointer whose write is in progress -/
def committed (s : St) : List Nat := s.doneLog.map Prod.snd ++ cur s

theorem delivered_prefix {s : St} (hi : PInv s) :
    s.delivered = ((committed s).map msgBytes).take s.delivered.length := by
  have h := hi.stream
  rw [List.flatMap_def] at h
  exact aligned s.delivered ((committed s).map msgBytes) _ hi.groups (msgBytes_groups _) h

theorem holder_none_of_done {s : St} (hi : PInv s) (hd : ∀ w, w < s.nw → s.wpc w = .done) : s.holder = none := by
  cases hh : s.holder with
  | none => rfl
  | some w =>
    have h1 := (hi.cs w).mpr hh
    have h2 : s.wpc w = .done := by
      by_cases hw : w < s.nw
      · exact hd w hw
      · exact hi.outside w (Nat.le_of_not_lt hw)
    rw [h2] at h1; simp [inCs] at h1

theorem delivered_complete {s : St} (hi : PInv s) (hd : ∀ w, w < s.nw → s.wpc w = .done)
    (hf : s.fifo = []) (hb : s.buf = []) :
    s.delivered = (s.doneLog.map Prod.snd).map msgBytes := by
  have hn := holder_none_of_done hi hd
  have h := hi.stream
  simp only [hf, hb, hi.idle hn, cur, hn, List.append_nil] at h
  rw [List.flatMap_def] at h
  exact groups_eq (by omega) hi.groups (msgBytes_groups _) h

end MgProof.C15.Pipe
