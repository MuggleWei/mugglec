import MgProof.C15.HandleLoop
/-!
# C15 — legal histories of the socket-handle model: every act is safe and keeps the invariant
-/
namespace MgProof.C15
open MgModel.C15

/-- What makes an act a legal move of the environment (peers, worker threads, the back-end
that drives the loop). Peers may do anything at any time. A thread may shut down or retain a
context only while it may touch it at all: it holds a reference, or it runs inside a callback
of the loop for that registered context, or it created the context and the loop has not yet
taken it from the hand-over queue. A worker releases only a reference it holds. A context
is handed over only while the loop has not exited. The loop acts only while it runs; a context
gets a turn only while it is registered and the loop is not already inside `cb_close` for it;
`closeEnd c` is the return of that callback; the loop does not leave `run` from inside a callback.
Acts of other threads are legal at *any* point of a turn, in particular between `closeBegin c`
and `closeEnd c`, i.e. inside the user's `cb_close`. -/
def Legal (s : St) : Act → Prop
  | .connect _ => True
  | .send _ _ => True
  | .peerClose _ => True
  | .shutdown c => 0 < (s.ctx c).held ∨ c ∈ s.reg ∨ c ∈ s.queue
  | .retain c => 0 < (s.ctx c).held ∨ c ∈ s.reg ∨ c ∈ s.queue
  | .workerRelease c => 0 < (s.ctx c).held
  | .handOver => s.exited = false
  | .wake => s.exited = false
  | .dispatch c _ => s.exited = false ∧ c ∈ s.reg ∧ (s.ctx c).closing = false
  | .turnRead c _ => s.exited = false ∧ c ∈ s.reg ∧ (s.ctx c).closing = false
  | .closeBegin c => s.exited = false ∧ c ∈ s.reg ∧ (s.ctx c).closing = false
  | .closeEnd c => s.exited = false ∧ (s.ctx c).closing = true
  | .exit => s.exited = false ∧ ∀ c ∈ s.reg, (s.ctx c).closing = false

theorem apply_inv {s : St} (hi : Inv s) (a : Act) (hl : Legal s a) :
    ∃ s', apply s a = .ok s' ∧ Inv s' := by
  cases a with
  | connect ok => exact ⟨_, rfl, connect_inv hi ok⟩
  | send c b => exact ⟨_, rfl, send_inv hi c b⟩
  | peerClose c => exact ⟨_, rfl, peerClose_inv hi c⟩
  | shutdown c => exact userShutdown_inv hi (live_of_owner hi hl)
  | retain c => exact retain_inv hi (live_of_owner hi hl)
  | workerRelease c => exact workerRelease_inv hi hl
  | handOver => exact ⟨_, rfl, handOver_inv hi hl⟩
  | wake => exact onWake_inv hi hl
  | dispatch c k => exact dispatchCtx_inv hi hl.2.1 hl.2.2 k
  | turnRead c k => exact have ⟨s', h, hi', _⟩ := turnRead_inv hi hl.2.1 k; ⟨s', h, hi'⟩
  | closeBegin c => exact closeBegin_inv hi hl.2.1 hl.2.2
  | closeEnd c => exact closeEnd_inv hi hl.2
  | exit => exact runExit_inv hi hl.1 hl.2

def LegalRun : St → List Act → Prop
  | _, [] => True
  | s, a :: as => Legal s a ∧ ∀ s', apply s a = .ok s' → LegalRun s' as

theorem run_inv : ∀ (as : List Act) {s : St}, Inv s → LegalRun s as → ∃ s', run s as = .ok s' ∧ Inv s' := by
  intro as
  induction as with
  | nil => intro s hi _; exact ⟨s, rfl, hi⟩
  | cons a as ih =>
    intro s hi hl
    obtain ⟨s1, h1, hi1⟩ := apply_inv hi a hl.1
    obtain ⟨s2, h2, hi2⟩ := ih hi1 (hl.2 s1 h1)
    exact ⟨s2, by simp [run, h1, bind, Except.bind, h2], hi2⟩

theorem empty_inv (cap : Option Nat) : Inv { cap := cap } where
  good _ := by constructor <;> simp
  regNd := .nil
  queueNd := .nil
  disj := nofun
  backlog := nofun
  backlogNd := .nil
  fresh _ _ := ⟨rfl, nofun, nofun⟩
  exited := nofun
  fixed := rfl

/-- the listener is a context created live and registered at once -/
theorem init_inv (cap : Option Nat) : Inv (init cap true) :=
  inv_update (r := true) (q := false) (empty_inv cap) 0 _ [] 1 (Nat.zero_le _) (fun h => absurd h (by omega)) nofun .nil
    (.push .nil nofun) (.absent .nil nofun) (fun _ => rfl) (by constructor <;> simp [b2n]) (.inl rfl)

end MgProof.C15
