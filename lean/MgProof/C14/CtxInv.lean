import MgProof.C14.Step
/-! C14: the bookkeeping invariant of the handed-over contexts: every context is in exactly one
place (hand-over queue, registered list, released, dropped), never registered twice, never touched
after its release. -/
namespace MgProof.C14
open MgModel.Conc MgModel.C14

theorem cnt_snoc (l : List Ctx) (a c : Ctx) : (l ++ [a]).count c = l.count c + (if a = c then 1 else 0) := by
  rw [List.count_append, List.count_singleton]
  by_cases h : a = c <;> simp [h]

theorem cnt_cons (l : List Ctx) (a c : Ctx) : (a :: l).count c = l.count c + (if a = c then 1 else 0) := by
  rw [List.count_cons]
  by_cases h : a = c <;> simp [h]

theorem filter_mem_len_zero (cs l : List Ctx) (h : ∀ c ∈ cs, c ∉ l) :
    (cs.filter (· ∈ l)).length = 0 := by
  rw [List.length_eq_zero_iff, List.filter_eq_nil_iff]
  intro a ha
  simpa using h a ha

/-- 1 for the pre-registered I/O context -/
def ioOne (cfg : Cfg) (c : Ctx) : Nat := if cfg.ioCtx = true ∧ c = cfg.ioId then 1 else 0

/-- one more than the largest index a hand-over thread standing at the given pc may have enqueued -/
def handedBound : Pc → Option Nat
  | .hLock i _ => some i
  | .hUnlock i _ | .hWake i _ => some (i + 1)
  | _ => none

/-- `on_exit` has run -/
def exited : Pc → Bool
  | .exUnlock | .done => true
  | _ => false

theorem gone_of_exited {p : Pc} (h : exited p = true) : gone p = true := by
  cases p <;> first | rfl | cases h

namespace CtxI

/-- a hand-over thread has enqueued nothing beyond its current context -/
abbrev Fr (s : St) : Prop :=
  ∀ t b, handedBound (s.pc t) = some b → ∀ d ∈ s.handed, d.1 = t → d.2 < b

/-- handed-over contexts carry the index of a real thread, so none is the I/O context `(n, 0)` -/
abbrev Hbd (cfg : Cfg) (s : St) : Prop := ∀ d ∈ s.handed, d.1 < cfg.n

abbrev Part (cfg : Cfg) (s : St) : Prop :=
  ∀ c, s.queue.count c + s.reg.count c + s.relLog.count c + s.lost.count c
    = s.handed.count c + ioOne cfg c

/-- a context leaves the queue before it is registered, and only once -/
abbrev Rl (s : St) : Prop := ∀ c, s.regLog.count c + s.queue.count c ≤ s.handed.count c

abbrev Nolost (cfg : Cfg) (s : St) : Prop := cfg.fix.addFail = true → s.lost = []

abbrev Ioreg (cfg : Cfg) (s : St) : Prop :=
  cfg.ioCtx = true → gone (s.pc cfg.lt) = false → cfg.ioId ∈ s.reg

abbrev RegE (cfg : Cfg) (s : St) : Prop := gone (s.pc cfg.lt) = true → s.reg = []

abbrev Cnt (cfg : Cfg) (s : St) : Prop :=
  s.clears = (if gone (s.pc cfg.lt) then 1 else 0) ∧ s.exits = (if exited (s.pc cfg.lt) then 1 else 0)

end CtxI

open CtxI in
structure CtxI (cfg : Cfg) (s : St) : Prop where
  fr   : Fr s
  hnd  : s.handed.Nodup
  hbd  : Hbd cfg s
  part : Part cfg s
  rl   : Rl s
  uaf  : s.uaf = 0
  nolost : Nolost cfg s
  ioreg : Ioreg cfg s
  regE : RegE cfg s
  cnt  : Cnt cfg s

theorem CtxI.ioId_not_handed {cfg : Cfg} {s : St} (h : CtxI cfg s) : cfg.ioId ∉ s.handed := by
  intro hm
  have := h.hbd _ hm
  simp [Cfg.ioId] at this

theorem CtxI.ioOne_handed {cfg : Cfg} {s : St} (h : CtxI cfg s) {c : Ctx} (hc : c ∈ s.handed) :
    ioOne cfg c = 0 := by
  unfold ioOne
  split
  · rename_i e
    exact absurd (e.2 ▸ hc) h.ioId_not_handed
  · rfl

theorem CtxI.handed_count {cfg : Cfg} {s : St} (h : CtxI cfg s) {c : Ctx} (hc : c ∈ s.handed) :
    s.handed.count c = 1 :=
  Nat.le_antisymm (List.nodup_iff_count.mp h.hnd c) (List.one_le_count_iff.mpr hc)

/-- a handed-over context is in exactly one of the four places -/
theorem CtxI.handed_once {cfg : Cfg} {s : St} (h : CtxI cfg s) {c : Ctx} (hc : c ∈ s.handed) :
    s.queue.count c + s.reg.count c + s.relLog.count c + s.lost.count c = 1 := by
  rw [h.part c, h.handed_count hc, h.ioOne_handed hc]

theorem CtxI.total_le_one {cfg : Cfg} {s : St} (h : CtxI cfg s) (c : Ctx) :
    s.queue.count c + s.reg.count c + s.relLog.count c + s.lost.count c ≤ 1 := by
  by_cases hc : c ∈ s.handed
  · exact Nat.le_of_eq (h.handed_once hc)
  · rw [h.part c, List.count_eq_zero_of_not_mem hc]
    unfold ioOne
    split <;> omega

theorem CtxI.io_not_rel {cfg : Cfg} {s : St} (h : CtxI cfg s) (hio : cfg.ioCtx = false) :
    cfg.ioId ∉ s.relLog := by
  intro hm
  have h1 := h.part cfg.ioId
  have h2 : 1 ≤ s.relLog.count cfg.ioId := List.one_le_count_iff.mpr hm
  rw [List.count_eq_zero_of_not_mem h.ioId_not_handed] at h1
  simp only [ioOne, hio] at h1
  simp at h1
  omega

theorem initPc_ne_h (r : Role) :
    (∀ i l, initPc r = .hLock i l → i = 0) ∧ (∀ i l, initPc r ≠ .hUnlock i l) ∧ (∀ i l, initPc r ≠ .hWake i l) := by
  rcases initPc_cases r with e | e | e | ⟨_, e⟩ | ⟨_, e⟩ | ⟨_, e⟩ <;> simp [e]

theorem ctx_init (cfg : Cfg) (hl : ∃ k, cfg.role cfg.lt = .loop k) (hn : cfg.lt < cfg.n) :
    CtxI cfg (mkInit cfg) := by
  obtain ⟨k, hk⟩ := hl
  refine ⟨?_, ?_, ?_, ?_, ?_, rfl, fun _ => rfl, ?_, ?_, ?_⟩
  · intro t b _ d hd; simp [mkInit] at hd
  · simp [mkInit]
  · intro d hd; simp [mkInit] at hd
  · intro c
    simp only [mkInit, ioOne]
    by_cases hio : cfg.ioCtx = true
    · by_cases hc : c = cfg.ioId
      · subst hc; simp [hio]
      · have : ¬ (cfg.ioId = c) := fun e => hc e.symm
        simp [hio, hc, this]
    · simp [hio]
  · intro c; simp [mkInit]
  · intro hio _; simp [mkInit, hio]
  · intro hg; simp [mkInit, hn, hk, initPc, gone] at hg
  · simp [CtxI.Cnt, mkInit, hn, hk, initPc, gone, exited]

variable {cfg : Cfg} {s s' : St} {t : Nat}

theorem CtxI.not_rel (h : CtxI cfg s) {c : Ctx} (hc : c ∈ s.queue ∨ c ∈ s.reg) : c ∉ s.relLog := by
  intro hr
  have := h.total_le_one c
  have h3 : 1 ≤ s.relLog.count c := List.one_le_count_iff.mpr hr
  rcases hc with a | a
  · have : 1 ≤ s.queue.count c := List.one_le_count_iff.mpr a
    omega
  · have : 1 ≤ s.reg.count c := List.one_le_count_iff.mpr a
    omega

theorem CtxI.io_live (h : CtxI cfg s) (hg : gone (s.pc cfg.lt) = false) : cfg.ioId ∉ s.relLog := by
  cases hio : cfg.ioCtx with
  | false => exact h.io_not_rel hio
  | true => exact h.not_rel (.inr (h.ioreg hio hg))

theorem nodup_handed_snoc {i : Nat} {r : List Bool} (hfr : CtxI.Fr s) (hnd : s.handed.Nodup)
    (hq : s.pc t = .hLock i r) : (s.handed ++ [(t, i)]).Nodup := by
  rw [List.nodup_append]
  refine ⟨hnd, by simp, ?_⟩
  intro a ha b hb e
  rw [List.mem_singleton] at hb
  subst hb; subst e
  exact Nat.lt_irrefl _ (hfr t i (by rw [hq]; rfl) _ ha rfl)

namespace CtxI

theorem books_step (h1 : Part cfg s) (h2 : Rl s) (st : Step cfg s t s') : Part cfg s' ∧ Rl s' := by
  refine ⟨fun c => ?_, fun c => ?_⟩ <;> have a := h1 c <;> have b := h2 c <;> cases st with
  | wkAddOk hp hq | wkAddRel hp hq | wkAddLost hp hq =>
    rw [hq, cnt_cons] at a b
    simp only [release, cnt_snoc]
    omega
  | chkExitLeave hp | exLock hp =>
    simp only [release, List.count_append, List.count_nil]
    omega
  | hLock hp =>
    simp only [cnt_snoc]
    omega
  | _ => assumption

theorem Fr.step (h : Fr s) (st : Step cfg s t s') : Fr s' := by
  cases st with
  | hLock hp =>
    -- the context enqueued has the index of the bound, the bound goes up by one
    intro u b hb d hd hu
    rcases upd_elim (Q := fun p => handedBound p = some b) hb with ⟨rfl, e⟩ | ⟨hne, e⟩
    · cases e
      rcases List.mem_append.1 hd with a | a
      · exact Nat.lt_succ_of_lt (h u _ (by rw [hp]; rfl) d a hu)
      · rw [List.mem_singleton.1 a]; exact Nat.lt_succ_self _
    · rcases List.mem_append.1 hd with a | a
      · exact h u b e d a hu
      · rw [List.mem_singleton.1 a] at hu; exact absurd hu.symm hne
  | hUnlock hp =>
    intro u b hb d hd hu
    rcases upd_elim (Q := fun p => handedBound p = some b) hb with ⟨rfl, e⟩ | ⟨_, e⟩
    · exact h u b (by rw [hp]; exact e) d hd hu
    · exact h u b e d hd hu
  | hWake hp =>
    intro u b hb d hd hu
    rcases upd_elim (Q := fun p => handedBound p = some b) hb with ⟨rfl, e⟩ | ⟨_, e⟩
    · refine h u b ?_ d hd hu
      rw [hp]
      split at e
      · cases e
      · exact e
    · exact h u b (woken_before (Q := fun p => handedBound p = some b) (by simp [handedBound]) e) d hd hu
  | eWake hp | wWrite hp | iWrite hp =>
    exact fun u b hb => h u b (written_before (Q := fun p => handedBound p = some b)
      (by simp [handedBound]) (by simp [handedBound, ↓apply_ite handedBound]) hb)
  | idle hp => exact h
  | _ =>
    exact fun u b hb => h u b (pc_before (Q := fun p => handedBound p = some b)
      (by simp [handedBound, ↓apply_ite handedBound]) hb)

theorem hnd_step (hfr : Fr s) (h : s.handed.Nodup) (st : Step cfg s t s') : s'.handed.Nodup := by
  cases st with
  | hLock hp => exact nodup_handed_snoc hfr h hp
  | _ => exact h

theorem Hbd.step (ht : Typ cfg s) (h : Hbd cfg s) (st : Step cfg s t s') : Hbd cfg s' := by
  cases st with
  | hLock hp =>
    intro d hd
    rcases List.mem_append.1 hd with a | a
    · exact h d a
    · rw [List.mem_singleton.1 a]
      exact ht.lt_n (by simp [hp])
  | _ => exact h

theorem Nolost.step (h : Nolost cfg s) (st : Step cfg s t s') : Nolost cfg s' := by
  cases st with
  | wkAddLost hp hq ok fix => exact fun hf => absurd hf (by simp [fix])
  | _ => exact h

end CtxI

/-- callbacks touch contexts that are queued or registered, and the I/O context while the loop runs -/
theorem CtxI.uaf_step (ht : Typ cfg s) (h : CtxI cfg s) (st : Step cfg s t s') : s'.uaf = 0 := by
  cases st with
  | wkAddOk hp hq | wkAddLost hp hq =>
    show s.uaf + (if _ ∈ s.relLog then 1 else 0) = 0
    rw [h.uaf, if_neg (h.not_rel (.inl (hq ▸ List.mem_cons_self)))]
  | wkAddRel hp hq =>
    show s.uaf + (List.filter (· ∈ s.relLog) [_]).length = 0
    rw [h.uaf, filter_mem_len_zero]
    exact fun c hc => h.not_rel (.inl (by rw [hq, List.mem_singleton.1 hc]; exact List.mem_cons_self))
  | chkExitLeave hp =>
    show s.uaf + (List.filter (· ∈ s.relLog) s.reg).length = 0
    rw [h.uaf, filter_mem_len_zero]
    exact fun c hc => h.not_rel (.inr hc)
  | exLock hp =>
    show s.uaf + (List.filter (· ∈ s.relLog) s.queue).length = 0
    rw [h.uaf, filter_mem_len_zero]
    exact fun c hc => h.not_rel (.inl hc)
  | poll hp | woken hp | eagain hp | wkChkElse hp | wkSet hp =>
    obtain rfl := loopPc_lt ht (by rw [hp]; rfl)
    show s.uaf + (if cfg.ioId ∈ s.relLog then _ else 0) = 0
    rw [h.uaf, if_neg (h.io_live (by rw [hp]; rfl))]
  | _ => exact h.uaf

/-- the clauses that follow the loop thread through `chkExit → exLock → exUnlock → done` -/
theorem CtxI.exit_step (ht : Typ cfg s) (h : CtxI cfg s) (st : Step cfg s t s') :
    CtxI.Ioreg cfg s' ∧ CtxI.RegE cfg s' ∧ CtxI.Cnt cfg s' := by
  have fcnt : s'.clears = s.clears → s'.exits = s.exits →
      gone (s'.pc cfg.lt) = gone (s.pc cfg.lt) → exited (s'.pc cfg.lt) = exited (s.pc cfg.lt) →
      CtxI.Cnt cfg s' := by
    intro e2 e3 e4 e5
    unfold CtxI.Cnt
    rw [e2, e3, e4, e5]
    exact h.cnt
  have frame : s'.reg = s.reg → s'.clears = s.clears → s'.exits = s.exits →
      gone (s'.pc cfg.lt) = gone (s.pc cfg.lt) → exited (s'.pc cfg.lt) = exited (s.pc cfg.lt) →
      CtxI.Ioreg cfg s' ∧ CtxI.RegE cfg s' ∧ CtxI.Cnt cfg s' := by
    intro e1 e2 e3 e4 e5
    refine ⟨?_, ?_, fcnt e2 e3 e4 e5⟩
    · unfold CtxI.Ioreg; rw [e1, e4]; exact h.ioreg
    · unfold CtxI.RegE; rw [e1, e4]; exact h.regE
  by_cases hne : t = cfg.lt
  · subst hne
    obtain ⟨c, e⟩ := h.cnt
    cases st with
    | chkExitLeave hp =>
      refine ⟨fun _ hg => by simp [gone] at hg, fun _ => rfl, ?_⟩
      simp [CtxI.Cnt, release, gone, exited, c, e, hp]
    | exLock hp =>
      refine ⟨fun _ hg => by simp [gone] at hg, fun _ => h.regE (by rw [hp]; rfl), ?_⟩
      simp [CtxI.Cnt, release, gone, exited, c, e, hp]
    | wkAddOk hp hq =>
      have hg : gone (s.pc cfg.lt) = false := by rw [hp]; rfl
      refine ⟨fun hio _ => List.mem_append_left _ (h.ioreg hio hg), fun hg' => ?_,
        fcnt rfl rfl ((congrArg gone (upd_same ..)).trans (by simp [hp, gone, ↓apply_ite gone]))
          ((congrArg exited (upd_same ..)).trans (by simp [hp, exited, ↓apply_ite exited]))⟩
      simp only [upd_same] at hg'; split at hg' <;> cases hg'
    | wWrite hp | hLock hp | hUnlock hp | hWake hp | iWrite hp =>
      exact absurd rfl (ht.ne_lt (by simp [hp, isLoopPc, isExitPc]))
    | idle hp => exact ⟨h.ioreg, h.regE, h.cnt⟩
    | _ =>
      exact frame rfl rfl rfl
        ((congrArg gone (upd_same ..)).trans (by simp [*, gone, ↓apply_ite gone]))
        ((congrArg exited (upd_same ..)).trans (by simp [*, exited, ↓apply_ite exited]))
  · obtain ⟨-, -, -, freg, fcl, fex, fpc⟩ := st.other (ht.nonloop t hne) hne
    exact frame freg fcl fex (blind fpc gone rfl) (blind fpc exited rfl)

theorem CtxI.step (ht : Typ cfg s) (h : CtxI cfg s) (st : Step cfg s t s') : CtxI cfg s' :=
  have he := h.exit_step ht st
  have hb := CtxI.books_step h.part h.rl st
  { fr := h.fr.step st, hnd := CtxI.hnd_step h.fr h.hnd st, hbd := CtxI.Hbd.step ht h.hbd st,
    part := hb.1, rl := hb.2, uaf := h.uaf_step ht st,
    nolost := CtxI.Nolost.step h.nolost st, ioreg := he.1, regE := he.2.1, cnt := he.2.2 }

theorem ctx_step {tok : Tok} {ev : List String}
    (ht : Typ cfg s) (h : CtxI cfg s) (hs : step cfg s tok = some (s', ev)) : CtxI cfg s' := by
  rw [step_some hs]
  exact h.step ht Step.of_nxt

end MgProof.C14
