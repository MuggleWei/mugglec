import MgProof.C14.LoopInv
/-! C14: bounded progress of the loop thread when all other threads have finished: a variant that
decreases with every step once an exit has been requested (`mu`: the liveness half of "an exit
request makes run() return"), and one for reaching the wake callback while a request is unserved (`mu2`). -/
namespace MgProof.C14
open MgModel.Conc MgModel.C14

def nEv (l : List Src) : Nat := l.count Src.ev

theorem nEv_advPlan {pl : List Src} (h : Src.ev ∈ pl) : nEv (advPlan pl) + 1 = nEv pl := by
  induction pl with
  | nil => simp at h
  | cons x xs ih =>
    cases x with
    | ev => simp [advPlan, nEv]
    | io =>
      have h' : Src.ev ∈ xs := by simpa using h
      have := ih h'
      simp only [advPlan, nEv, List.count_cons] at this ⊢
      simpa using this

def OthersDone (cfg : Cfg) (s : St) : Prop := ∀ t, t ≠ cfg.lt → s.pc t = .done

/-- how far the loop thread is from returning. Inside `handle_wakeup` the pcs count down from 12; an
eventfd entry still to dispatch is worth 40 > 12 steps, a poll 60 > 40 + 12 (it may find the eventfd);
`chkExit` with WAKE (the literal `2`) goes back to `poll`, hence 200 > 60; `runStart` may put the
eventfd on the ready list, hence the `+ 1`. `mu` adds the queue length for the `wkAdd` loop. -/
def stage (cfg : Cfg) (s : St) : Pc → Nat
  | .done => 0
  | .exUnlock => 1
  | .exLock => 2
  | .chkExit => if s.toExit = 2 then 200 + 40 * nEv (harvest cfg s) else 3
  | .wkSet => 40 * nEv s.plan + 4
  | .wkChk => 40 * nEv s.plan + 5
  | .eWake => 40 * nEv s.plan + 6
  | .eSetE => 40 * nEv s.plan + 7
  | .eSetW => 40 * nEv s.plan + 7
  | .eRead => 40 * nEv s.plan + 8
  | .wkUnlock => 40 * nEv s.plan + 9
  | .wkAdd => 40 * nEv s.plan + 10
  | .wkLock => 40 * nEv s.plan + 11
  | .clearup => 40 * nEv s.plan + 12
  | .poll => 60 + 40 * nEv (harvest cfg s)
  | .woken => 60 + 40 * nEv (harvest cfg s)
  | .fwait _ => 60 + 40 * nEv (harvest cfg s)
  | .runStart => 400 + 40 * (nEv (harvest cfg s) + 1)
  | _ => 0

def mu (cfg : Cfg) (s : St) : Nat := stage cfg s (s.pc cfg.lt) + s.queue.length

theorem harvest_pc (cfg : Cfg) (s : St) (f : Nat → Pc) : harvest cfg ({ s with pc := f } : St) = harvest cfg s := rfl

theorem nEv_harvest_runStart (cfg : Cfg) (s : St) (t : Nat) (f : Nat → Pc) :
    nEv (harvest cfg ({ s with tid := t, evAdded := true,
                               rdl := if cfg.backend = .epoll ∧ s.counter > 0 ∧ Src.ev ∉ s.rdl then s.rdl ++ [Src.ev] else s.rdl,
                               pc := f } : St)) ≤ nEv (harvest cfg s) + 1 := by
  unfold harvest
  cases cfg.backend with
  | poll => exact Nat.le_succ _
  | select => exact Nat.le_succ _
  | epoll =>
    simp only []
    split
    · simp only [List.filter_append, nEv, List.count_append]
      have : List.count Src.ev (List.filter (St.ready cfg s) [Src.ev]) ≤ 1 := by
        simp only [List.filter]
        split <;> simp
      exact Nat.add_le_add_left this _
    · exact Nat.le_succ _

variable {cfg : Cfg} {s : St}

theorem counter_pos_of_exit (hs : Safe cfg s) (hx : ExitOk cfg) (hod : OthersDone cfg s)
    (he : s.toExit ≠ 0) (hg : gone (s.pc cfg.lt) = false) (hp : dispatching (s.pc cfg.lt) = false) :
    s.counter > 0 := by
  rcases hs.exit_backed hx he hg with h | h | ⟨u, h⟩
  · exact h
  · rw [hp] at h; cases h
  · by_cases e : u = cfg.lt
    · rw [e] at h; rw [h] at hp; cases hp
    · rw [hod u e] at h; cases h

/-- the mutex is free or the loop thread's own, and then it is not at a pc that locks -/
theorem loop_enabled (ht : Typ cfg s) (hod : OthersDone cfg s)
    (hb : s.pc cfg.lt ≠ .blocked) (hd : s.pc cfg.lt ≠ .done) : s.enabled cfg cfg.lt = true := by
  refine enabled_iff.2 ⟨ht.lt_n hd, hd, hb, fun hl => ?_⟩
  cases hm : s.mtx with
  | none => rfl
  | some o =>
    have hp := inCS.runs (ht.owner o hm).2
    by_cases e : o = cfg.lt
    · subst e; rw [hp.1] at hl; cases hl
    · exact absurd (hod o e) hp.2.1

theorem stage_adv {s1 : St} {pl : List Src} (hpl : s1.plan = advPlan pl) (he : s1.toExit ≠ 2) :
    stage cfg s1 (if Src.ev ∈ pl then .clearup else .chkExit) < 40 * nEv pl + 4 := by
  split
  · have := nEv_advPlan ‹Src.ev ∈ pl›
    simp only [stage, hpl]; omega
  · simp only [stage, if_neg he]; omega

theorem solo_decreases {s' : St} (ht : Typ cfg s) (hs : Safe cfg s) (hx : ExitOk cfg)
    (hod : OthersDone cfg s) (he : s.toExit ≠ 0) (hnd : s.pc cfg.lt ≠ .done)
    (st : Step cfg s cfg.lt s') : s.enabled cfg cfg.lt = true ∧ mu cfg s' < mu cfg s := by
  have hcp := counter_pos_of_exit hs hx hod he
  have hnb : s.pc cfg.lt ≠ .blocked := fun e =>
    absurd (hs.blk e) (Nat.ne_of_gt (hcp (by rw [e]; rfl) (by rw [e]; rfl)))
  refine ⟨loop_enabled ht hod hnb hnd, ?_⟩
  unfold mu
  cases st with
  | runStart hp =>
    have := nEv_harvest_runStart cfg s cfg.lt (upd s.pc cfg.lt Pc.poll)
    simp only [upd_same, hp, stage]
    omega
  | poll hp | woken hp | eagain hp =>
    -- the poll finds the eventfd: one entry less to dispatch
    have hc : s.counter > 0 := hcp (by rw [hp]; rfl) (by rw [hp]; rfl)
    have hh := hs.vis.seen ht (by rw [hp]; rfl) (by simp [hp]) hc
    have := nEv_advPlan hh
    simp only [upd_same, hp, stage, if_neg (List.ne_nil_of_mem hh), if_pos hh]
    show 40 * nEv (advPlan (harvest cfg s)) + 12 + s.queue.length < _
    omega
  | park hp =>
    exact absurd ((hs.park _ hp).2 rfl) (Nat.ne_of_gt (hcp (by rw [hp]; rfl) (by rw [hp]; rfl)))
  | wkChkElse hp h2 =>
    simp only [advanced, upd_same, hp, stage]
    refine Nat.add_lt_add_right (Nat.lt_trans (stage_adv (pl := s.plan) ?_ ?_) (Nat.lt_succ_self _)) _
    · rfl
    · exact h2
  | wkSet hp =>
    simp only [advanced, upd_same, hp, stage]
    refine Nat.add_lt_add_right (stage_adv (pl := s.plan) ?_ ?_) _
    · rfl
    · exact (show EXIT ≠ 2 by decide)
  | chkExitLeave hp h1 =>
    have : s.toExit ≠ 2 := by rw [h1]; decide
    simp only [upd_same, hp, stage, if_neg this]
    show 2 + s.queue.length < _
    omega
  | chkExitStay hp h1 =>
    have : s.toExit = 2 := (hs.rng.resolve_left he).resolve_left h1
    simp only [upd_same, hp, stage, if_pos this, harvest_pc]
    omega
  | wkAddOk hp hq | wkAddRel hp hq | wkAddLost hp hq =>
    simp only [release, upd_same, hp, hq, List.length_cons]
    split <;> simp only [stage] <;> omega
  | wkLock hp | wkUnlock hp | eRead hp =>
    simp only [upd_same, hp]
    split <;> simp only [stage] <;> omega
  | exLock hp => simp only [upd_same, hp, stage, List.length_nil]; omega
  | wWrite hp | hLock hp | hUnlock hp | hWake hp | iWrite hp =>
    exact absurd rfl (ht.ne_lt (by simp [hp, isLoopPc, isExitPc]))
  | idle hp => exact absurd hp (by simp [hnb, hnd])
  | _ => simp only [exitReturn, evWrite, signal, upd_same, ‹s.pc cfg.lt = _›, stage, if_true]; omega

/-- how far the loop thread is from entering the wake callback: the pcs of one iteration counted
backwards from `wkLock` -/
def stage2 : Pc → Nat
  | .wkLock => 1
  | .clearup => 2
  | .poll => 3
  | .woken => 3
  | .fwait _ => 3
  | .runStart => 4
  | .chkExit => 5
  | .wkSet => 6
  | .wkChk => 7
  | .eWake => 8
  | .eSetE => 9
  | .eSetW => 9
  | .eRead => 10
  | .wkUnlock => 11
  | .wkAdd => 12
  | _ => 0

def mu2 (cfg : Cfg) (s : St) : Nat := stage2 (s.pc cfg.lt) + s.queue.length

theorem wake_decreases {s' : St} (ht : Typ cfg s) (hs : Safe cfg s) (hod : OthersDone cfg s)
    (hrun : gone (s.pc cfg.lt) = false) (hreq : s.unserved > 0)
    (st : Step cfg s cfg.lt s') :
    s.enabled cfg cfg.lt = true ∧
    (s'.unserved = 0 ∨ gone (s'.pc cfg.lt) = true ∨
     (mu2 cfg s' < mu2 cfg s ∧ s'.unserved > 0 ∧ gone (s'.pc cfg.lt) = false)) := by
  have hw := hs.wake_pending hreq hrun
  have hnb := hs.not_blocked hreq hrun
  refine ⟨loop_enabled ht hod hnb (fun e => by rw [e] at hrun; cases hrun), ?_⟩
  unfold mu2
  cases st with
  | wkLock hp => exact .inl rfl
  | chkExitLeave hp he => exact .inr (.inl (by simp [gone]))
  | park hp =>
    -- about to park on the current sequence value: the eventfd was not readable
    rcases hw with a | a
    · exact absurd ((hs.park _ hp).2 rfl) (Nat.ne_of_gt a)
    · rw [hp] at a; cases a
  | poll hp | woken hp | eagain hp =>
    have hc : s.counter > 0 := hw.resolve_right (by simp [hp])
    have hh := hs.vis.seen ht (by rw [hp]; rfl) (by simp [hp]) hc
    refine .inr (.inr ⟨?_, hreq, ?_⟩) <;>
      simp [pollNow, List.ne_nil_of_mem hh, hh, hp, stage2, gone]
  | wkAddOk hp hq | wkAddRel hp hq | wkAddLost hp hq =>
    refine .inr (.inr ⟨?_, hreq, ?_⟩)
    · simp only [upd_same, hp, hq, List.length_cons]; split <;> simp only [stage2] <;> omega
    · simp only [upd_same]; split <;> rfl
  | wkUnlock hp | eRead hp | wkChkElse hp | wkSet hp =>
    refine .inr (.inr ⟨?_, hreq, ?_⟩)
    · simp only [advance, upd_same, hp]; split <;> simp only [stage2] <;> omega
    · simp only [upd_same]; split <;> rfl
  | eWake hp => exact .inr (.inr ⟨by simp [exitReturn, evWrite, signal, hp, stage2], Nat.succ_pos _,
      by simp [exitReturn, gone]⟩)
  | exLock hp | exUnlock hp => rw [hp] at hrun; cases hrun
  | idle hp =>
    rcases hp with e | e
    · exact absurd e hnb
    · rw [e] at hrun; cases hrun
  | wWrite hp | hLock hp | hUnlock hp | hWake hp | iWrite hp =>
    exact absurd rfl (ht.ne_lt (by simp [hp, isLoopPc, isExitPc]))
  | _ =>
    refine .inr (.inr ⟨?_, hreq, ?_⟩)
    · simp only [exitReturn, upd_same, ‹s.pc cfg.lt = _›, stage2, if_true]; omega
    · simp only [exitReturn, upd_same, if_true]; rfl

def solo (cfg : Cfg) : Nat → St → St
  | 0, s => s
  | k + 1, s => solo cfg k (nxt cfg s cfg.lt)

theorem OthersDone.nxt (hod : OthersDone cfg s) : OthersDone cfg (nxt cfg s cfg.lt) := by
  intro u hu
  rw [Step.of_nxt.pc_other hu hu]
  exact hod u hu

theorem toExit_step {s' : St} {t : Nat} (he : s.toExit ≠ 0) (st : Step cfg s t s') : s'.toExit ≠ 0 := by
  cases st with
  | wkSet hp | eSetEWake hp | eSetERet hp => exact (show EXIT ≠ 0 by decide)
  | eSetW hp => exact (show WAKE ≠ 0 by decide)
  | _ => exact he

theorem reach_nxt {init : St} (hr : Reach (step cfg) init s) {t : Nat} (hen : s.enabled cfg t = true) :
    Reach (step cfg) init (nxt cfg s t) := by
  refine Reach.step (t := { tid := t }) (ev := (stepAt cfg s t (s.pc t)).2) hr ?_
  simp [step, hen, nxt]

end MgProof.C14
