import MgProof.C14.Step
/-! C14: the safety invariant behind "wake-ups, hand-overs and exit requests are never lost": a
readable eventfd is not overlooked (`Vis`, `Park`, `Blk`), every open obligation is backed (`Wake`,
`X2`, `X1`, `Q`: instances of `Backed`; `G` is what `X1` needs of the original exit), the exit calls
are counted (`Ec`, `Rng`). -/
namespace MgProof.C14
open MgModel.Conc MgModel.C14

/-- the loop thread is inside `handle_wakeup` and will still execute the `to_exit == WAKE` test
(or is about to store EXIT) -/
def preChk : Pc → Bool
  | .clearup | .wkLock | .wkAdd | .wkUnlock | .wkChk | .wkSet | .eRead | .eSetW | .eSetE | .eWake => true
  | _ => false

/-- the loop thread is dispatching: it will reach the `to_exit == EXIT` test without parking -/
def dispatching : Pc → Bool
  | .clearup | .wkLock | .wkAdd | .wkUnlock | .wkChk | .wkSet | .eRead | .eSetW | .eSetE | .eWake
  | .chkExit => true
  | _ => false

/-- the loop thread empties the hand-over queue before it leaves `on_wake` -/
def draining : Pc → Bool
  | .wkLock | .wkAdd => true
  | _ => false

/-- the thread has enqueued a context and not yet issued the wake-up for it -/
def handing : Pc → Bool
  | .hUnlock _ _ | .hWake _ _ => true
  | _ => false

/-- the thread that created the loop (thread 0) is the loop thread itself or never calls exit -/
def NoCreatorExit (cfg : Cfg) : Prop := cfg.lt = 0 ∨ cfg.role 0 ≠ .exit

/-- the hypothesis of the exit theorem: the repaired `muggle_evloop_exit`, or (original code) the
creating thread does not issue the exit -/
def ExitOk (cfg : Cfg) : Prop := cfg.fix.exitWake = true ∨ NoCreatorExit cfg

/-- some thread is about to write the eventfd inside `muggle_evloop_exit` -/
def hasWake (f : Nat → Pc) : Prop := ∃ u, f u = .eWake

def hasHand (f : Nat → Pc) : Prop := ∃ u, handing (f u) = true

/-- pending work is announced (`c > 0`: the eventfd is readable; for the queue: a request is
unserved), or the loop thread stands at a pc of class `K` (it serves the work before it polls again),
or some thread stands at a pc of class `H` (it announces the work next) -/
def Backed (cfg : Cfg) (K H : Pc → Prop) (c : Nat) (f : Nat → Pc) : Prop :=
  gone (f cfg.lt) = false → c > 0 ∨ K (f cfg.lt) ∨ ∃ u, H (f u)

namespace Backed
variable {cfg : Cfg} {K H : Pc → Prop} {c c' : Nat} {f : Nat → Pc} {t : Nat} {p' : Pc}

theorem announced (hc : c > 0) : Backed cfg K H c f := fun _ => .inl hc

theorem loop (hK : K p') : Backed cfg K H c (upd f cfg.lt p') :=
  fun _ => .inr (.inl (by rw [upd_same]; exact hK))

theorem helper (hH : H p') : Backed cfg K H c (upd f t p') :=
  fun _ => .inr (.inr ⟨t, by rw [upd_same]; exact hH⟩)

/-- `t` moves to `p'`. `hc`: the announcement stays; `hg`: the loop thread does not come back from
`gone`; `hK`: it stays in `K` unless it is gone; `hH`: a helper stays a helper -/
theorem goto (h : Backed cfg K H c f) (hc : c > 0 → c' > 0)
    (hg : t = cfg.lt → gone p' = false → gone (f t) = false)
    (hK : t = cfg.lt → K (f t) → gone p' = false → K p') (hH : H (f t) → H p') :
    Backed cfg K H c' (upd f t p') := by
  intro hg'
  have hg0 : gone (f cfg.lt) = false := by
    rcases upd_elim (Q := fun p => gone p = false) hg' with ⟨e, a⟩ | ⟨_, a⟩
    · exact e ▸ hg e.symm a
    · exact a
  rcases h hg0 with a | a | ⟨u, a⟩
  · exact .inl (hc a)
  · exact .inr (.inl (upd_intro (fun e => hK e.symm (e ▸ a) (by simpa [e] using hg')) fun _ => a))
  · exact .inr (.inr ⟨u, upd_intro (fun e => hH (e ▸ a)) fun _ => a⟩)

/-- a writer other than the loop thread: no class here tells `blocked` from `woken` -/
theorem written (h : Backed cfg K H c f) (hne : t ≠ cfg.lt) (hK : K .blocked → K .woken)
    (hH : H .blocked → H .woken) (hH' : H (f t) → H p') :
    Backed cfg K H c (upd (upd f cfg.lt (if f cfg.lt = .blocked then .woken else f cfg.lt)) t p') := by
  have hw : Backed cfg K H c (upd f cfg.lt (if f cfg.lt = .blocked then .woken else f cfg.lt)) := by
    by_cases e : f cfg.lt = .blocked
    · rw [if_pos e]
      exact h.goto id (fun _ _ => by rw [e]; rfl) (fun _ a _ => hK (e ▸ a)) fun a => hH (e ▸ a)
    · rw [if_neg e]
      exact h.goto id (fun _ hg => hg) (fun _ a _ => a) id
  refine hw.goto id (fun e => absurd e hne) (fun e => absurd e hne) ?_
  rw [upd_other _ _ _ _ hne]
  exact hH'

theorem mono {K' : Pc → Prop} (h : Backed cfg K H c f) (hK : ∀ p, K p → K' p) : Backed cfg K' H c f :=
  fun hg => (h hg).imp_right (·.imp_left (hK _))

end Backed

namespace Safe

/-- epoll: a readable eventfd is on the ready list, in the plan, or being handled -/
abbrev Vis (cfg : Cfg) (s : St) : Prop :=
  s.counter > 0 → cfg.backend = .epoll → s.evAdded = true →
    Src.ev ∈ s.rdl ∨ Src.ev ∈ s.plan ∨ s.pc cfg.lt = .clearup

/-- about to park on `s0`: if no writer came since, the eventfd is not readable -/
abbrev Park (cfg : Cfg) (s : St) : Prop :=
  ∀ s0, s.pc cfg.lt = .fwait s0 → s0 ≤ s.seq ∧ (s0 = s.seq → s.counter = 0)

abbrev Blk (cfg : Cfg) (s : St) : Prop := s.pc cfg.lt = .blocked → s.counter = 0

/-- a wake-up request raises the counter together with `unserved`; only `clearup` lowers the
counter, and the loop then stands before `wkLock`, which serves the request -/
abbrev Wake (cfg : Cfg) (s : St) : Prop :=
  s.unserved > 0 → Backed cfg (· = .wkLock) (fun _ => False) s.counter s.pc

/-- `to_exit == WAKE` is seen by `handle_wakeup`: the store is followed by a write of the eventfd
(`eSetW → eWake`), and `clearup` zeroes the counter only before the test (`wkChk`) -/
abbrev X2 (cfg : Cfg) (s : St) : Prop :=
  s.toExit = WAKE → Backed cfg (preChk · = true) (· = .eWake) s.counter s.pc

/-- original exit: no thread but the loop thread takes the `tid == self` branch -/
abbrev G (cfg : Cfg) (s : St) : Prop :=
  cfg.fix.exitWake = false → NoCreatorExit cfg → ∀ u, u ≠ cfg.lt → s.pc u ≠ .eSetE

/-- `to_exit == EXIT` is seen at the end of the iteration: EXIT is stored inside `handle_wakeup` or
by an exit call that writes the eventfd next; one that returns instead (original code) is the loop
thread's own, by `G` -/
abbrev X1 (cfg : Cfg) (s : St) : Prop :=
  ExitOk cfg → s.toExit = EXIT → Backed cfg (dispatching · = true) (· = .eWake) s.counter s.pc

/-- a context is enqueued before the wake-up request for it (`hLock → hUnlock → hWake`); `wkLock`
serves the request and goes on to `wkAdd` while the queue is not empty -/
abbrev Q (cfg : Cfg) (s : St) : Prop :=
  s.queue ≠ [] → Backed cfg (draining · = true) (handing · = true) s.unserved s.pc

/-- `to_exit` leaves 0 before the first exit call writes the eventfd or returns -/
abbrev Ec (s : St) : Prop := s.toExit = 0 → s.exitCalls = 0 ∧ ∀ u, s.pc u ≠ .eWake

abbrev Rng (s : St) : Prop := s.toExit = 0 ∨ s.toExit = EXIT ∨ s.toExit = WAKE

end Safe

open Safe in
structure Safe (cfg : Cfg) (s : St) : Prop where
  vis  : Vis cfg s
  park : Park cfg s
  blk  : Blk cfg s
  wake : Wake cfg s
  x2   : X2 cfg s
  g    : G cfg s
  x1   : X1 cfg s
  q    : Q cfg s
  ec   : Ec s
  rng  : Rng s

theorem Safe.wake_pending {cfg : Cfg} {s : St} (h : Safe cfg s) (hu : s.unserved > 0)
    (hg : gone (s.pc cfg.lt) = false) : s.counter > 0 ∨ s.pc cfg.lt = .wkLock :=
  (h.wake hu hg).imp_right (·.resolve_right fun ⟨_, f⟩ => f)

theorem dispatching_of_preChk {p : Pc} (h : preChk p = true) : dispatching p = true := by
  cases p <;> first | rfl | cases h

theorem Safe.not_blocked {cfg : Cfg} {s : St} (h : Safe cfg s) (hu : s.unserved > 0)
    (hg : gone (s.pc cfg.lt) = false) : s.pc cfg.lt ≠ .blocked := fun e => by
  rcases h.wake_pending hu hg with a | a
  · exact absurd (h.blk e) (Nat.ne_of_gt a)
  · rw [e] at a; cases a

theorem Safe.exit_backed {cfg : Cfg} {s : St} (h : Safe cfg s) (hx : ExitOk cfg) (he : s.toExit ≠ 0) :
    Backed cfg (dispatching · = true) (· = .eWake) s.counter s.pc := by
  rcases h.rng with e | e | e
  · exact absurd e he
  · exact h.x1 hx e
  · exact (h.x2 e).mono fun _ => dispatching_of_preChk

theorem safe_init (cfg : Cfg) : Safe cfg (mkInit cfg) := by
  have hpc := mkInit_pc_cases cfg
  refine ⟨?_, ?_, ?_, ?_, ?_, ?_, ?_, ?_, ?_, Or.inl rfl⟩
  · intro h; simp [mkInit] at h
  · intro s0 h
    rcases hpc cfg.lt with e | e | e | ⟨_, e⟩ | ⟨_, e⟩ | ⟨_, e⟩ <;> simp [e] at h
  · intro h
    rcases hpc cfg.lt with e | e | e | ⟨_, e⟩ | ⟨_, e⟩ | ⟨_, e⟩ <;> simp [e] at h
  · intro h; simp [mkInit] at h
  · intro h; simp [mkInit, WAKE] at h
  · intro _ _ u _
    rcases hpc u with e | e | e | ⟨_, e⟩ | ⟨_, e⟩ | ⟨_, e⟩ <;> simp [e]
  · intro _ h; simp [mkInit, EXIT] at h
  · intro h; simp [mkInit] at h
  · intro _
    refine ⟨rfl, fun u => ?_⟩
    rcases hpc u with e | e | e | ⟨_, e⟩ | ⟨_, e⟩ | ⟨_, e⟩ <;> simp [e]

theorem advPc_ev {pl : List Src} (h : Src.ev ∈ pl) : advPc pl = .clearup := by
  rw [advPc_eq, if_pos h]

/-- poll and select are level-triggered; epoll reports what is on its ready list -/
theorem ev_mem_harvest {cfg : Cfg} {s : St} (hv : cfg.backend = .epoll → Src.ev ∈ s.rdl)
    (hc : s.counter > 0) : Src.ev ∈ harvest cfg s := by
  cases hb : cfg.backend with
  | epoll =>
    simp only [harvest, hb, List.mem_filter]
    exact ⟨hv hb, by simp [St.ready, hc]⟩
  | poll => simp [harvest, hb, St.ready, hc]
  | select => simp [harvest, hb, St.ready, hc]

variable {cfg : Cfg} {s : St} {t : Nat}

set_option hygiene false in
/-- the facts every preservation proof starts from -/
macro "safe_prep" ht:ident hen:ident : tactic => `(tactic|
  (have hlt := thr $ht:ident t
   have hst := ($ht:ident).started
   have hidle := ($ht:ident).idle
   have hacp := advPc_cases (harvest cfg s)
   have hacp2 := advPc_cases s.plan
   have hev := @advPc_ev (harvest cfg s)
   have hev2 := @advPc_ev s.plan
   unfold St.enabled at $hen:ident))

namespace Safe
variable {s' : St}

theorem Vis.frame (h : Vis cfg s) (hc : s'.counter = s.counter) (he : s'.evAdded = s.evAdded)
    (hr : ∀ x ∈ s.rdl, x ∈ s'.rdl) (hpl : s'.plan = s.plan)
    (hpc : s.pc cfg.lt = .clearup → s'.pc cfg.lt = .clearup) : Vis cfg s' := by
  intro c b e
  rw [hc] at c; rw [he] at e
  rcases h c b e with a | a | a
  · exact .inl (hr _ a)
  · exact .inr (.inl (hpl ▸ a))
  · exact .inr (.inr (hpc a))

/-- the loop thread, between two rounds of dispatching, finds a readable eventfd at its next poll -/
theorem Vis.seen (ht : Typ cfg s) (h : Vis cfg s) (hi : idlePc (s.pc cfg.lt) = true)
    (hr : s.pc cfg.lt ≠ .runStart) (hc : s.counter > 0) : Src.ev ∈ harvest cfg s := by
  refine ev_mem_harvest (fun hb => ?_) hc
  rcases h hc hb (by rw [ht.started]; simpa using hr) with a | a | a
  · exact a
  · rw [ht.idle hi] at a; cases a
  · rw [a] at hi; cases hi

theorem mem_listed {cfg : Cfg} {x : Src} {l : List Src} {P : Prop} [Decidable P] (hb : cfg.backend = .epoll)
    (h : P) : x ∈ (if cfg.backend = .epoll ∧ P ∧ x ∉ l then l ++ [x] else l) := by
  by_cases hm : x ∈ l <;> simp [hb, h, hm]

theorem Vis.step (ht : Typ cfg s) (h : Vis cfg s) (st : Step cfg s t s') : Vis cfg s' := by
  cases st with
  | runStart hp => exact fun hc hb _ => .inl (mem_listed hb hc)
  | eWake hp | wWrite hp | hWake hp => exact fun _ hb he => .inl (mem_listed hb he)
  | clearup hp => exact fun hc => absurd hc (Nat.lt_irrefl 0)
  | poll hp | woken hp | eagain hp =>
    -- the poll reports the eventfd: next `clearup`
    obtain rfl := loopPc_lt ht (by rw [hp]; rfl)
    intro hc _ _
    have hh := h.seen ht (by rw [hp]; rfl) (by simp [hp]) hc
    exact .inr (.inr ((upd_same ..).trans (by rw [if_neg (List.ne_nil_of_mem hh), if_pos hh])))
  | wkChkElse hp | wkSet hp =>
    obtain rfl := loopPc_lt ht (by rw [hp]; rfl)
    intro hc hb he
    rcases h hc hb he with a | a | a
    · exact .inl a
    · exact .inr (.inr ((upd_same ..).trans (if_pos a)))
    · rw [hp] at a; cases a
  | iWrite hp =>
    have hne := ht.ne_lt (t := t) (by simp [hp, isLoopPc, isExitPc])
    exact h.frame rfl rfl (fun x hx => by show x ∈ ite _ _ _; split <;> simp [hx]) rfl
      fun e => (upd_other _ _ _ _ (Ne.symm hne)).trans (woken_after (Q := (· = .clearup)) (by simp) e)
  | idle hp => exact h
  | _ => exact h.frame rfl rfl (fun _ a => a) rfl (pc_after (Q := (· = .clearup)) (by simp [*]))

theorem Park.frame (h : Park cfg s) (hs : s'.seq = s.seq ∧ s'.counter = s.counter ∨ s'.seq = s.seq + 1)
    (hpc : ∀ s0, s'.pc cfg.lt = .fwait s0 → s.pc cfg.lt = .fwait s0) : Park cfg s' := by
  intro s0 e
  obtain ⟨h1, h2⟩ := h s0 (hpc s0 e)
  rcases hs with ⟨e1, e2⟩ | e1
  · rw [e1, e2]; exact ⟨h1, h2⟩
  · rw [e1]; exact ⟨Nat.le_succ_of_le h1, fun e => absurd e (Nat.ne_of_lt (Nat.lt_succ_of_le h1))⟩

theorem Park.step (ht : Typ cfg s) (hv : Vis cfg s) (h : Park cfg s) (st : Step cfg s t s') : Park cfg s' := by
  cases st with
  | poll hp | woken hp | eagain hp =>
    -- the sequence word is read at the poll that found nothing, and then the eventfd was not readable
    obtain rfl := loopPc_lt ht (by rw [hp]; rfl)
    intro s0 e
    have e := (upd_same ..).symm.trans e
    split at e
    · cases e
      refine ⟨Nat.le_refl _, fun _ => Nat.eq_zero_of_not_pos fun hc => ?_⟩
      exact List.ne_nil_of_mem (hv.seen ht (by rw [hp]; rfl) (by simp [hp]) hc) ‹_›
    · split at e <;> cases e
  | eWake hp | wWrite hp | hWake hp | iWrite hp =>
    exact h.frame (.inr rfl) fun s0 =>
      written_before (Q := (· = .fwait s0)) (by simp) (by simp [ite_eq_iff'])
  | clearup hp | park hp =>
    obtain rfl := loopPc_lt ht (by rw [hp]; rfl)
    exact fun s0 e => nomatch (upd_same ..).symm.trans e
  | idle hp => exact h
  | _ =>
    exact h.frame (.inl ⟨rfl, rfl⟩) fun s0 => pc_before (Q := (· = .fwait s0)) (by simp [ite_eq_iff'])

theorem Blk.step (ht : Typ cfg s) (hk : Park cfg s) (h : Blk cfg s) (st : Step cfg s t s') : Blk cfg s' := by
  cases st with
  | park hp =>
    obtain rfl := loopPc_lt ht (by rw [hp]; rfl)
    exact fun _ => (hk _ hp).2 rfl
  | clearup hp => exact fun _ => rfl
  | eWake hp | wWrite hp | hWake hp | iWrite hp =>
    -- a writer leaves the loop thread woken
    exact fun e => absurd (pc_before (Q := (· = .blocked)) (by simp [ite_eq_iff']) e) woken_ne_blocked
  | idle hp => exact h
  | _ => exact fun e => h (pc_before (Q := (· = .blocked)) (by simp [ite_eq_iff']) e)

theorem Wake.step (ht : Typ cfg s) (h : Wake cfg s) (st : Step cfg s t s') : Wake cfg s' := by
  cases st with
  | eWake hp | wWrite hp | hWake hp => exact fun _ => .announced (Nat.succ_pos _)
  | wkLock hp => exact fun e => absurd e (Nat.lt_irrefl 0)
  | clearup hp =>
    obtain rfl := loopPc_lt ht (by rw [hp]; rfl)
    exact fun _ => .loop rfl
  -- the other source: only wakes the loop
  | iWrite hp =>
    exact fun e => (h e).written (ht.ne_lt (by simp [hp, isLoopPc, isExitPc])) (by simp) id id
  | idle hp => exact h
  | _ => exact fun e => (h e).goto id (by simp [*, gone, ↓apply_ite gone]) (by simp [*]) id

theorem X2.step (ht : Typ cfg s) (h : X2 cfg s) (st : Step cfg s t s') : X2 cfg s' := by
  cases st with
  | eWake hp | wWrite hp | hWake hp => exact fun _ => .announced (Nat.succ_pos _)
  | eSetW hp => exact fun _ => .helper rfl
  | wkSet hp | eSetEWake hp | eSetERet hp => exact fun e => absurd e (show EXIT ≠ WAKE by decide)
  | wkChkElse hp he => exact fun e => absurd e he
  | clearup hp =>
    obtain rfl := loopPc_lt ht (by rw [hp]; rfl)
    exact fun _ => .loop rfl
  | iWrite hp =>
    exact fun e => (h e).written (ht.ne_lt (by simp [hp, isLoopPc, isExitPc])) (by simp [preChk])
      (by simp) (by simp [hp])
  | idle hp => exact h
  | _ =>
    exact fun e => (h e).goto id (by simp [*, gone, ↓apply_ite gone])
      (by simp [*, preChk, ↓apply_ite preChk]) (by simp [*])

theorem G.step (ht : Typ cfg s) (h : G cfg s) (st : Step cfg s t s') : G cfg s' := by
  cases st with
  | eRead hp =>
    -- a thread other than the loop thread that reads `tid == self` is thread 0, the creator
    intro hf hn u hu e
    rcases upd_eq_cases e with ⟨rfl, e'⟩ | ⟨_, e'⟩
    · have htid : s.tid = u := by
        split at e'
        · assumption
        · cases e'
      have h0 : u = 0 := by rcases ht.tid with a | a <;> omega
      subst h0
      rcases hn with a | a
      · exact hu a.symm
      · exact a (ht.exitrole 0 hu (by rw [hp]; rfl))
    · exact h hf hn u hu e'
  | eWake hp | wWrite hp | hWake hp | iWrite hp =>
    exact fun hf hn u hu e => h hf hn u hu
      (written_before (Q := (· = .eSetE)) (by simp) (by simp [ite_eq_iff']) e)
  | idle hp => exact h
  | _ =>
    exact fun hf hn u hu e => h hf hn u hu (pc_before (Q := (· = .eSetE)) (by simp [ite_eq_iff']) e)

theorem X1.step (ht : Typ cfg s) (hg : G cfg s) (h : X1 cfg s) (st : Step cfg s t s') : X1 cfg s' := by
  cases st with
  | eWake hp | wWrite hp | hWake hp => exact fun _ _ => .announced (Nat.succ_pos _)
  | eSetEWake hp => exact fun _ _ => .helper rfl
  -- EXIT stored without a wake-up: by `G` the caller is the loop thread, back in `wkChk`
  | eSetERet hp fix =>
    intro hx _
    by_cases e : t = cfg.lt
    · subst e; exact .loop (by simp [dispatching])
    · exact absurd hp (hg fix (hx.resolve_left (by simp [fix])) t e)
  | eSetW hp => exact fun _ e => absurd e (show WAKE ≠ EXIT by decide)
  | chkExitStay hp he => exact fun _ e => absurd e he
  | wkChkElse hp | wkSet hp | clearup hp =>
    obtain rfl := loopPc_lt ht (by rw [hp]; rfl)
    exact fun _ _ => .loop (by simp [dispatching, ↓apply_ite dispatching])
  | iWrite hp =>
    exact fun hx e => (h hx e).written (ht.ne_lt (by simp [hp, isLoopPc, isExitPc]))
      (by simp [dispatching]) (by simp) (by simp [hp])
  | idle hp => exact h
  | _ =>
    exact fun hx e => (h hx e).goto id (by simp [*, gone, ↓apply_ite gone])
      (by simp [*, gone, dispatching, ↓apply_ite dispatching]) (by simp [*])

theorem Q.step (ht : Typ cfg s) (h : Q cfg s) (st : Step cfg s t s') : Q cfg s' := by
  cases st with
  | eWake hp | wWrite hp | hWake hp => exact fun _ => .announced (Nat.succ_pos _)
  | hLock hp => exact fun _ => .helper rfl
  | wkLock hp | wkAddOk hp | wkAddRel hp | wkAddLost hp =>
    obtain rfl := loopPc_lt ht (by rw [hp]; rfl)
    exact fun e => .loop (by simp [draining, e])
  | wkAddNil hp hq => exact fun e => absurd hq e
  | exLock hp => exact fun e => absurd rfl e
  | iWrite hp =>
    exact fun e => (h e).written (ht.ne_lt (by simp [hp, isLoopPc, isExitPc])) (by simp [draining])
      (by simp [handing]) (by simp [hp, handing])
  | idle hp => exact h
  | _ =>
    exact fun e => (h e).goto id (by simp [*, gone, ↓apply_ite gone])
      (by simp [*, draining, ↓apply_ite draining]) (by simp [*, handing, ↓apply_ite handing])

theorem Ec.step (h : Ec s) (st : Step cfg s t s') : Ec s' := by
  cases st with
  | wkSet hp | eSetEWake hp | eSetERet hp => exact fun e => absurd e (show EXIT ≠ 0 by decide)
  | eSetW hp => exact fun e => absurd e (show WAKE ≠ 0 by decide)
  | eWake hp => exact fun e => absurd hp ((h e).2 t)
  | wWrite hp | hWake hp | iWrite hp =>
    exact fun e => ⟨(h e).1, fun u e' => (h e).2 u
      (written_before (Q := (· = .eWake)) (by simp) (by simp [ite_eq_iff']) e')⟩
  | idle hp => exact h
  | _ =>
    exact fun e => ⟨(h e).1, fun u e' => (h e).2 u (pc_before (Q := (· = .eWake)) (by simp [ite_eq_iff']) e')⟩

theorem Rng.step (h : Rng s) (st : Step cfg s t s') : Rng s' := by
  cases st with
  | wkSet hp | eSetEWake hp | eSetERet hp => exact .inr (.inl rfl)
  | eSetW hp => exact .inr (.inr rfl)
  | _ => exact h

end Safe

theorem Safe.step {s' : St} (ht : Typ cfg s) (h : Safe cfg s) (st : Step cfg s t s') : Safe cfg s' where
  vis := h.vis.step ht st
  park := Safe.Park.step ht h.vis h.park st
  blk := Safe.Blk.step ht h.park h.blk st
  wake := Safe.Wake.step ht h.wake st
  x2 := Safe.X2.step ht h.x2 st
  g := Safe.G.step ht h.g st
  x1 := Safe.X1.step ht h.g h.x1 st
  q := Safe.Q.step ht h.q st
  ec := Safe.Ec.step h.ec st
  rng := Safe.Rng.step h.rng st

theorem safe_step {s' : St} {tok : Tok} {ev : List String}
    (ht : Typ cfg s) (h : Safe cfg s) (hs : step cfg s tok = some (s', ev)) : Safe cfg s' := by
  rw [step_some hs]
  exact h.step ht Step.of_nxt

end MgProof.C14
