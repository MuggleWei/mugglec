import MgProof.C14.Lemmas
import MgProof.Conc
/-! C14: what a step is: one constructor of `Step` per kind of move of `stepAt`, the branch taken as
hypothesis, the next pc written out; `Step.of_nxt` is the only place where `stepAt` is unfolded.
No move asks the thread to be enabled (`wkLock`, `exLock`, `hLock` do not ask for a free mutex): the
invariants hold without it. Then what a step leaves alone (`Step.pc_other`, `Step.other`) and how a
property of a thread's pc is carried over a move. -/
namespace MgProof.C14
open MgModel.Conc MgModel.C14

abbrev polled (cfg : Cfg) (s : St) (t : Nat) : St :=
  { pollNow cfg s t with
    pc := upd s.pc t (if harvest cfg s = [] then .fwait s.seq
                      else if Src.ev ∈ harvest cfg s then .clearup else .chkExit) }

abbrev advanced (cfg : Cfg) (s : St) (t : Nat) : St :=
  { advance cfg s t s.plan with pc := upd s.pc t (if Src.ev ∈ s.plan then .clearup else .chkExit) }

inductive Step (cfg : Cfg) (s : St) (t : Nat) : St → Prop
  -- `muggle_evloop_run`
  | runStart (hp : s.pc t = .runStart) : Step cfg s t
      { s with tid := t, evAdded := true,
               rdl := if cfg.backend = .epoll ∧ s.counter > 0 ∧ Src.ev ∉ s.rdl then s.rdl ++ [Src.ev] else s.rdl,
               pc := upd s.pc t .poll }
  | poll (hp : s.pc t = .poll) : Step cfg s t (polled cfg s t)
  | woken (hp : s.pc t = .woken) : Step cfg s t (polled cfg s t)
  | eagain {s0 : Nat} (hp : s.pc t = .fwait s0) (hs : s.seq ≠ s0) : Step cfg s t (polled cfg s t)
  | park (hp : s.pc t = .fwait s.seq) : Step cfg s t { s with pc := upd s.pc t .blocked }
  -- `handle_wakeup` and `on_wake`
  | clearup (hp : s.pc t = .clearup) : Step cfg s t { s with counter := 0, pc := upd s.pc t .wkLock }
  | wkLock (hp : s.pc t = .wkLock) : Step cfg s t
      { s with mtx := some t, unserved := 0,
               pc := upd s.pc t (if s.queue = [] then .wkUnlock else .wkAdd) }
  | wkAddNil (hp : s.pc t = .wkAdd) (hq : s.queue = []) : Step cfg s t { s with pc := upd s.pc t .wkUnlock }
  | wkAddOk {c : Ctx} {q : List Ctx} (hp : s.pc t = .wkAdd) (hq : s.queue = c :: q)
      (ok : addOk cfg s t c = true) : Step cfg s t
      { s with queue := q, reg := s.reg ++ [c], regLog := s.regLog ++ [c],
               uaf := s.uaf + (if c ∈ s.relLog then 1 else 0),
               pc := upd s.pc t (if q = [] then .wkUnlock else .wkAdd) }
  | wkAddRel {c : Ctx} {q : List Ctx} (hp : s.pc t = .wkAdd) (hq : s.queue = c :: q)
      (ok : addOk cfg s t c = false) (fix : cfg.fix.addFail = true) : Step cfg s t
      { release s [c] with queue := q, pc := upd s.pc t (if q = [] then .wkUnlock else .wkAdd) }
  | wkAddLost {c : Ctx} {q : List Ctx} (hp : s.pc t = .wkAdd) (hq : s.queue = c :: q)
      (ok : addOk cfg s t c = false) (fix : cfg.fix.addFail = false) : Step cfg s t
      { s with queue := q, lost := s.lost ++ [c], uaf := s.uaf + (if c ∈ s.relLog then 1 else 0),
               pc := upd s.pc t (if q = [] then .wkUnlock else .wkAdd) }
  | wkUnlock (hp : s.pc t = .wkUnlock) : Step cfg s t
      { s with mtx := none, cbWakes := s.cbWakes + 1,
               pc := upd s.pc t (if selfExitNow cfg t (s.cbWakes + 1) then .eRead else .wkChk) }
  | wkChkWake (hp : s.pc t = .wkChk) (he : s.toExit = WAKE) : Step cfg s t { s with pc := upd s.pc t .wkSet }
  | wkChkElse (hp : s.pc t = .wkChk) (he : s.toExit ≠ WAKE) : Step cfg s t (advanced cfg s t)
  | wkSet (hp : s.pc t = .wkSet) : Step cfg s t (advanced cfg { s with toExit := EXIT } t)
  -- end of the iteration, `on_exit`
  | chkExitLeave (hp : s.pc t = .chkExit) (he : s.toExit = EXIT) : Step cfg s t
      { release s s.reg with reg := [], clears := s.clears + 1, pc := upd s.pc t .exLock }
  | chkExitStay (hp : s.pc t = .chkExit) (he : s.toExit ≠ EXIT) : Step cfg s t { s with pc := upd s.pc t .poll }
  | exLock (hp : s.pc t = .exLock) : Step cfg s t
      { release s s.queue with mtx := some t, queue := [], exits := s.exits + 1, pc := upd s.pc t .exUnlock }
  | exUnlock (hp : s.pc t = .exUnlock) : Step cfg s t { s with mtx := none, pc := upd s.pc t .done }
  -- `muggle_evloop_exit`
  | eRead (hp : s.pc t = .eRead) : Step cfg s t
      { s with pc := upd s.pc t (if s.tid = t then .eSetE else .eSetW) }
  | eSetW (hp : s.pc t = .eSetW) : Step cfg s t { s with toExit := WAKE, pc := upd s.pc t .eWake }
  | eSetEWake (hp : s.pc t = .eSetE) (fix : cfg.fix.exitWake = true) : Step cfg s t
      { s with toExit := EXIT, pc := upd s.pc t .eWake }
  | eSetERet (hp : s.pc t = .eSetE) (fix : cfg.fix.exitWake = false) : Step cfg s t
      (exitReturn cfg { s with toExit := EXIT } t)
  | eWake (hp : s.pc t = .eWake) : Step cfg s t (exitReturn cfg (evWrite cfg s) t)
  -- waker, hand-over, I/O writer
  | wWrite {left : Nat} (hp : s.pc t = .wWrite left) : Step cfg s t
      { evWrite cfg s with pc := upd (evWrite cfg s).pc t (if left ≤ 1 then .done else .wWrite (left - 1)) }
  | hLock {i : Nat} {rest : List Bool} (hp : s.pc t = .hLock i rest) : Step cfg s t
      { s with mtx := some t, queue := s.queue ++ [(t, i)], handed := s.handed ++ [(t, i)],
               pc := upd s.pc t (.hUnlock i rest) }
  | hUnlock {i : Nat} {rest : List Bool} (hp : s.pc t = .hUnlock i rest) : Step cfg s t
      { s with mtx := none, pc := upd s.pc t (.hWake i rest) }
  | hWake {i : Nat} {rest : List Bool} (hp : s.pc t = .hWake i rest) : Step cfg s t
      { evWrite cfg s with
        pc := upd (evWrite cfg s).pc t (if rest = [] then .done else .hLock (i + 1) rest.tail) }
  | iWrite {left : Nat} (hp : s.pc t = .iWrite left) : Step cfg s t
      { signal cfg s .io with ioPend := (signal cfg s .io).ioPend + 1,
                              pc := upd (signal cfg s .io).pc t (if left ≤ 1 then .done else .iWrite (left - 1)) }
  | idle (hp : s.pc t = .blocked ∨ s.pc t = .done) : Step cfg s t s

variable {cfg : Cfg} {s : St} {t : Nat}

theorem Step.of_nxt : Step cfg s t (nxt cfg s t) := by
  have hpoll : pollNow cfg s t = polled cfg s t := by simp only [polled, pollNow, advPc_eq]
  have hadv : ∀ s1 : St, advance cfg s1 t s1.plan = advanced cfg s1 t := by
    intro s1; simp only [advanced, advance, advPc_eq]
  unfold nxt
  generalize hq : s.pc t = q
  cases q <;> simp only [stepAt, List.isEmpty_iff]
  case runStart => exact .runStart hq
  case poll => rw [hpoll]; exact .poll hq
  case fwait s0 =>
    split
    · rename_i e; subst e; exact .park hq
    · rw [hpoll]; exact .eagain hq ‹_›
  case blocked => exact .idle (.inl hq)
  case woken => rw [hpoll]; exact .woken hq
  case clearup => exact .clearup hq
  case wkLock => exact .wkLock hq
  case wkAdd =>
    split
    · exact .wkAddNil hq ‹_›
    · rename_i c q hqu
      split
      · exact .wkAddOk hq hqu ‹_›
      · split
        · exact .wkAddRel hq hqu (Bool.eq_false_iff.2 ‹_›) ‹_›
        · exact .wkAddLost hq hqu (Bool.eq_false_iff.2 ‹¬ addOk cfg s t c = true›) (Bool.eq_false_iff.2 ‹_›)
  case wkUnlock => exact .wkUnlock hq
  case wkChk =>
    split
    · exact .wkChkWake hq ‹_›
    · rw [hadv s]; exact .wkChkElse hq ‹_›
  case wkSet => exact hadv { s with toExit := EXIT } ▸ .wkSet hq
  case chkExit =>
    split
    · exact .chkExitLeave hq ‹_›
    · exact .chkExitStay hq ‹_›
  case exLock => exact .exLock hq
  case exUnlock => exact .exUnlock hq
  case eRead => exact .eRead hq
  case eSetW => exact .eSetW hq
  case eSetE =>
    split
    · exact .eSetEWake hq ‹_›
    · exact .eSetERet hq (Bool.eq_false_iff.2 ‹_›)
  case eWake => exact .eWake hq
  case wWrite left => exact .wWrite hq
  case hLock i rest => exact .hLock hq
  case hUnlock i rest => exact .hUnlock hq
  case hWake i rest => cases rest <;> exact .hWake hq
  case iWrite left => exact .iWrite hq
  case done => exact .idle (.inr hq)

variable {s' : St} {u : Nat}

theorem Step.pc_other (st : Step cfg s t s') (hu : u ≠ t) (hul : u ≠ cfg.lt) : s'.pc u = s.pc u := by
  cases st with
  | eWake hp | wWrite hp | hWake hp | iWrite hp =>
    exact (upd_other _ _ _ _ hu).trans (upd_other _ _ _ _ hul)
  | idle hp => rfl
  | _ => exact upd_other _ _ _ _ hu

theorem Step.of_done (st : Step cfg s t s') (hd : s.pc t = .done) : s' = s := by
  cases st with
  | idle hp => rfl
  | _ => rw [hd] at *; contradiction

theorem Step.other (hnl : isLoopPc (s.pc t) = false) (hne : t ≠ cfg.lt) (st : Step cfg s t s') :
    s'.tid = s.tid ∧ s'.evAdded = s.evAdded ∧ s'.plan = s.plan ∧ s'.reg = s.reg ∧
    s'.clears = s.clears ∧ s'.exits = s.exits ∧
    (s'.pc cfg.lt = s.pc cfg.lt ∨ (s.pc cfg.lt = .blocked ∧ s'.pc cfg.lt = .woken)) := by
  cases st with
  | eWake hp | wWrite hp | hWake hp | iWrite hp =>
    refine ⟨rfl, rfl, rfl, rfl, rfl, rfl, ?_⟩
    show upd (upd s.pc cfg.lt _) t _ cfg.lt = _ ∨ _ ∧ upd (upd s.pc cfg.lt _) t _ cfg.lt = _
    rw [upd_other _ _ _ _ (Ne.symm hne), upd_same]
    split
    · exact .inr ⟨‹_›, rfl⟩
    · exact .inl rfl
  | eRead hp | eSetW hp | eSetEWake hp | eSetERet hp | hLock hp | hUnlock hp =>
    exact ⟨rfl, rfl, rfl, rfl, rfl, rfl, .inl (upd_other _ _ _ _ (Ne.symm hne))⟩
  | idle hp => exact ⟨rfl, rfl, rfl, rfl, rfl, rfl, .inl rfl⟩
  | _ => simp [*, isLoopPc] at hnl

theorem blind {α : Type} {p p' : Pc} (h : p' = p ∨ (p = .blocked ∧ p' = .woken)) (K : Pc → α)
    (hK : K .blocked = K .woken) : K p' = K p := by
  rcases h with e | ⟨e1, e2⟩
  · rw [e]
  · rw [e1, e2, hK]

/-! How "thread `u` stands in the class `Q`" is carried over a move of `t` to `p'`. `pc_before`: who is in `Q`
after a move to a pc outside `Q` was in `Q` before; `pc_after`: the converse when the mover was not in `Q`;
`woken_*`, `written_*`: the same across a writer's turning the loop thread from `blocked` to `woken`. -/

theorem pc_before {Q : Pc → Prop} {f : Nat → Pc} {t u : Nat} {p' : Pc} (hn : ¬ Q p')
    (h : Q (upd f t p' u)) : Q (f u) :=
  (upd_elim h).elim (fun a => absurd a.2 hn) (·.2)

theorem pc_after {Q : Pc → Prop} {f : Nat → Pc} {t u : Nat} {p' : Pc} (hn : ¬ Q (f t))
    (h : Q (f u)) : Q (upd f t p' u) :=
  upd_intro (fun e => absurd (e ▸ h) hn) fun _ => h

theorem woken_before {Q : Pc → Prop} {f : Nat → Pc} {l u : Nat} (hn : ¬ Q .woken)
    (h : Q (upd f l (if f l = .blocked then .woken else f l) u)) : Q (f u) := by
  rcases upd_elim h with ⟨rfl, a⟩ | ⟨_, a⟩
  · split at a
    · exact absurd a hn
    · exact a
  · exact a

theorem written_before {Q : Pc → Prop} {f : Nat → Pc} {l t u : Nat} {p' : Pc} (hw : ¬ Q .woken)
    (hn : ¬ Q p') (h : Q (upd (upd f l (if f l = .blocked then .woken else f l)) t p' u)) : Q (f u) :=
  woken_before hw (pc_before hn h)

theorem woken_after {Q : Pc → Prop} {f : Nat → Pc} {l : Nat} (hn : ¬ Q .blocked) (h : Q (f l)) :
    Q (upd f l (if f l = .blocked then .woken else f l) l) := by
  rw [upd_same]
  split
  · exact absurd (‹f l = Pc.blocked› ▸ h) hn
  · exact h

theorem woken_ne_blocked {f : Nat → Pc} {l : Nat} :
    upd f l (if f l = .blocked then .woken else f l) l ≠ .blocked := by
  rw [upd_same]; split <;> simp [*]

/-- for the side goals `p' ≠ q` where the next pc `p'` is a conditional -/
theorem ite_eq_iff' {α : Type} {c : Prop} [Decidable c] {a b q : α} :
    (if c then a else b) = q ↔ (c → a = q) ∧ (¬ c → b = q) := by
  split <;> simp [*]

end MgProof.C14
