import MgProof.C14.TypStep
import MgProof.C14.CtxInv
import MgProof.C14.Progress
/-!
# C14 — property theorems

Property (properties.jsonl): *Whenever any thread requests a wake-up of a running event loop, the
wake callback runs at least once after that request (requests may coalesce but are never lost),
and socket contexts handed over from other threads are each registered or released exactly once.
An exit request from any thread, at any moment relative to loop start, I/O and other wake-ups,
makes run() return after the clear and exit callbacks, and no callback touches memory that has
been freed.*

Quantifiers: every back-end (poll / epoll / select), every registration capacity, with or without
an I/O context, every number of threads with any roles (exit / waker with any count / hand-over
with any program of good and bad descriptors / I/O writer / the loop thread itself exiting from its
k-th wake callback), the loop created by the loop thread or by any other thread (thread 0), and
**every schedule of every length** (`Conc.Reach` = closure of the step relation), at the
granularity of single accesses to `evloop->tid` / `evloop->to_exit`, mutex operations, eventfd
reads / writes and poll calls of the compiled code.

Liveness is stated in its safety form, which is exactly what the check observes on the real code
(a run that ends with threads parked is `end deadlock`): a state in which *no thread can take a
step* (`Terminal`) and the obligation is still open does not exist. Under the only fairness
assumption that a runnable thread eventually runs, this is "eventually".

The three repaired places of the code are parameters (`cfg.fix`); the theorems are proved for the
repaired code and, where the hypothesis allows (`ExitOk`; `exit_makes_run_return_partial`), for the
original code outside the defect's trigger; for the original code inside the trigger the negation
is proved by a concrete schedule (which is replayed on the real code by the check: corpus/C14).
-/
namespace MgProof.C14
open MgModel.Conc MgModel.C14

/-- the well-formedness of a configuration: exactly one loop thread, and it is a real thread -/
structure CfgOk (cfg : Cfg) : Prop where
  wf   : WF cfg
  loop : ∃ k, cfg.role cfg.lt = .loop k
  ltn  : cfg.lt < cfg.n

theorem reach_inv {cfg : Cfg} (ok : CfgOk cfg) {s : St} (hr : Reach (step cfg) (mkInit cfg) s) :
    Typ cfg s ∧ Safe cfg s ∧ CtxI cfg s := by
  refine Reach.inv (fun s => Typ cfg s ∧ Safe cfg s ∧ CtxI cfg s) ?_ ?_ s hr
  · exact ⟨typ_init cfg ok.wf ok.loop ok.ltn, safe_init cfg, ctx_init cfg ok.loop ok.ltn⟩
  · intro s t s' ev ⟨h1, h2, h3⟩ hs
    exact ⟨typ_step h1 hs, safe_step h1 h2 hs, ctx_step h1 h3 hs⟩

/-- the run is over: no thread can take a step (all finished, or the rest parked for ever) -/
def Terminal (cfg : Cfg) (s : St) : Prop := ∀ t, s.enabled cfg t = false

/-- `run()` has not decided to return yet -/
def Running (cfg : Cfg) (s : St) : Prop := gone (s.pc cfg.lt) = false

theorem terminal_mtx_free {cfg : Cfg} {s : St} (ht : Typ cfg s) (hT : Terminal cfg s) : s.mtx = none := by
  cases hm : s.mtx with
  | none => rfl
  | some o =>
    -- the owner stands inside its critical section: it could run
    obtain ⟨hn, hp⟩ := ht.owner o hm
    have hr := inCS.runs hp
    have hen : s.enabled cfg o = true :=
      enabled_iff.2 ⟨hn, hr.2.1, hr.2.2, fun hl => by rw [hr.1] at hl; cases hl⟩
    rw [hT o] at hen; cases hen

theorem terminal_pc {cfg : Cfg} {s : St} (ht : Typ cfg s) (hT : Terminal cfg s) (t : Nat) :
    s.pc t = .done ∨ s.pc t = .blocked := by
  by_cases hn : t < cfg.n
  · by_cases hd : s.pc t = .done
    · exact .inl hd
    · by_cases hb : s.pc t = .blocked
      · exact .inr hb
      · have hen := enabled_iff.2 ⟨hn, hd, hb, fun _ => terminal_mtx_free ht hT⟩
        rw [hT t] at hen; cases hen
  · exact Or.inl (ht.beyond t (Nat.le_of_not_lt hn))

theorem terminal_no_wake {cfg : Cfg} {s : St} (ht : Typ cfg s) (hT : Terminal cfg s) : ¬ hasWake s.pc := by
  intro ⟨u, hu⟩
  rcases terminal_pc ht hT u with h | h <;> rw [h] at hu <;> simp at hu

theorem terminal_no_hand {cfg : Cfg} {s : St} (ht : Typ cfg s) (hT : Terminal cfg s) : ¬ hasHand s.pc := by
  intro ⟨u, hu⟩
  rcases terminal_pc ht hT u with h | h <;> rw [h] at hu <;> cases hu

theorem solo_reaches {cfg : Cfg} {I G : St → Prop} {μ : St → Nat}
    (hstep : ∀ s, Reach (step cfg) (mkInit cfg) s → I s → ¬ G s →
      s.enabled cfg cfg.lt = true ∧ I (nxt cfg s cfg.lt) ∧ μ (nxt cfg s cfg.lt) < μ s) :
    ∀ (m : Nat) (s : St), Reach (step cfg) (mkInit cfg) s → I s → μ s ≤ m →
      ∃ k, k ≤ m ∧ Reach (step cfg) (mkInit cfg) (solo cfg k s) ∧ G (solo cfg k s) := by
  intro m
  induction m with
  | zero =>
    intro s hr hi hm
    refine ⟨0, Nat.le_refl _, hr, Classical.byContradiction fun hg => ?_⟩
    have := (hstep s hr hi hg).2.2
    omega
  | succ m ih =>
    intro s hr hi hm
    by_cases hg : G s
    · exact ⟨0, Nat.zero_le _, hr, hg⟩
    · obtain ⟨hen, hi', hlt⟩ := hstep s hr hi hg
      obtain ⟨k, hk, hrk, hgk⟩ := ih (nxt cfg s cfg.lt) (reach_nxt hr hen) hi' (by omega)
      exact ⟨k + 1, by omega, hrk, hgk⟩

/-! ## Clause 1 — wake-up requests are never lost -/

/-- **Wake-ups, invariant form.** In every reachable state in which the loop is running and a
wake-up request has been issued since the wake callback was last entered (`unserved > 0`), the
eventfd is still readable or the loop stands right before the wake callback; hence the loop is
not parked in poll, and if it is about to park its sequence check fails (it re-polls). Requests
coalesce (one callback serves all requests issued before it is entered), none is lost. -/
theorem wake_request_never_lost {cfg : Cfg} (ok : CfgOk cfg) {s : St}
    (hr : Reach (step cfg) (mkInit cfg) s) (hrun : Running cfg s) (hreq : s.unserved > 0) :
    (s.counter > 0 ∨ s.pc cfg.lt = .wkLock) ∧ s.pc cfg.lt ≠ .blocked ∧
    (∀ s0, s.pc cfg.lt = .fwait s0 → s0 ≠ s.seq) := by
  obtain ⟨_, hs, _⟩ := reach_inv ok hr
  have h := hs.wake_pending hreq hrun
  refine ⟨h, hs.not_blocked hreq hrun, ?_⟩
  · intro s0 hp he
    have := (hs.park s0 hp).2 he
    rcases h with h | h
    · omega
    · rw [hp] at h; simp at h

/-- **Wake-ups and hand-overs at quiescence.** When nothing can run any more and `run()` has not
returned, every wake-up request has been followed by an entry of the wake callback and the
hand-over queue has been drained by it. -/
theorem wake_served_at_quiescence {cfg : Cfg} (ok : CfgOk cfg) {s : St}
    (hr : Reach (step cfg) (mkInit cfg) s) (hT : Terminal cfg s) (hrun : Running cfg s) :
    s.unserved = 0 ∧ s.queue = [] ∧ s.pc cfg.lt = .blocked := by
  obtain ⟨ht, hs, _⟩ := reach_inv ok hr
  have hb : s.pc cfg.lt = .blocked := by
    rcases terminal_pc ht hT cfg.lt with h | h
    · unfold Running at hrun; rw [h] at hrun; simp [gone] at hrun
    · exact h
  have hu : s.unserved = 0 := Classical.byContradiction fun h =>
    hs.not_blocked (Nat.pos_of_ne_zero h) hrun hb
  refine ⟨hu, ?_, hb⟩
  by_cases hq : s.queue = []
  · exact hq
  · exfalso
    rcases hs.q hq hrun with h | h | h
    · omega
    · rw [hb] at h; cases h
    · exact terminal_no_hand ht hT h

/-- **Wake-ups, liveness with an explicit bound.** With the other threads finished, a running loop
with an unserved request enters the wake callback (`unserved` reset: the callback starts after
every request issued so far) — or leaves the loop because an exit is being carried out — within
`mu2 + 1` of its own steps, and the state it is then in is reachable (that each of these steps is
enabled is `wake_decreases`). -/
theorem wake_served_in_bounded_steps {cfg : Cfg} (ok : CfgOk cfg) :
    ∀ (m : Nat) (s : St), Reach (step cfg) (mkInit cfg) s → OthersDone cfg s → Running cfg s →
      s.unserved > 0 → mu2 cfg s ≤ m →
      ∃ k, k ≤ m + 1 ∧ Reach (step cfg) (mkInit cfg) (solo cfg k s) ∧
        ((solo cfg k s).unserved = 0 ∨ gone ((solo cfg k s).pc cfg.lt) = true) := by
  intro m s hr hod _ _ hm
  -- the last step need not decrease `mu2`: count it as one more
  refine solo_reaches (I := OthersDone cfg) (G := fun s => s.unserved = 0 ∨ gone (s.pc cfg.lt) = true)
    (μ := fun s => if s.unserved = 0 ∨ gone (s.pc cfg.lt) = true then 0 else mu2 cfg s + 1)
    (fun s hr hod hg => ?_) (m + 1) s hr hod (by split <;> omega)
  obtain ⟨ht, hs, _⟩ := reach_inv ok hr
  have hrun : gone (s.pc cfg.lt) = false := by simpa using fun h => hg (.inr h)
  obtain ⟨hen, h⟩ :=
    wake_decreases ht hs hod hrun (Nat.pos_of_ne_zero fun h => hg (.inl h)) Step.of_nxt
  refine ⟨hen, hod.nxt, ?_⟩
  rw [if_neg hg]
  rcases h with h | h | ⟨h, _, _⟩
  · rw [if_pos (.inl h)]; omega
  · rw [if_pos (.inr h)]; omega
  · split <;> omega

/-! ## Clause 3 — an exit request makes `run()` return, after the clear and exit callbacks -/

/-- **Exit, invariant form.** (Repaired `muggle_evloop_exit`, or the original one when the creating
thread is not the one that exits.) In every reachable state: once any exit store has happened
(`to_exit ≠ 0`) the loop cannot be parked in poll unless an exit call is still in flight whose next
step writes the eventfd. -/
theorem exit_never_lost {cfg : Cfg} (ok : CfgOk cfg) (hx : ExitOk cfg) {s : St}
    (hr : Reach (step cfg) (mkInit cfg) s) (he : s.toExit ≠ 0) (hb : s.pc cfg.lt = .blocked) :
    hasWake s.pc := by
  obtain ⟨_, hs, _⟩ := reach_inv ok hr
  rcases hs.exit_backed hx he (by rw [hb]; rfl) with h | h | h
  · exact absurd (hs.blk hb) (Nat.ne_of_gt h)
  · rw [hb] at h; cases h
  · exact h

/-- whenever `run()` has returned, the clear phase and the exit callback have run exactly once and
nothing is registered -/
theorem returned_after_clear_and_exit {cfg : Cfg} (ok : CfgOk cfg) {s : St}
    (hr : Reach (step cfg) (mkInit cfg) s) (hd : s.pc cfg.lt = .done) :
    s.clears = 1 ∧ s.exits = 1 ∧ s.reg = [] := by
  obtain ⟨_, _, hc⟩ := reach_inv ok hr
  exact ⟨by rw [hc.cnt.1, hd]; rfl, by rw [hc.cnt.2, hd]; rfl, hc.regE (by rw [hd]; rfl)⟩

/-- **Exit: `run()` returns, after the clear phase and the exit callback, each exactly once.**
In every terminal state (no thread can take a step) in which an exit has been requested, the loop
thread has returned from `muggle_evloop_run`; the clear phase (cb_clear on every registered
context) ran exactly once, the exit callback ran exactly once, and nothing is registered any
more. Together with `Terminal` being the only way a fair run can stop, this is "an exit request
from any thread, at any moment, makes run() return". -/
theorem exit_makes_run_return {cfg : Cfg} (ok : CfgOk cfg) (hx : ExitOk cfg) {s : St}
    (hr : Reach (step cfg) (mkInit cfg) s) (hT : Terminal cfg s) (he : s.toExit ≠ 0) :
    s.pc cfg.lt = .done ∧ s.clears = 1 ∧ s.exits = 1 ∧ s.reg = [] := by
  obtain ⟨ht, hs, hc⟩ := reach_inv ok hr
  have hd : s.pc cfg.lt = .done := by
    rcases terminal_pc ht hT cfg.lt with h | h
    · exact h
    · exact absurd (exit_never_lost ok hx hr he h) (terminal_no_wake ht hT)
  exact ⟨hd, returned_after_clear_and_exit ok hr hd⟩

/-- **Exit, liveness with an explicit bound.** Once an exit store has happened and the other threads
have finished their calls, the loop thread is never stuck and returns from `muggle_evloop_run`
within `mu` of its own steps (`mu` = a small function of where it stands, the eventfd entries still
to dispatch and the length of the hand-over queue), and the state it is then in is reachable; that
every step it takes is enabled and strictly decreases the variant is `solo_decreases`. The only
fairness needed is that the loop thread gets to run. -/
theorem exit_returns_in_bounded_steps {cfg : Cfg} (ok : CfgOk cfg) (hx : ExitOk cfg) :
    ∀ (m : Nat) (s : St), Reach (step cfg) (mkInit cfg) s → OthersDone cfg s → s.toExit ≠ 0 →
      mu cfg s ≤ m →
      ∃ k, k ≤ m ∧ Reach (step cfg) (mkInit cfg) (solo cfg k s) ∧ (solo cfg k s).pc cfg.lt = .done := by
  intro m s hr hod he
  refine solo_reaches (I := fun s => OthersDone cfg s ∧ s.toExit ≠ 0) (G := fun s => s.pc cfg.lt = .done)
    (μ := mu cfg) (fun s hr hi hd => ?_) m s hr ⟨hod, he⟩
  obtain ⟨ht, hs, _⟩ := reach_inv ok hr
  obtain ⟨hen, hlt⟩ := solo_decreases ht hs hx hi.1 hi.2 hd Step.of_nxt
  exact ⟨hen, ⟨hi.1.nxt, toExit_step hi.2 Step.of_nxt⟩, hlt⟩

/-- a completed exit call implies the exit store has happened (links the ghost counter of
completed `muggle_evloop_exit` calls to `to_exit`) -/
theorem exit_call_sets_flag {cfg : Cfg} (ok : CfgOk cfg) {s : St}
    (hr : Reach (step cfg) (mkInit cfg) s) (h : s.exitCalls > 0) : s.toExit ≠ 0 := by
  obtain ⟨_, hs, _⟩ := reach_inv ok hr
  intro h0
  have := (hs.ec h0).1
  omega

/-- the exit callback never runs before the clear phase, and neither runs twice -/
theorem clear_before_exit_once {cfg : Cfg} (ok : CfgOk cfg) {s : St}
    (hr : Reach (step cfg) (mkInit cfg) s) :
    s.clears ≤ 1 ∧ s.exits ≤ s.clears := by
  obtain ⟨_, _, hc⟩ := reach_inv ok hr
  rw [hc.cnt.1, hc.cnt.2]
  refine ⟨by split <;> decide, ?_⟩
  by_cases he : exited (s.pc cfg.lt) = true
  · rw [if_pos he, if_pos (gone_of_exited he)]; exact Nat.le_refl 1
  · rw [if_neg he]; exact Nat.zero_le _

/-! ## Clauses 2 and 4 — contexts: registered or released exactly once, never touched after free -/

/-- **At most once, and no use after free, in every reachable state**: a context is in at most one
of {hand-over queue, registered list, released, dropped}; it has been registered at most once and
released at most once; no step touched a context after its release (`uaf = 0`: the ownership form
of "no callback touches memory that has been freed"). -/
theorem ctx_at_most_once_no_uaf {cfg : Cfg} (ok : CfgOk cfg) {s : St}
    (hr : Reach (step cfg) (mkInit cfg) s) (c : Ctx) :
    s.queue.count c + s.reg.count c + s.relLog.count c + s.lost.count c ≤ 1 ∧
    s.regLog.count c ≤ 1 ∧ s.relLog.count c ≤ 1 ∧ s.uaf = 0 := by
  obtain ⟨_, _, hc⟩ := reach_inv ok hr
  have h1 := hc.total_le_one c
  have h2 := hc.rl c
  have h3 : s.handed.count c ≤ 1 := List.nodup_iff_count.mp hc.hnd c
  exact ⟨h1, by omega, by omega, hc.uaf⟩

/-- the state after the owner's `muggle_socket_evloop_handle_destroy` keeps `uaf = 0` -/
theorem finalize_no_uaf {cfg : Cfg} (ok : CfgOk cfg) {s : St}
    (hr : Reach (step cfg) (mkInit cfg) s) : (finalize cfg s).uaf = 0 := by
  obtain ⟨_, _, hc⟩ := reach_inv ok hr
  unfold finalize
  split
  · simp only [release]
    rw [hc.uaf, filter_mem_len_zero]
    exact fun c hq => hc.not_rel (.inl hq)
  · exact hc.uaf

/-- **Hand-over, general accounting after `run()` returned** (any variant of the code): when
`run()` has returned, after the owner's `handle_destroy` every handed-over context is
exactly one of: released, dropped by `on_wake` (only the original `on_wake`), left in the queue
(only the original `handle_destroy`); nothing is registered. -/
theorem handover_accounting_after_exit {cfg : Cfg} (ok : CfgOk cfg) {s : St}
    (hr : Reach (step cfg) (mkInit cfg) s) (hd : s.pc cfg.lt = .done) (c : Ctx) (hc : c ∈ s.handed) :
    (finalize cfg s).relLog.count c + (finalize cfg s).lost.count c + (finalize cfg s).queue.count c = 1 ∧
    (finalize cfg s).reg = [] ∧
    (cfg.fix.addFail = true → (finalize cfg s).lost = []) ∧
    (cfg.fix.lateQueue = true → (finalize cfg s).queue = []) := by
  obtain ⟨_, _, hi⟩ := reach_inv ok hr
  have hg : gone (s.pc cfg.lt) = true := by rw [hd]; rfl
  have hreg := hi.regE hg
  have hp := hi.handed_once hc
  rw [hreg] at hp
  simp only [List.count_nil] at hp
  unfold finalize
  split
  · simp only [release, List.count_append, List.count_nil]
    exact ⟨by omega, hreg, hi.nolost, by simp⟩
  · rename_i hl
    exact ⟨by omega, hreg, hi.nolost, fun h => absurd h hl⟩

/-- **Hand-over: released exactly once after exit** (repaired `on_wake` and `handle_destroy`): when
`run()` has returned, after the owner's `handle_destroy` every context that was handed over — at
any moment, also after `on_exit` drained the queue — has been released exactly once, registered at
most once, and nothing touched it after its release; the pre-registered I/O context too. -/
theorem handover_released_exactly_once {cfg : Cfg} (ok : CfgOk cfg)
    (hf1 : cfg.fix.addFail = true) (hf2 : cfg.fix.lateQueue = true) {s : St}
    (hr : Reach (step cfg) (mkInit cfg) s) (hd : s.pc cfg.lt = .done) :
    (∀ c ∈ s.handed, (finalize cfg s).relLog.count c = 1 ∧ s.regLog.count c ≤ 1) ∧
    (cfg.ioCtx = true → (finalize cfg s).relLog.count cfg.ioId = 1) ∧
    (finalize cfg s).queue = [] ∧ (finalize cfg s).uaf = 0 := by
  obtain ⟨_, _, hi⟩ := reach_inv ok hr
  refine ⟨?_, ?_, ?_, finalize_no_uaf ok hr⟩
  · intro c hc
    obtain ⟨h1, _, h3, h4⟩ := handover_accounting_after_exit ok hr hd c hc
    rw [h3 hf1, h4 hf2] at h1
    simp only [List.count_nil] at h1
    exact ⟨by omega, (ctx_at_most_once_no_uaf ok hr c).2.1⟩
  · intro hio
    have hg : gone (s.pc cfg.lt) = true := by rw [hd]; rfl
    have hp := hi.part cfg.ioId
    rw [hi.regE hg, hi.nolost hf1] at hp
    have h0 := List.count_eq_zero_of_not_mem hi.ioId_not_handed
    simp only [List.count_nil, ioOne, hio, true_and, if_true, h0] at hp
    unfold finalize
    simp only [hf2, if_true, release, List.count_append]
    omega
  · unfold finalize; simp [hf2]

/-- **Hand-over while the loop keeps running**: when nothing can run any more and `run()` has not
returned, every handed-over context has left the queue and is exactly one of: registered
(in the loop's list), released (its registration failed: bad descriptor or capacity — repaired
`on_wake`), dropped (original `on_wake` only). -/
theorem handover_registered_or_released_while_running {cfg : Cfg} (ok : CfgOk cfg) {s : St}
    (hr : Reach (step cfg) (mkInit cfg) s) (hT : Terminal cfg s) (hrun : Running cfg s)
    (c : Ctx) (hc : c ∈ s.handed) :
    s.reg.count c + s.relLog.count c + s.lost.count c = 1 ∧ s.queue = [] ∧
    (cfg.fix.addFail = true → s.lost = []) := by
  obtain ⟨_, _, hi⟩ := reach_inv ok hr
  obtain ⟨_, hq, _⟩ := wake_served_at_quiescence ok hr hT hrun
  have hp := hi.handed_once hc
  rw [hq] at hp
  simp only [List.count_nil] at hp
  exact ⟨by omega, hq, hi.nolost⟩

/-! ## The original code: the exit theorem outside the trigger, and negation witnesses -/

/-- **Exit, original `muggle_evloop_exit`, partial**: the exit theorem holds for the unrepaired
code whenever the thread that created the loop is the loop thread itself or is not an exit thread
(`NoCreatorExit`). What is missing for the full statement is exactly the case refuted below. -/
theorem exit_makes_run_return_partial {cfg : Cfg} (ok : CfgOk cfg) (hnc : NoCreatorExit cfg) {s : St}
    (hr : Reach (step cfg) (mkInit cfg) s) (hT : Terminal cfg s) (he : s.toExit ≠ 0) :
    s.pc cfg.lt = .done ∧ s.clears = 1 ∧ s.exits = 1 ∧ s.reg = [] :=
  exit_makes_run_return ok (Or.inr hnc) hr hT he

def tk (l : List Nat) : List Tok := l.map fun t => { tid := t }

/-- the configuration of corpus/C14/exit-before-run-lost.ops with the ORIGINAL exit -/
def cfgExitLost : Cfg := mkCfg .select 4 false { exitWake := false } [.exit, .loop 0]

/-- **The full exit statement is false for the original code** (DESIGN.md §4 #16): thread 0 created
the loop and calls `muggle_evloop_exit` before thread 1 records its id in `muggle_evloop_run`: EXIT
is stored without a wake-up and the loop parks for ever — a terminal state with the exit call
completed and `run()` not returned. Replayed on the real code by the check. -/
theorem exit_before_run_lost_orig :
    let s := (runSched (step cfgExitLost) (mkInit cfgExitLost) (tk [0, 0, 1, 1, 1])).1
    s.exitCalls = 1 ∧ s.toExit = EXIT ∧ s.pc cfgExitLost.lt = .blocked ∧
    (∀ t, t < 2 → s.enabled cfgExitLost t = false) := by
  decide

/-- the racing form: the creator reads `tid` (still its own), the loop thread starts and parks, the
creator stores EXIT: also lost -/
theorem exit_racing_run_start_lost_orig :
    let s := (runSched (step cfgExitLost) (mkInit cfgExitLost) (tk [0, 1, 1, 1, 0])).1
    s.exitCalls = 1 ∧ s.pc cfgExitLost.lt = .blocked ∧ (∀ t, t < 2 → s.enabled cfgExitLost t = false) := by
  decide

/-- with the repaired exit the first schedule, continued, ends with `run()` returned -/
example :
    let cfg := mkCfg .select 4 false {} [.exit, .loop 0]
    (runSched (step cfg) (mkInit cfg) (tk [0, 0, 1, 1, 1, 0, 1, 1, 1, 1, 1, 1, 1, 1])).1.pc 1 = .done := by
  decide

/-- **The original `on_wake` drops a context whose registration fails** (DESIGN.md §4 #17): poll
back-end with capacity 1, two contexts handed over: the second is neither registered nor released
(`lost`), and no further step is possible. -/
theorem on_wake_add_failure_dropped_orig :
    let cfg := mkCfg .poll 1 false { addFail := false } [.loop 0, .hand [true, true]]
    let s := (runSched (step cfg) (mkInit cfg)
      (tk [0, 0, 0, 1, 1, 1, 1, 1, 1, 0, 0, 0, 0, 0, 0, 0, 0, 0, 0])).1
    s.lost = [(1, 1)] ∧ s.reg = [(1, 0)] ∧ s.relLog = [] ∧ s.queue = [] ∧
    (∀ t, t < 2 → s.enabled cfg t = false) := by
  decide

/-- **The original `handle_destroy` leaks a context handed over after `on_exit` drained the
queue**: the exit completes, `run()` returns, then the hand-over thread enqueues its context: it
is still queued after `handle_destroy`, never released. -/
theorem late_handover_leaked_orig :
    let cfg := mkCfg .poll 2 false { lateQueue := false } [.loop 0, .exit, .hand [true]]
    let s := (runSched (step cfg) (mkInit cfg)
      (tk [0, 0, 1, 1, 1, 0, 0, 0, 0, 0, 0, 0, 0, 0, 2, 2, 2])).1
    s.pc 0 = .done ∧ (finalize cfg s).queue = [(2, 0)] ∧ (finalize cfg s).relLog = [] ∧
    (∀ t, t < 3 → s.enabled cfg t = false) := by
  decide

/-! ## Non-vacuity -/

def isLoopRole : Role → Bool
  | .loop _ => true
  | _ => false

theorem cfgOk_of_list (b : Backend) (cap : Nat) (io : Bool) (fix : Fix) (roles : List Role)
    (h1 : findLoop roles 0 < roles.length)
    (h2 : isLoopRole (roles.getD (findLoop roles 0) (.waker 0)) = true)
    (h3 : ∀ t, t < roles.length → t ≠ findLoop roles 0 → isLoopRole (roles.getD t (.waker 0)) = false) :
    CfgOk (mkCfg b cap io fix roles) := by
  refine ⟨?_, ?_, h1⟩
  · intro t ht k hk
    by_cases hl : t < roles.length
    · have := h3 t hl ht
      simp only [mkCfg] at hk
      rw [hk] at this
      simp [isLoopRole] at this
    · simp only [mkCfg, List.getD_eq_getElem?_getD, List.getElem?_eq_none (Nat.le_of_not_lt hl)] at hk
      simp at hk
  · simp only [mkCfg]
    cases hr : roles.getD (findLoop roles 0) (.waker 0) with
    | loop k => exact ⟨k, rfl⟩
    | _ => rw [hr] at h2; simp [isLoopRole] at h2

theorem findLoop_eq (roles : List Role) (i : Nat) : findLoop roles i = i + roles.findIdx isLoopRole := by
  induction roles generalizing i with
  | nil => rfl
  | cons r rs ih => cases r <;> simp [findLoop, List.findIdx_cons, isLoopRole, ih] <;> omega

theorem findIdx_only {α : Type} (p : α → Bool) (d : α) (l : List α) (h : (l.filter p).length = 1) :
    ∀ t, t < l.length → t ≠ l.findIdx p → p (l.getD t d) = false := by
  induction l with
  | nil => intro t ht; cases ht
  | cons r rs ih =>
    intro t ht hne
    rw [List.findIdx_cons] at hne
    cases hr : p r with
    | false =>
      rw [List.filter_cons_of_neg (by simp [hr])] at h
      cases t with
      | zero => exact hr
      | succ t => exact ih h t (Nat.lt_of_succ_lt_succ ht) (by simpa [hr] using hne)
    | true =>
      rw [List.filter_cons_of_pos hr, List.length_cons, Nat.succ.injEq, List.length_eq_zero_iff,
        List.filter_eq_nil_iff] at h
      cases t with
      | zero => simp [hr] at hne
      | succ t =>
        have ht' : t < rs.length := Nat.lt_of_succ_lt_succ ht
        rw [List.getD_cons_succ, List.getD_eq_getElem?_getD, List.getElem?_eq_getElem ht']
        simpa using h rs[t] (List.getElem_mem ht')

theorem cfgOk_of_one_loop (b : Backend) (cap : Nat) (io : Bool) (fix : Fix) (roles : List Role)
    (h : (roles.filter isLoopRole).length = 1) : CfgOk (mkCfg b cap io fix roles) := by
  have hlt : roles.findIdx isLoopRole < roles.length := by
    rw [List.findIdx_lt_length]
    obtain ⟨a, ha⟩ := List.length_eq_one_iff.1 h
    have hm : a ∈ roles.filter isLoopRole := by rw [ha]; exact List.mem_singleton_self a
    exact ⟨a, List.mem_filter.1 hm⟩
  have he : findLoop roles 0 = roles.findIdx isLoopRole := by rw [findLoop_eq, Nat.zero_add]
  refine cfgOk_of_list b cap io fix roles (he ▸ hlt) ?_ (he ▸ findIdx_only isLoopRole (.waker 0) roles h)
  rw [he, List.getD_eq_getElem?_getD, List.getElem?_eq_getElem hlt]
  exact List.findIdx_getElem

/-- the hypotheses of the theorems are satisfiable and the interesting states are reachable: with
the creator being the exit thread, a waker, a hand-over thread with a good and a bad descriptor and
an I/O writer on the epoll back-end, a concrete schedule reaches a state where the loop has been
woken from its park and a wake-up request is unserved -/
example :
    let cfg := mkCfg .epoll 1 true {} [.exit, .loop 0, .waker 2, .hand [true, false], .io 1]
    CfgOk cfg ∧ ExitOk cfg ∧
    (runSched (step cfg) (mkInit cfg) (tk [1, 1, 1, 2])).1.unserved = 1 ∧
    (runSched (step cfg) (mkInit cfg) (tk [1, 1, 1, 2])).1.pc 1 = .woken := by
  refine ⟨cfgOk_of_one_loop _ _ _ _ _ (by decide), Or.inl rfl, by decide, by decide⟩

end MgProof.C14
