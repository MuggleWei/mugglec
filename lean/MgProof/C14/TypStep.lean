import MgProof.C14.Step
/-! C14: every step preserves `Typ`. The mutex clause is closed under every move whoever makes it
(`Typ.owner_step`); for the rest `Typ` is what tells the loop thread from the others, so the proof is
split by the stepping thread. -/
namespace MgProof.C14
open MgModel.Conc MgModel.C14

/-! A lock whose owner word says where the owner stands (one direction only). -/
section owner
variable {α : Type} {ok : Nat → Prop} {inM : α → Prop} {mtx : Option Nat} {pc : Nat → α} {t : Nat} {p' : α}

theorem owner_keep (h : ∀ o, mtx = some o → ok o ∧ inM (pc o)) (hk : inM (pc t) → inM p') :
    ∀ o, mtx = some o → ok o ∧ inM (upd pc t p' o) :=
  fun o ho => ⟨(h o ho).1, upd_intro (fun e => hk (e ▸ (h o ho).2)) fun _ => (h o ho).2⟩

theorem owner_enter (ht : ok t) (hp : inM p') : ∀ o, some t = some o → ok o ∧ inM (upd pc t p' o) := by
  intro o e
  cases e
  exact ⟨ht, by rw [upd_same]; exact hp⟩

end owner

variable {cfg : Cfg} {s s' : St} {t u : Nat}

/-- whoever moves: a move that neither takes nor gives the mutex stays inside the critical section or
outside it -/
theorem Typ.owner_step (h : Typ cfg s) (st : Step cfg s t s') :
    ∀ o, s'.mtx = some o → o < cfg.n ∧ inCS (s'.pc o) := by
  cases st with
  | wkLock hp | exLock hp | hLock hp =>
    exact owner_enter (h.lt_n (by simp [hp])) (by simp [inCS, ↓apply_ite inCS])
  | wkUnlock hp | exUnlock hp | hUnlock hp => exact nofun
  | eWake hp | wWrite hp | hWake hp | iWrite hp =>
    refine owner_keep (owner_keep h.owner fun a => ?_) fun a => ?_
    · split
      · rw [‹s.pc cfg.lt = Pc.blocked›] at a; simp [inCS] at a
      · exact a
    · have := woken_before (Q := inCS) (by simp [inCS]) a
      simp [hp, inCS] at this
  | idle hp => exact h.owner
  | _ => exact owner_keep h.owner (by simp [*, inCS, ↓apply_ite inCS])

theorem Step.pc_self_other (hnl : isLoopPc (s.pc t) = false) (hne : t ≠ cfg.lt) (st : Step cfg s t s') :
    isLoopPc (s'.pc t) = false ∧ (isExitPc (s'.pc t) = true → isExitPc (s.pc t) = true) := by
  cases st with
  | eWake hp | wWrite hp | hWake hp | iWrite hp | eRead hp | eSetW hp | eSetEWake hp | eSetERet hp
  | hLock hp | hUnlock hp =>
    refine ⟨(congrArg isLoopPc (upd_same ..)).trans ?_, fun e => ?_⟩
    · simp [hne, isLoopPc, ↓apply_ite isLoopPc]
    · have e := (congrArg isExitPc (upd_same ..)).symm.trans e
      simp [hne, hp, isExitPc, ↓apply_ite isExitPc] at e ⊢
  | idle hp => exact ⟨hnl, id⟩
  | _ => simp [*, isLoopPc] at hnl

theorem typ_step_other (h : Typ cfg s) (hne : t ≠ cfg.lt) (st : Step cfg s t s') : Typ cfg s' := by
  have hnl := h.nonloop t hne
  obtain ⟨ftid, fev, fplan, -, -, -, fpc⟩ := st.other hnl hne
  obtain ⟨hself, hexit⟩ := st.pc_self_other hnl hne
  refine { nonloop := ?_, loopthr := ?_, beyond := ?_, tid := ftid ▸ h.tid, owner := h.owner_step st,
           started := ?_, idle := ?_, exitrole := ?_, tidl := ?_, noSetW := ?_ }
  · intro u hul
    by_cases e : u = t
    · exact e ▸ hself
    · rw [st.pc_other e hul]; exact h.nonloop u hul
  · exact (blind fpc (fun p => isLoopPc p = true ∨ isExitPc p = true ∨ p = Pc.done)
      (by simp [isLoopPc, isExitPc])).mpr h.loopthr
  · intro u hu
    by_cases e : u = t
    · subst e; rw [st.of_done (h.beyond u hu)]; exact h.beyond u hu
    · by_cases el : u = cfg.lt
      · subst el
        exact (blind fpc (fun p => p = Pc.done) (by simp)).mpr (h.beyond _ hu)
      · rw [st.pc_other e el]; exact h.beyond u hu
  · rw [fev, blind fpc (· != Pc.runStart) rfl]; exact h.started
  · rw [fplan, blind fpc idlePc rfl]; exact h.idle
  · intro u hul hx
    by_cases e : u = t
    · subst e; exact h.exitrole u hul (hexit hx)
    · rw [st.pc_other e hul] at hx; exact h.exitrole u hul hx
  · rw [fev, ftid]; exact h.tidl
  · exact (blind fpc (fun p => p ≠ Pc.eSetW) (by simp)).mpr h.noSetW

/-- the loop thread's own exit call takes the `tid == self` branch (`Typ.tidl`), hence never `eSetW` -/
theorem Step.pc_self_loop (h : Typ cfg s) (hd : s.pc cfg.lt ≠ .done) (st : Step cfg s cfg.lt s') :
    (isLoopPc (s'.pc cfg.lt) = true ∨ isExitPc (s'.pc cfg.lt) = true ∨ s'.pc cfg.lt = .done) ∧
    s'.pc cfg.lt ≠ .runStart ∧ s'.pc cfg.lt ≠ .eSetW ∧ s'.evAdded = true := by
  have hev : s.pc cfg.lt ≠ .runStart → s.evAdded = true := fun e => by rw [h.started]; simpa using e
  cases st with
  | runStart hp => simp [isLoopPc]
  | eRead hp =>
    have := h.tidl (hev (by simp [hp]))
    simp [this, isExitPc, hev, hp]
  | wWrite hp | hLock hp | hUnlock hp | hWake hp | iWrite hp =>
    exact absurd rfl (h.ne_lt (by simp [hp, isLoopPc, isExitPc]))
  | idle hp =>
    have hb : s.pc cfg.lt = .blocked := hp.resolve_right hd
    simp [hb, isLoopPc, hev]
  | eSetW hp => exact absurd hp h.noSetW
  | _ =>
    refine ⟨?_, ?_, ?_, hev (by simp [*])⟩ <;> simp only [exitReturn, upd_same] <;>
      simp [isLoopPc, isExitPc, ↓apply_ite isLoopPc, ↓apply_ite isExitPc, ite_eq_iff']

theorem typ_step_loop (h : Typ cfg s) (st : Step cfg s cfg.lt s') : Typ cfg s' := by
  by_cases hd : s.pc cfg.lt = .done
  · rw [st.of_done hd]; exact h
  have hn := h.lt_n hd
  have hpc : ∀ u, u ≠ cfg.lt → s'.pc u = s.pc u := fun u hu => st.pc_other hu hu
  obtain ⟨hcls, hrs, hsw, hev⟩ := st.pc_self_loop h hd
  have htid : (s'.tid = 0 ∨ s'.tid = cfg.lt) ∧ (s'.evAdded = true → s'.tid = cfg.lt) := by
    cases st with
    | runStart hp => exact ⟨.inr rfl, fun _ => rfl⟩
    | _ => exact ⟨h.tid, h.tidl⟩
  refine { nonloop := fun u hu => by rw [hpc u hu]; exact h.nonloop u hu, loopthr := hcls,
           beyond := fun u hu => by rw [hpc u (by omega)]; exact h.beyond u hu,
           exitrole := fun u hu => by rw [hpc u hu]; exact h.exitrole u hu,
           started := by rw [hev]; simpa using hrs, noSetW := hsw,
           owner := h.owner_step st, idle := ?_, tid := htid.1, tidl := htid.2 }
  · cases st with
    | poll hp | woken hp | eagain hp =>
      intro hi
      show advPlan (harvest cfg s) = []
      have hi := (congrArg idlePc (upd_same ..)).symm.trans hi
      split at hi
      · rw [‹harvest cfg s = []›]; rfl
      · split at hi
        · cases hi
        · exact advPlan_chk _ (by rw [advPc_eq, if_neg ‹_›])
    | wkChkElse hp | wkSet hp =>
      intro hi
      show advPlan s.plan = []
      have hi := (congrArg idlePc (upd_same ..)).symm.trans hi
      split at hi
      · cases hi
      · exact advPlan_chk _ (by rw [advPc_eq, if_neg ‹_›])
    | idle hp => exact h.idle
    | wWrite hp | hLock hp | hUnlock hp | hWake hp | iWrite hp =>
      exact absurd rfl (h.ne_lt (by simp [hp, isLoopPc, isExitPc]))
    | _ =>
      exact fun hi => h.idle (by
        simp only [exitReturn, upd_same] at hi
        simp [‹s.pc cfg.lt = _›, idlePc, ↓apply_ite idlePc] at hi ⊢)

theorem Typ.step (h : Typ cfg s) (st : Step cfg s t s') : Typ cfg s' := by
  by_cases e : t = cfg.lt
  · subst e; exact typ_step_loop h st
  · exact typ_step_other h e st

theorem typ_step {tok : Tok} {ev : List String}
    (h : Typ cfg s) (hs : step cfg s tok = some (s', ev)) : Typ cfg s' := by
  rw [step_some hs]
  exact h.step Step.of_nxt

end MgProof.C14
