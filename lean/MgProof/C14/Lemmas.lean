import MgModel.C14.EvLoop
/-! C14: the pc classes, the control-flow ("typing") invariant `Typ` of the event-loop model and what it
says of a single state, facts about the helper functions, the state after a thread's step and when a
thread is enabled. -/
namespace MgProof.C14
open MgModel.Conc MgModel.C14

/-- program counters that only the loop thread can have -/
def isLoopPc : Pc → Bool
  | .runStart | .poll | .fwait _ | .blocked | .woken | .clearup | .wkLock | .wkAdd | .wkUnlock
  | .wkChk | .wkSet | .chkExit | .exLock | .exUnlock => true
  | _ => false

/-- program counters inside `muggle_evloop_exit` -/
def isExitPc : Pc → Bool
  | .eRead | .eSetW | .eSetE | .eWake => true
  | _ => false

/-- pcs at which the plan of the last poll has been dispatched (`Typ.idle`) -/
def idlePc : Pc → Bool
  | .runStart | .poll | .fwait _ | .blocked | .woken | .chkExit | .exLock | .exUnlock | .done => true
  | _ => false

/-- the loop has left its loop (decided to exit) -/
def gone : Pc → Bool
  | .exLock | .exUnlock | .done => true
  | _ => false

def WF (cfg : Cfg) : Prop := ∀ t, t ≠ cfg.lt → ∀ k, cfg.role t ≠ .loop k

/-- `owner` says only where an owner stands, not that whoever stands there owns the mutex (`Step`
does not ask for enabledness); `started`: the eventfd is in the set from `runStart` on -/
structure Typ (cfg : Cfg) (s : St) : Prop where
  nonloop : ∀ t, t ≠ cfg.lt → isLoopPc (s.pc t) = false
  loopthr : isLoopPc (s.pc cfg.lt) = true ∨ isExitPc (s.pc cfg.lt) = true ∨ s.pc cfg.lt = .done
  beyond  : ∀ t, cfg.n ≤ t → s.pc t = .done
  tid     : s.tid = 0 ∨ s.tid = cfg.lt
  owner   : ∀ o, s.mtx = some o → o < cfg.n ∧
              (s.pc o = .wkAdd ∨ s.pc o = .wkUnlock ∨ s.pc o = .exUnlock ∨ ∃ i r, s.pc o = .hUnlock i r)
  started : s.evAdded = (s.pc cfg.lt != .runStart)
  idle    : idlePc (s.pc cfg.lt) = true → s.plan = []
  exitrole : ∀ t, t ≠ cfg.lt → isExitPc (s.pc t) = true → cfg.role t = .exit
  /-- once `run` has recorded its thread id nobody changes it, so the loop thread's own exit call
  takes the `tid == self` branch -/
  tidl    : s.evAdded = true → s.tid = cfg.lt
  noSetW  : s.pc cfg.lt ≠ .eSetW

theorem initPc_cases (r : Role) :
    initPc r = .runStart ∨ initPc r = .eRead ∨ initPc r = .done ∨ (∃ k, initPc r = .wWrite k) ∨
    (∃ l, initPc r = .hLock 0 l) ∨ ∃ k, initPc r = .iWrite k := by
  cases r with
  | loop k => exact Or.inl rfl
  | exit => exact Or.inr (Or.inl rfl)
  | waker k => simp only [initPc]; split <;> simp
  | hand p => cases p <;> simp [initPc]
  | io k => simp only [initPc]; split <;> simp

theorem initPc_nonloop {r : Role} (h : ∀ k, r ≠ .loop k) : isLoopPc (initPc r) = false := by
  cases r with
  | loop k => exact absurd rfl (h k)
  | exit => rfl
  | waker k => simp only [initPc]; split <;> rfl
  | hand p => cases p <;> rfl
  | io k => simp only [initPc]; split <;> rfl

theorem mkInit_pc_cases (cfg : Cfg) (t : Nat) :
    (mkInit cfg).pc t = .runStart ∨ (mkInit cfg).pc t = .eRead ∨ (mkInit cfg).pc t = .done ∨
    (∃ k, (mkInit cfg).pc t = .wWrite k) ∨ (∃ l, (mkInit cfg).pc t = .hLock 0 l) ∨
    ∃ k, (mkInit cfg).pc t = .iWrite k := by
  simp only [mkInit]
  split
  · exact initPc_cases _
  · exact Or.inr (Or.inr (Or.inl rfl))

theorem typ_init (cfg : Cfg) (hwf : WF cfg) (hl : ∃ k, cfg.role cfg.lt = .loop k) (hn : cfg.lt < cfg.n) :
    Typ cfg (mkInit cfg) := by
  obtain ⟨k, hk⟩ := hl
  refine ⟨?_, ?_, ?_, Or.inl rfl, ?_, ?_, ?_, ?_, ?_, ?_⟩
  · intro t ht
    simp only [mkInit]
    split
    · exact initPc_nonloop (hwf t ht)
    · rfl
  · simp [mkInit, hn, hk, initPc, isLoopPc]
  · intro t ht
    simp only [mkInit]
    split
    · omega
    · rfl
  · intro o h; simp [mkInit] at h
  · simp [mkInit, hn, hk, initPc]
  · intro _; rfl
  · intro t ht
    simp only [mkInit]
    split
    · have := hwf t ht
      cases hr : cfg.role t with
      | loop k => exact absurd hr (this k)
      | exit => intro _; rfl
      | waker k => simp only [initPc]; split <;> simp [isExitPc]
      | hand p => cases p <;> simp [initPc, isExitPc]
      | io k => simp only [initPc]; split <;> simp [isExitPc]
    · simp [isExitPc]
  · intro h; simp [mkInit] at h
  · simp [mkInit, hn, hk, initPc]

theorem loopPc_lt {cfg : Cfg} {s : St} {t : Nat} (h : Typ cfg s) (hl : isLoopPc (s.pc t) = true) : t = cfg.lt := by
  by_cases e : t = cfg.lt
  · exact e
  · rw [h.nonloop t e] at hl; simp at hl

/-- a loop pc only at the loop thread; the loop thread at a loop pc, an exit pc or `done` -/
theorem thr {cfg : Cfg} {s : St} (h : Typ cfg s) (t : Nat) :
    (isLoopPc (s.pc t) = true → t = cfg.lt) ∧
    (t = cfg.lt → isLoopPc (s.pc t) = true ∨ isExitPc (s.pc t) = true ∨ s.pc t = .done) := by
  refine ⟨loopPc_lt h, ?_⟩
  intro e; subst e; exact h.loopthr

theorem Typ.ne_lt {cfg : Cfg} {s : St} {t : Nat} (h : Typ cfg s)
    (hp : isLoopPc (s.pc t) = false ∧ isExitPc (s.pc t) = false ∧ s.pc t ≠ .done) : t ≠ cfg.lt := by
  rintro rfl
  rcases h.loopthr with e | e | e <;> simp [e] at hp

theorem Typ.lt_n {cfg : Cfg} {s : St} {t : Nat} (h : Typ cfg s) (hd : s.pc t ≠ .done) : t < cfg.n :=
  Nat.lt_of_not_le fun hge => hd (h.beyond t hge)

theorem advPc_eq (pl : List Src) : advPc pl = if Src.ev ∈ pl then .clearup else .chkExit := by
  induction pl with
  | nil => rfl
  | cons x xs ih => cases x <;> simp [advPc, ih]

theorem advPc_cases (pl : List Src) : advPc pl = .clearup ∨ advPc pl = .chkExit := by
  rw [advPc_eq]; split <;> simp

theorem advPlan_chk (pl : List Src) (h : advPc pl = .chkExit) : advPlan pl = [] := by
  induction pl with
  | nil => rfl
  | cons x xs ih => cases x <;> simp_all [advPc, advPlan]

abbrev nxt (cfg : Cfg) (s : St) (t : Nat) : St := (stepAt cfg s t (s.pc t)).1

theorem step_some {cfg : Cfg} {s s' : St} {tok : Tok} {ev : List String}
    (hs : step cfg s tok = some (s', ev)) : s' = nxt cfg s tok.tid := by
  unfold step at hs
  split at hs
  · injection hs with hs
    exact (congrArg Prod.fst hs).symm
  · simp at hs

def lockPc : Pc → Bool
  | .wkLock | .exLock | .hLock _ _ => true
  | _ => false

/-- the pcs inside the critical section of `handle->mtx`: where `Typ.owner` lets an owner stand -/
def inCS (p : Pc) : Prop := p = .wkAdd ∨ p = .wkUnlock ∨ p = .exUnlock ∨ ∃ i r, p = .hUnlock i r

theorem inCS.runs {p : Pc} (h : inCS p) : lockPc p = false ∧ p ≠ .done ∧ p ≠ .blocked := by
  rcases h with e | e | e | ⟨i, r, e⟩ <;> simp [e, lockPc]

theorem enabled_iff {cfg : Cfg} {s : St} {t : Nat} :
    s.enabled cfg t = true ↔
      t < cfg.n ∧ s.pc t ≠ .done ∧ s.pc t ≠ .blocked ∧ (lockPc (s.pc t) = true → s.mtx = none) := by
  unfold St.enabled
  cases s.pc t <;> simp [lockPc]

/-- case split on the pc `q` of the stepping thread, unfold the step, split its branches, normalise
the resulting state to field values -/
macro "step_unfold" q:ident hen:ident : tactic => `(tactic|
  (cases $q:ident <;> simp only [stepAt, St.enabled] at $hen:ident ⊢ <;>
   (repeat' split) <;>
   (try simp only [pollNow, advance, exitReturn, evWrite, signal, release]) <;>
   (try dsimp only)))

end MgProof.C14
