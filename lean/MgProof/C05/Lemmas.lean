import MgModel.C05.Client
import MgProof.Conc
/-! Shared by the three pool proofs. The client layer's functions rewrite to one record `{ g with … }`, after
which the fields an invariant reads are definitional. -/
namespace MgProof.C05
open MgModel.Conc MgModel.C05

theorem beginOp_lists (g : Ghost) (t cap : Nat) (op : Op) :
    ∃ m bg, (beginOp g t cap op).1 = { g with mine := m, bag := bg } := by
  unfold beginOp; split <;> (try split) <;> exact ⟨_, _, rfl⟩

theorem beginOp_owned (g : Ghost) (t cap : Nat) (op : Op) : (beginOp g t cap op).1.owned = g.owned := by
  obtain ⟨_, _, e⟩ := beginOp_lists g t cap op; rw [e]
theorem beginOp_serial (g : Ghost) (t cap : Nat) (op : Op) : (beginOp g t cap op).1.serial = g.serial := by
  obtain ⟨_, _, e⟩ := beginOp_lists g t cap op; rw [e]
theorem beginOp_nextSerial (g : Ghost) (t cap : Nat) (op : Op) :
    (beginOp g t cap op).1.nextSerial = g.nextSerial := by
  obtain ⟨_, _, e⟩ := beginOp_lists g t cap op; rw [e]
theorem beginOp_double (g : Ghost) (t cap : Nat) (op : Op) : (beginOp g t cap op).1.double = g.double := by
  obtain ⟨_, _, e⟩ := beginOp_lists g t cap op; rw [e]
theorem beginOp_illegal (g : Ghost) (t cap : Nat) (op : Op) : (beginOp g t cap op).1.illegal = g.illegal := by
  obtain ⟨_, _, e⟩ := beginOp_lists g t cap op; rw [e]

theorem beginOp_alloc_iff (g : Ghost) (t cap : Nat) (op : Op) :
    (∃ pb, (beginOp g t cap op).2 = .alloc pb) ↔ op.isAlloc = true := by
  unfold beginOp; split <;> (try split) <;> simp [Op.isAlloc]

theorem freeBegin_illegal_mono (sw : Bool) (g : Ghost) (t b : Nat) :
    g.illegal ≤ (freeBegin sw g t b).1.illegal := by
  unfold freeBegin; split <;> (try split) <;> simp

theorem freeBegin_legal {sw : Bool} {g : Ghost} {t b : Nat} (h : (freeBegin sw g t b).1.illegal = 0) :
    g.owned b = true ∧ g.illegal = 0 := by
  unfold freeBegin at h
  split at h
  · simp at h
  · rename_i ho
    refine ⟨by simpa using ho, ?_⟩
    split at h <;> exact h

theorem freeBegin_false {g : Ghost} {t b : Nat} (h : g.owned b = true) :
    (freeBegin false g t b).1 = { g with owned := upd g.owned b false } := by
  unfold freeBegin; simp [h]

theorem freeBegin_false_lists {g : Ghost} {t b : Nat} :
    (freeBegin false g t b).1.mine = g.mine ∧ (freeBegin false g t b).1.bag = g.bag := by
  unfold freeBegin; split <;> exact ⟨rfl, rfl⟩

theorem freeBegin_true {g : Ghost} {t b : Nat} (h : g.owned b = true) :
    ∃ m bg, (freeBegin true g t b).1 =
      { g with owned := fun i => g.owned i && !(g.owned i && decide (g.serial i ≤ g.serial b)),
               mine := m, bag := bg } := by
  unfold freeBegin; simp [h]

theorem allocDone_none (g : Ghost) (t : Nat) (pb : Bool) : (allocDone g t pb none).1 = g := rfl

theorem allocDone_some (g : Ghost) (t : Nat) (pb : Bool) (b : Nat) :
    ∃ m bg, (allocDone g t pb (some b)).1 =
      { g with owned := upd g.owned b true, serial := upd g.serial b g.nextSerial,
               nextSerial := g.nextSerial + 1, double := if g.owned b then g.double + 1 else g.double,
               mine := m, bag := bg } := by
  unfold allocDone; cases pb <;> exact ⟨_, _, rfl⟩

/-- `m` is a contract monitor (`misuse`), `p` the contract -/
theorem monitor_zero {p : Prop} [Decidable p] {m : Nat} (h : (if p then m else m + 1) = 0) : p ∧ m = 0 := by
  split at h
  · exact ⟨‹p›, h⟩
  · omega

theorem countP_range_isSum (q : Nat → Bool) :
    IsSum (fun n => (List.range n).countP q) fun i => if q i then 1 else 0 :=
  ⟨rfl, fun n => by simp [List.range_succ, List.countP_append, List.countP_cons]⟩

theorem countP_range_upd {α : Type} (p : α → Bool) (f : Nat → α) (b : Nat) (v : α) (n : Nat) (hb : b < n) :
    (List.range n).countP (fun i => p (upd f b v i)) + (if p (f b) then 1 else 0)
      = (List.range n).countP (fun i => p (f i)) + (if p v then 1 else 0) :=
  (countP_range_isSum _).upd (w := fun a => if p a then 1 else 0) (countP_range_isSum _) hb

theorem countP_range_le (p : Nat → Bool) (n : Nat) : (List.range n).countP p ≤ n := by
  have := List.countP_le_length (p := p) (l := List.range n)
  simpa using this

theorem ringIdx_eq_mod (i k : Nat) : ringIdx i (2 ^ k) = i % 2 ^ k := by
  unfold ringIdx
  exact Nat.and_two_pow_sub_one_eq_mod i k

/-- successor in the ring as an `if`, which `omega` can split -/
def nxt (C i : Nat) : Nat := if i + 1 = C then 0 else i + 1

theorem ringIdx_nxt {k C x : Nat} (h : C = 2 ^ k) (hx : x < C) : ringIdx (x + 1) C = nxt C x := by
  subst h
  rw [ringIdx_eq_mod]
  unfold nxt
  split
  · rename_i he; rw [he]; exact Nat.mod_self _
  · exact Nat.mod_eq_of_lt (by omega)

end MgProof.C05
