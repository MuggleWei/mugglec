import MgProof.C05.Lemmas
import MgModel.C05.SowrPool
/-! Invariant of the sowr-pool model (`MgModel.C05.Sowr.step`) for histories that are legal so
far (`illegal = 0`) and respect the pool's contract (`misuse = 0`: one allocating thread, one
freeing thread). Blocks are numbered by allocation serial; serial `σ` lives at position
`σ % cap`; a free releases the block and everything allocated before it. -/
namespace MgProof.C05.Sowr
open MgModel.Conc MgModel.C05 MgModel.C05.Sowr

theorem pow_dvd_u32 {k : Nat} (hk : k ≤ 32) : 2 ^ k ∣ u32 := by
  have : u32 = 2 ^ 32 := by decide
  rw [this]; exact Nat.pow_dvd_pow 2 hk

/-- the allocator's `(free_idx - 1) & (cap - 1)`, computed in 32-bit arithmetic from a `free_idx` that is the
position of serial `n`: the position before that of serial `n`, also for `free_idx = 0` -/
theorem pred_idx {k f n : Nat} (hk : k ≤ 32) (h : f % 2 ^ k = n % 2 ^ k) :
    ringIdx ((f + u32 - 1) % u32) (2 ^ k) = (n + 2 ^ k - 1) % 2 ^ k := by
  obtain ⟨q, hq⟩ := pow_dvd_u32 hk
  have hpos : 1 ≤ 2 ^ k := Nat.one_le_two_pow
  cases q with
  | zero => simp [u32] at hq
  | succ q =>
    rw [Nat.mul_succ] at hq
    rw [ringIdx_eq_mod, Nat.mod_mod_of_dvd _ (pow_dvd_u32 hk),
      show f + u32 - 1 = f + (2 ^ k - 1) + 2 ^ k * q by omega, Nat.add_mul_mod_self_left,
      show n + 2 ^ k - 1 = n + (2 ^ k - 1) by omega]
    exact Nat.add_mod_eq_add_mod_right _ h

/-- at `sSt b sb`: `sb` is the serial of `b`, not returned yet and older than every block still owned -/
def Knows (s : St) (t : Nat) : Pc → Prop
  | .sSt b sb => t = s.freeTid ∧ b < s.cap ∧ sb % s.cap = b ∧ s.nRet ≤ sb ∧ sb < s.g.nextSerial ∧
      ∀ b', s.g.owned b' = true → sb < s.g.serial b'
  | .sLd => t = s.allocTid
  | _ => True

/-- `rc` is the value of `nRet` when the allocator last computed `cached_free_pos` (clause `win`): the
cached position is the slot before serial `rc`, and `nextSerial` has not passed it.
Clauses `pos`, `fi`: `alloc_idx` and `free_idx` are the positions of the serials `nextSerial` and `nRet`. -/
structure Core (k rc : Nat) (s : St) : Prop where
  cap : s.cap = 2 ^ k ∧ k ≤ 32
  dbl : s.g.double = 0
  spn : s.spuriousNull = 0
  pos : s.allocIdx % s.cap = s.g.nextSerial % s.cap
  own : ∀ b, s.g.owned b = true →
          b < s.cap ∧ s.g.serial b % s.cap = b ∧ s.nRet ≤ s.g.serial b ∧ s.g.serial b < s.g.nextSerial
  win : rc ≤ s.nRet ∧ s.cachedFree = (rc + s.cap - 1) % s.cap ∧ s.g.nextSerial ≤ rc + s.cap - 1
  rn  : s.nRet ≤ s.g.nextSerial
  fi  : s.freeIdx % s.cap = s.nRet % s.cap
  kn  : ∀ t, Knows s t (s.pc t)

def Legal (s : St) : Prop := s.g.illegal = 0 ∧ s.misuse = 0

def Inv (k : Nat) (s : St) : Prop := Legal s → ∃ rc, Core k rc s

theorem nextPc_out (rest : List Op) (s : St) (t : Nat) : Knows s t (nextPc rest) := by
  unfold nextPc; split <;> trivial

theorem Core.at {k rc : Nat} {s : St} {t : Nat} {p0 : Pc} (c : Core k rc s) (hpc : s.pc t = p0) :
    Knows s t p0 := hpc ▸ c.kn t

namespace Core
variable {k rc : Nat} {s : St} {t : Nat} {q : Pc}

theorem cap_pos (c : Core k rc s) : 1 ≤ s.cap := by rw [c.cap.1]; exact Nat.one_le_two_pow

theorem pos_ringIdx (c : Core k rc s) : ringIdx s.allocIdx s.cap = s.g.nextSerial % s.cap := by
  rw [c.cap.1, ringIdx_eq_mod, ← c.cap.1]; exact c.pos

/-- what the allocator computes from `free_idx`: the position before serial `nRet` -/
theorem pred_fi (c : Core k rc s) :
    ringIdx ((s.freeIdx + u32 - 1) % u32) s.cap = (s.nRet + s.cap - 1) % s.cap := by
  have h := c.fi
  rw [c.cap.1] at h ⊢; exact pred_idx c.cap.2 h

theorem next_not_owned (c : Core k rc s) : s.g.owned (s.g.nextSerial % s.cap) = false := by
  cases h : s.g.owned (s.g.nextSerial % s.cap) with
  | false => rfl
  | true =>
    exfalso
    obtain ⟨_, h3, h4, h2⟩ := c.own _ h
    obtain ⟨_, _, hwin⟩ := c.win
    have hpos := c.cap_pos
    have := Nat.mod_inj_of_lt_add (n := s.cap) h3 (Nat.le_of_lt h2) (by omega)
    omega

theorem begin (c : Core k rc s) (t : Nat) (op : Op) (prog : Nat → List Op) (pub : Nat → Bool) (m : Nat) :
    Core k rc { s with prog := prog, g := (beginOp s.g t s.cap op).1, pub := pub, misuse := m } := by
  obtain ⟨_, _, e⟩ := beginOp_lists s.g t s.cap op
  rw [e]
  exact ⟨c.cap, c.dbl, c.spn, c.pos, c.own, c.win, c.rn, c.fi, c.kn⟩

theorem move (c : Core k rc s) (hq : Knows s t q) : Core k rc { s with pc := upd s.pc t q } :=
  ⟨c.cap, c.dbl, c.spn, c.pos, c.own, c.win, c.rn, c.fi, upd_forall (fun t' _ => c.kn t') hq⟩

theorem allocOk {rest : List Op} {evs : List String} (c : Core k rc s)
    (hne : ringIdx s.allocIdx s.cap ≠ s.cachedFree) : Core k rc (allocOk s t rest evs).1 := by
  show Core k rc { s with g := (allocDone s.g t (s.pub t) (some (ringIdx s.allocIdx s.cap))).1,
                          allocIdx := (s.allocIdx + 1) % u32, pc := upd s.pc t (nextPc rest) }
  obtain ⟨_, _, e⟩ := allocDone_some s.g t (s.pub t) (ringIdx s.allocIdx s.cap)
  rw [e]
  have hno := c.next_not_owned
  obtain ⟨hcap, hk⟩ := c.cap
  obtain ⟨hw1, hw2, hw3⟩ := c.win
  have hrn := c.rn
  rw [c.pos_ringIdx] at hne ⊢
  have hpos := c.cap_pos
  have hfull : s.g.nextSerial ≠ rc + s.cap - 1 := fun e => hne (by rw [hw2, e])
  refine ⟨c.cap, (if_neg (Bool.eq_false_iff.mp hno)).trans c.dbl, c.spn, ?_, ?_, ⟨hw1, hw2, ?_⟩, ?_,
    c.fi, upd_forall (fun t' _ => ?_) (nextPc_out ..)⟩
  · show ((s.allocIdx + 1) % u32) % s.cap = (s.g.nextSerial + 1) % s.cap
    have hpos' := c.pos
    rw [hcap] at hpos' ⊢
    rw [Nat.mod_mod_of_dvd _ (pow_dvd_u32 hk)]; exact Nat.add_mod_eq_add_mod_right 1 hpos'
  · -- the owned blocks: the old ones, and the new one with serial `nextSerial`
    exact upd_forall₂ (P := fun b o σ => o = true → b < s.cap ∧ σ % s.cap = b ∧ s.nRet ≤ σ ∧ σ < s.g.nextSerial + 1)
      (fun b _ ho => let ⟨h1, h2, h3, h4⟩ := c.own b ho; ⟨h1, h2, h3, Nat.lt_succ_of_lt h4⟩)
      fun _ => ⟨Nat.mod_lt _ hpos, rfl, hrn, Nat.lt_succ_self _⟩
  · show s.g.nextSerial + 1 ≤ rc + s.cap - 1; omega
  · show s.nRet ≤ s.g.nextSerial + 1; omega
  · have hk' := c.kn t'
    cases hp' : s.pc t' with
    | sSt b sb =>
      rw [hp'] at hk'
      obtain ⟨h1, h2, h3, h4, h5, h6⟩ := hk'
      exact ⟨h1, h2, h3, h4, Nat.lt_succ_of_lt h5,
        upd_forall₂ (P := fun _ o σ => o = true → sb < σ) (fun b' _ => h6 b') fun _ => h5⟩
    | _ => rw [hp'] at hk'; exact hk'

end Core

end MgProof.C05.Sowr
