import MgProof.C05.Threads
import MgProof.C05.ClientLegal
import MgModel.C05.RingPool
/-! Invariant of the ring-pool model (`MgModel.C05.Ring.step`). Whatever the clients do (`Always`): the mode
`locked` never changes, and with the spin-locked entry point `misuse` stays 0 and the lock serialises the
allocators. For histories that are legal so far (`illegal = 0`, `misuse = 0`; `Core`): an owned block has its
`in_use` flag set, and without the lock only `allocTid` allocates. -/
namespace MgProof.C05.Ring
open MgModel.Conc MgModel.C05 MgModel.C05.Ring

/-- thread is inside `muggle_ring_memory_pool_alloc` (after taking the lock, if any) -/
def inAlloc : Pc → Bool
  | .r1 | .r2 _ | .w1 _ _ | .r3 _ | .w2 _ _ | .ld _ | .wIn _ | .rUnlock _ => true
  | _ => false

def claim (t : Nat) : Pc → Option (Nat × Loc)
  | .wIn b | .rUnlock b => some (b, .taken t)
  | .fSt b => some (b, .freeing t)
  | _ => none

def owner : Loc → Option Nat
  | .taken t | .freeing t => some t
  | _ => none

theorem claim_owner (t : Nat) (p : Pc) (b : Nat) (l : Loc) (h : claim t p = some (b, l)) :
    owner l = some t := by
  unfold claim at h
  split at h <;> cases h <;> rfl

/-- at `rUnlock b` the lock mode is on and the flag of `b` is set: `finish` needs it for the block the client gets;
at every pc from `r1` to `wIn` one clause: without the lock the thread is `allocTid` -/
def Knows (s : St) (t : Nat) : Pc → Prop
  | .rLock | .rYield => s.locked = true
  | .rUnlock b => s.locked = true ∧ s.inUse b ≠ 0
  | .r1 | .r2 _ | .w1 _ _ | .r3 _ | .w2 _ _ | .ld _ | .wIn _ => s.locked = false → t = s.allocTid
  | _ => True

/-- one block: a clear flag means it is in the pool or was just seen free by an allocator -/
structure Blk (o : Bool) (u : Nat) (l : Loc) : Prop where
  own : o = true ↔ l = .client
  use : u = 0 → l = .pool ∨ ∃ t, l = .taken t
  pf  : l = .pool → u = 0

namespace Blk
variable {o : Bool} {u : Nat} {l : Loc}

theorem pool : Blk false 0 .pool := ⟨⟨nofun, nofun⟩, fun _ => .inl rfl, fun _ => rfl⟩

theorem taken (u t : Nat) : Blk false u (.taken t) := ⟨⟨nofun, nofun⟩, fun _ => .inr ⟨t, rfl⟩, nofun⟩

theorem client (h : u ≠ 0) : Blk true u .client := ⟨⟨fun _ => rfl, fun _ => rfl⟩, fun e => absurd e h, nofun⟩

theorem freeing (t : Nat) (h : u ≠ 0) : Blk false u (.freeing t) := ⟨⟨nofun, nofun⟩, fun e => absurd e h, nofun⟩

theorem not_owned (b : Blk o u l) (h : l ≠ .client) : o = false :=
  Bool.eq_false_iff.mpr fun ho => h (b.own.mp ho)

/-- the flag of a block the client holds is set -/
theorem flagged (b : Blk o u l) (ho : o = true) : u ≠ 0 := fun h => by
  rcases b.use h with e | ⟨_, e⟩ <;> rw [b.own.mp ho] at e <;> cases e

end Blk

structure Core (s : St) : Prop where
  dbl : s.g.double = 0
  blk : ∀ b, Blk (s.g.owned b) (s.inUse b) (s.loc b)
  ow  : Owns claim owner s.pc s.loc
  kn  : ∀ t, Knows s t (s.pc t)

def Legal (s : St) : Prop := s.g.illegal = 0 ∧ s.misuse = 0

/-- `L`: the mode the pool was set up in; `b`, `m`, `w`: the fields `locked`, `misuse`, `wlock` -/
structure Always (L b : Bool) (m w : Nat) (pc : Nat → Pc) : Prop where
  lk : b = L
  ms : L = true → m = 0
  mx : b = true → Mutex inAlloc w pc

theorem Always.move {L b : Bool} {m w : Nat} {pc : Nat → Pc} {t : Nat} {p0 q : Pc} (a : Always L b m w pc)
    (hpc : pc t = p0) (hA : inAlloc q = inAlloc p0) : Always L b m w (upd pc t q) :=
  ⟨a.lk, a.ms, fun h => (a.mx h).move hpc hA⟩

def Inv (L : Bool) (s : St) : Prop := Always L s.locked s.misuse s.wlock s.pc ∧ (Legal s → Core s)

theorem nextPc_inAlloc (rest : List Op) : inAlloc (nextPc rest) = false := by unfold nextPc; split <;> rfl
theorem nextPc_claim (rest : List Op) (t : Nat) : claim t (nextPc rest) = none := by
  unfold nextPc; split <;> rfl
theorem nextPc_knows (rest : List Op) (s : St) (t : Nat) : Knows s t (nextPc rest) := by
  unfold nextPc; split <;> trivial

theorem claim_taken {t t' b : Nat} {p : Pc} (h : claim t p = some (b, .taken t')) : inAlloc p = true := by
  cases p with
  | wIn _ | rUnlock _ => rfl
  | _ => cases h

namespace Knows
variable {s s' : St} {t : Nat} {p : Pc}

theorem alone (hk : Knows s t p) (h : inAlloc p = true) (hl : s.locked = false) : t = s.allocTid := by
  cases p with
  | rUnlock b => exact absurd hk.1 (hl ▸ Bool.false_ne_true)
  | r1 | r2 _ | w1 _ _ | r3 _ | w2 _ _ | ld _ | wIn _ => exact hk hl
  | _ => cases h

theorem frame (hk : Knows s t p) (hlk : s'.locked = s.locked) (hat : s'.allocTid = s.allocTid)
    (hiu : ∀ b, p = .rUnlock b → s'.inUse b ≠ 0) : Knows s' t p := by
  cases p with
  | rUnlock b => exact ⟨hlk ▸ hk.1, hiu b rfl⟩
  | rLock | rYield => exact hlk.trans hk
  | r1 | r2 _ | w1 _ _ | r3 _ | w2 _ _ | ld _ | wIn _ => exact fun h => hat ▸ hk (hlk ▸ h)
  | _ => trivial

end Knows

theorem Core.at {s : St} {t : Nat} {p0 : Pc} (c : Core s) (hpc : s.pc t = p0) : Knows s t p0 := hpc ▸ c.kn t

namespace Core
variable {s s' : St} {t : Nat} {p0 q : Pc}

theorem excl (c : Core s) (mx : s.locked = true → Mutex inAlloc s.wlock s.pc) {t t' : Nat}
    (h : inAlloc (s.pc t) = true) (h' : inAlloc (s.pc t') = true) : t = t' := by
  cases hl : s.locked with
  | true => exact (mx hl).excl t t' h h'
  | false => rw [(c.kn t).alone h hl, (c.kn t').alone h' hl]

theorem held (c : Core s) {b : Nat} {l : Loc} (hpc : s.pc t = p0) (h : claim t p0 = some (b, l)) :
    s.loc b = l ∧ s.loc b ≠ .pool ∧ s.g.owned b = false := by
  have hl := c.ow.fwd t b l (hpc ▸ h)
  have := claim_owner t p0 b l h
  refine ⟨hl, ?_, Bool.eq_false_iff.mpr fun ho => ?_⟩
  · rw [hl]; cases l <;> cases this <;> nofun
  · rw [(c.blk b).own.mp ho] at hl; subst hl; cases this

/-- the other threads only need the flags of the blocks they have taken to stay set -/
theorem step (c : Core s) (hpc' : s'.pc = upd s.pc t q) (hlk : s'.locked = s.locked)
    (hat : s'.allocTid = s.allocTid) (dbl : s'.g.double = 0)
    (blk : ∀ b, Blk (s'.g.owned b) (s'.inUse b) (s'.loc b))
    (ow : Owns claim owner (upd s.pc t q) s'.loc)
    (hiu : ∀ b t', t' ≠ t → s.pc t' = .rUnlock b → s'.inUse b ≠ 0)
    (hq : Knows s' t q) : Core s' := by
  exact ⟨dbl, blk, hpc' ▸ ow, hpc' ▸ upd_forall (P := Knows s')
    (fun t' e => (c.kn t').frame hlk hat fun b h => hiu b t' e h) hq⟩

theorem blk_upd (c : Core s) {b : Nat} (hb : Blk (s'.g.owned b) (s'.inUse b) (s'.loc b))
    (ho : ∀ b', b' ≠ b → s'.g.owned b' = s.g.owned b') (hu : ∀ b', b' ≠ b → s'.inUse b' = s.inUse b')
    (hl : ∀ b', b' ≠ b → s'.loc b' = s.loc b') : ∀ b', Blk (s'.g.owned b') (s'.inUse b') (s'.loc b') := by
  intro b'
  by_cases e : b' = b
  · exact e ▸ hb
  · rw [ho b' e, hu b' e, hl b' e]; exact c.blk b'

theorem flags_kept (c : Core s) {b : Nat} {l : Loc} (hpc : s.pc t = p0) (h : claim t p0 = some (b, l))
    (hu : ∀ b', b' ≠ b → s'.inUse b' = s.inUse b') :
    ∀ b' t', t' ≠ t → s.pc t' = .rUnlock b' → s'.inUse b' ≠ 0 := by
  intro b' t' e h'
  have : b' ≠ b := fun eb => by
    have h1 := (c.held h' rfl).1
    rw [eb, (c.held hpc h).1] at h1
    have := claim_owner t p0 b l h
    rw [h1] at this; exact e (Option.some.inj this)
  rw [hu b' this]; exact (c.at h').2

end Core

variable {L : Bool} {s : St} {t : Nat}

/-- the invariant does not constrain `alloc_idx`: `ai` is arbitrary -/
theorem Inv.moveLock {p0 : Pc} (inv : Inv L s) (q : Pc) (hpc : s.pc t = p0) (hc : claim t q = claim t p0)
    (hq : Core s → Knows s t q) {w : Nat} (ai : Nat) (a : Always L s.locked s.misuse w (upd s.pc t q)) :
    Inv L { s with wlock := w, allocIdx := ai, pc := upd s.pc t q } :=
  ⟨a, fun hl =>
    have c := inv.2 hl
    c.step rfl rfl rfl c.dbl c.blk (c.ow.move hpc hc) (fun _ _ _ h => (c.at h).2) (hq c)⟩

theorem Inv.move {p0 : Pc} (inv : Inv L s) (q : Pc) (hpc : s.pc t = p0) (hA : inAlloc q = inAlloc p0)
    (hc : claim t q = claim t p0) (hq : Core s → Knows s t q) (ai : Nat) :
    Inv L { s with allocIdx := ai, pc := upd s.pc t q } :=
  inv.moveLock q hpc hc hq ai (inv.1.move hpc hA)

/-- a clear flag: the block is in the pool, as nobody else is inside `alloc` -/
theorem inv_ld {blk : Nat} (inv : Inv L s) (hpc : s.pc t = .ld blk) (h0 : s.inUse blk = 0) :
    Inv L { s with pc := upd s.pc t (.wIn blk), loc := upd s.loc blk (.taken t) } := by
  refine ⟨inv.1.move hpc rfl, fun hl => ?_⟩
  have c := inv.2 hl
  have hp : s.loc blk = .pool := by
    rcases (c.blk blk).use h0 with h | ⟨t', h⟩
    · exact h
    · have h' := c.ow.bwd blk t' (by rw [h]; rfl)
      rw [h] at h'
      have : t' = t := c.excl inv.1.mx (claim_taken h') (hpc ▸ rfl)
      rw [this, hpc] at h'; cases h'
  refine c.step rfl rfl rfl c.dbl
    (c.blk_upd (b := blk) ?_ (fun _ _ => rfl) (fun _ _ => rfl) fun _ e => upd_other _ _ _ _ e)
    (c.ow.take claim_owner hpc rfl rfl (by rw [hp]; rfl))
    (fun _ _ _ h => (c.at h).2) (c.at hpc)
  dsimp only; rw [upd_same, (c.blk blk).not_owned (by rw [hp]; nofun)]
  exact .taken _ t

theorem inv_wIn {blk : Nat} (inv : Inv L s) (hpc : s.pc t = .wIn blk) (hlk : s.locked = true) :
    Inv L { s with inUse := upd s.inUse blk 1, pc := upd s.pc t (.rUnlock blk) } := by
  refine ⟨inv.1.move hpc rfl, fun hl => ?_⟩
  have c := inv.2 hl
  obtain ⟨hloc, -, hno⟩ := c.held hpc rfl
  refine c.step rfl rfl rfl c.dbl
    (c.blk_upd (b := blk) ?_ (fun _ _ => rfl) (fun _ e => upd_other _ _ _ _ e) fun _ _ => rfl)
    (c.ow.move hpc rfl)
    (c.flags_kept hpc rfl fun _ e => upd_other _ _ _ _ e) ⟨hlk, ?_⟩
  all_goals dsimp only; rw [upd_same]
  · rw [hno, hloc]; exact .taken 1 t
  · nofun

theorem inv_finish {p0 : Pc} {b w : Nat} {iu : Nat → Nat} {evs : List String} (inv : Inv L s)
    (hpc : s.pc t = p0) (hin : inAlloc p0 = true) (hp0 : claim t p0 = some (b, .taken t))
    (hb : Core s → iu b ≠ 0) (hiu : ∀ b', b' ≠ b → iu b' = s.inUse b') :
    Inv L (finish { s with wlock := w, inUse := iu } t b evs).1 := by
  show Inv L { s with wlock := w, inUse := iu, g := (allocDone s.g t (s.pub t) (some b)).1,
                        loc := upd s.loc b .client, pc := upd s.pc t (nextPc (s.prog t)) }
  refine ⟨⟨inv.1.lk, inv.1.ms, fun h => (inv.1.mx h).release hpc hin (nextPc_inAlloc _) w⟩, fun hl => ?_⟩
  obtain ⟨_, _, e⟩ := allocDone_some s.g t (s.pub t) b
  rw [e] at hl ⊢
  have c := inv.2 hl
  have hno := (c.held hpc hp0).2.2
  refine c.step (q := nextPc (s.prog t)) rfl rfl rfl
    ((if_neg (Bool.eq_false_iff.mp hno)).trans c.dbl)
    (c.blk_upd (b := b) ?_ (fun _ e => upd_other _ _ _ _ e) hiu fun _ e => upd_other _ _ _ _ e)
    (c.ow.give claim_owner hpc hp0 (nextPc_claim ..) rfl)
    (fun b' t' e h => ?_) (nextPc_knows ..)
  · show Blk (upd s.g.owned b true b) (iu b) (upd s.loc b .client b)
    rw [upd_same, upd_same]
    exact .client (hb c)
  · show iu b' ≠ 0
    by_cases e' : b' = b
    · exact e' ▸ hb c
    · rw [hiu b' e']; exact (c.at h).2

theorem inv_fSt {b : Nat} (inv : Inv L s) (hpc : s.pc t = .fSt b) :
    Inv L { s with inUse := upd s.inUse b 0, pc := upd s.pc t (nextPc (s.prog t)), loc := upd s.loc b .pool } := by
  refine ⟨inv.1.move hpc (nextPc_inAlloc _), fun hl => ?_⟩
  have c := inv.2 hl
  refine c.step rfl rfl rfl c.dbl
    (c.blk_upd (b := b) ?_ (fun _ _ => rfl) (fun _ e => upd_other _ _ _ _ e) fun _ e => upd_other _ _ _ _ e)
    (c.ow.give claim_owner hpc rfl (nextPc_claim ..) rfl)
    (c.flags_kept hpc rfl fun _ e => upd_other _ _ _ _ e) (nextPc_knows ..)
  dsimp only; rw [upd_same, upd_same, (c.held hpc rfl).2.2]
  exact .pool

/-- `m`: the new value of the contract monitor. `hm`: it only grows; `hL`: not with the spin-locked entry point;
`hA`: with the lock the thread is not inside `alloc` yet; `hq`: asked only if the contract was kept. -/
theorem inv_begin {op : Op} {q : Pc} {prog : Nat → List Op} {pub : Nat → Bool} {m : Nat} (inv : Inv L s)
    (hpc : s.pc t = .idle) (hc : claim t q = none) (hm : m = 0 → s.misuse = 0) (hL : s.locked = true → m = s.misuse)
    (hA : s.locked = true → inAlloc q = false) (hq : m = 0 → Knows s t q) :
    Inv L { s with prog := prog, g := (beginOp s.g t s.cap op).1, pub := pub, misuse := m,
                   pc := upd s.pc t q } := by
  refine ⟨⟨inv.1.lk, fun h => (hL (inv.1.lk.trans h)).trans (inv.1.ms h), fun h => (inv.1.mx h).move hpc (hA h)⟩,
    fun hl => ?_⟩
  obtain ⟨_, _, e⟩ := beginOp_lists s.g t s.cap op
  rw [e] at hl ⊢
  have c := inv.2 ⟨hl.1, hm hl.2⟩
  exact c.step rfl rfl rfl c.dbl c.blk (c.ow.move hpc hc)
    (fun _ _ _ h => (c.at h).2) (hq hl.2)

theorem inv_free {op : Op} {b : Nat} {prog : Nat → List Op} (inv : Inv L s) (hpc : s.pc t = .idle) :
    Inv L { s with prog := prog, g := (freeBegin false (beginOp s.g t s.cap op).1 t b).1,
                   pc := upd s.pc t (.fSt b),
                   loc := if (beginOp s.g t s.cap op).1.owned b then upd s.loc b (.freeing t) else s.loc } := by
  refine ⟨inv.1.move hpc rfl, fun hl => ?_⟩
  obtain ⟨ho, hi0⟩ := freeBegin_legal hl.1
  rw [freeBegin_false ho]
  obtain ⟨_, _, e⟩ := beginOp_lists s.g t s.cap op
  rw [e] at ho hi0 ⊢
  have c := inv.2 ⟨hi0, hl.2⟩
  have hb := c.blk b
  have hloc : s.loc b = .client := hb.own.mp ho
  rw [if_pos ho]
  refine c.step rfl rfl rfl c.dbl
    (c.blk_upd (b := b) ?_ (fun _ e => upd_other _ _ _ _ e) (fun _ _ => rfl) fun _ e => upd_other _ _ _ _ e)
    (c.ow.take claim_owner hpc rfl rfl (by rw [hloc]; rfl))
    (fun _ _ _ h => (c.at h).2) trivial
  show Blk (upd s.g.owned b false b) (s.inUse b) (upd s.loc b (.freeing t) b)
  rw [upd_same, upd_same]
  exact .freeing t (hb.flagged ho)

theorem step_effect {s' : St} {tok : Tok} {ev : List String} (inv : Inv L s)
    (hs : step s tok = some (s', ev)) :
    Inv L s' ∧ ClientStep (fun b => s.pc tok.tid = .wIn b ∨ s.pc tok.tid = .rUnlock b) tok.tid s.cap s.prog s.g
      s'.prog s'.g := by
  unfold step at hs
  simp only [] at hs  -- the `let`s of `step`
  split at hs
  · cases hs
  split at hs
  · cases hs
  next hpc =>  -- idle
    split at hs
    · cases hs
    next op rest hprog =>
    split at hs <;> cases hs
    next h =>
      exact ⟨inv_begin inv hpc (hc := nextPc_claim ..) (hm := id) (hL := fun _ => rfl)
        (hA := fun _ => nextPc_inAlloc _) (hq := fun _ => nextPc_knows ..), .op hprog (by rw [h]; nofun)⟩
    next h =>
      refine ⟨inv_begin inv hpc (hc := by split <;> rfl) (hm := fun h => (monitor_zero h).2)
        (hL := fun hl => if_pos (.inl hl)) (hA := fun h => by rw [if_pos h]; rfl) (hq := fun h => ?_),
        .op hprog (by rw [h]; nofun)⟩
      cases hlk : s.locked with
      | true => exact hlk
      | false => exact fun _ => (monitor_zero h).1.resolve_left (by rw [hlk]; nofun)
    next h => exact ⟨inv_free inv hpc, .free hprog h⟩
  next hpc =>  -- rLock
    split at hs <;> cases hs
    next h0 =>
      exact ⟨inv.moveLock .r1 hpc rfl (fun c h => absurd ((c.at hpc : s.locked = true).symm.trans h) nofun)
        s.allocIdx ⟨inv.1.lk, inv.1.ms, fun h => (inv.1.mx h).acquire h0 (by decide)⟩, .none⟩
    · exact ⟨inv.move .rYield hpc rfl rfl (fun c => (c.at hpc : s.locked = true)) s.allocIdx, .none⟩
  next hpc =>  -- rYield
    cases hs
    exact ⟨inv.move .rLock hpc rfl rfl (fun c => (c.at hpc : s.locked = true)) s.allocIdx, .none⟩
  next hpc =>  -- r1
    cases hs
    exact ⟨inv.move (.r2 _) hpc rfl rfl (fun c => (c.at hpc :)) s.allocIdx, .none⟩
  next blk hpc =>  -- r2
    cases hs
    exact ⟨inv.move (.w1 ..) hpc rfl rfl (fun c => (c.at hpc :)) s.allocIdx, .none⟩
  next blk v hpc =>  -- w1
    cases hs
    exact ⟨inv.move (.r3 _) hpc rfl rfl (fun c => (c.at hpc :)) _, .none⟩
  next blk hpc =>  -- r3
    cases hs
    exact ⟨inv.move (.w2 ..) hpc rfl rfl (fun c => (c.at hpc :)) s.allocIdx, .none⟩
  next blk v hpc =>  -- w2
    cases hs
    exact ⟨inv.move (.ld _) hpc rfl rfl (fun c => (c.at hpc :)) _, .none⟩
  next blk hpc =>  -- ld
    split at hs
    · cases hs
    split at hs <;> cases hs
    next h0 => exact ⟨inv_ld inv hpc h0, .none⟩
    · exact ⟨inv.move .r1 hpc rfl rfl (fun c => (c.at hpc :)) s.allocIdx, .none⟩
  next blk hpc =>  -- wIn
    split at hs
    next hlk => cases hs; exact ⟨inv_wIn inv hpc hlk, .none⟩
    · injection hs with hs
      obtain rfl : (finish _ tok.tid blk _).1 = s' := congrArg Prod.fst hs
      exact ⟨inv_finish (w := s.wlock) inv hpc rfl rfl (fun _ => by rw [upd_same]; nofun)
        fun b' e => upd_other _ _ _ _ e, .ret _ (.inl hpc)⟩
  next blk hpc =>  -- rUnlock
    injection hs with hs
    obtain rfl : (finish _ tok.tid blk _).1 = s' := congrArg Prod.fst hs
    exact ⟨inv_finish (iu := s.inUse) inv hpc rfl rfl (fun c => (c.at hpc).2) fun _ _ => rfl,
      .ret _ (.inr hpc)⟩
  next b hpc =>  -- fSt
    cases hs; exact ⟨inv_fSt inv hpc, .none⟩

theorem init_inv (cap n : Nat) (locked : Bool) (progs : List (List Op)) :
    Inv locked (mkInit cap n locked progs) :=
  ⟨⟨rfl, fun _ => rfl, fun _ => .init fun _ => nextPc_inAlloc _⟩, fun _ =>
    ⟨rfl, fun _ => .pool, .init (fun t => nextPc_claim _ t) fun _ => rfl, fun _ => nextPc_knows ..⟩⟩

theorem reach_inv {cap n : Nat} {locked : Bool} {progs : List (List Op)} {s : St}
    (hr : Reach step (mkInit cap n locked progs) s) : Inv locked s :=
  Reach.inv (Inv locked) (init_inv cap n locked progs) (fun _ _ _ _ inv hs => (step_effect inv hs).1) s hr

theorem reach_cl {cap n : Nat} {progs : List (List Op)}
    (h : ∀ p, p ∈ progs → ∀ op, op ∈ p → wellFormed op = true) {s : St}
    (hr : Reach step (mkInit cap n true progs) s) : CInv s.prog s.g :=
  Reach.inv_of (Q := fun s => CInv s.prog s.g) (fun _ hr => reach_inv hr) (CInv.init h)
    (fun s _ _ _ inv (ih : CInv s.prog s.g) hs =>
      have c := inv.2 ⟨ih.il, inv.1.ms rfl⟩
      ih.step (step_effect inv hs).2 fun _ hb =>
        hb.elim (fun h => (c.held h rfl).2.2) fun h => (c.held h rfl).2.2) s hr

end MgProof.C05.Ring
