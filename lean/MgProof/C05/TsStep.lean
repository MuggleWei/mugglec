import MgProof.C05.TsInv
import MgProof.C05.ClientLegal
/-! The invariant of the repaired ts-pool model holds in every reachable state. Each step is a
statement about the state the model produces; `step_effect` goes through `step` once. -/
namespace MgProof.C05.Ts
open MgModel.Conc MgModel.C05 MgModel.C05.Ts

variable {k : Nat} {s : St} {t : Nat}

theorem Inv.moveLock {p0 : Pc} (inv : Inv k s) (q : Pc) (hpc : s.pc t = p0) (hc : claim t q = claim t p0)
    (hq : ∀ c, DataC k c s → PcC c s → Knows c s q) {a f : Nat} (l : Locks a f (upd s.pc t q)) :
    Inv k { s with alock := a, flock := f, pc := upd s.pc t q } :=
  ⟨l, fun hl =>
    let ⟨c, d, p⟩ := inv.2 hl
    ⟨c, d.same rfl, p.step inv.1 hpc rfl rfl (p.ow.move hpc hc)
      (.inr ⟨rfl, rfl, rfl, Nat.le_refl c⟩) (.inr ⟨rfl, rfl⟩) (hq c d p)⟩⟩

theorem Inv.move {p0 : Pc} (inv : Inv k s) (q : Pc) (hpc : s.pc t = p0) (hA : inA q = inA p0) (hF : inF q = inF p0)
    (hc : claim t q = claim t p0) (hq : ∀ c, DataC k c s → PcC c s → Knows c s q) :
    Inv k { s with pc := upd s.pc t q } :=
  inv.moveLock q hpc hc hq (inv.1.move hpc hA hF)

theorem inv_aWrCf {a f n : Nat} (inv : Inv k s) (hpc : s.pc t = .aWrCf a f n) :
    Inv k { s with cachedFree := f, pc := upd s.pc t (.aRdCf2 a (some n)) } := by
  refine ⟨inv.1.move hpc rfl rfl, fun hl => ?_⟩
  obtain ⟨c, d, p⟩ := inv.2 hl
  obtain ⟨ha, w1, w2, w3⟩ := p.at hpc
  exact ⟨c, (d.cached ⟨n, w1, w2, w3⟩).same rfl,
    p.step inv.1 hpc rfl rfl (p.ow.move hpc rfl) (.inl rfl) (.inr ⟨rfl, rfl⟩) ⟨ha, w1, w2, w3⟩⟩

theorem inv_aWrIdx {a b : Nat} (inv : Inv k s) (hpc : s.pc t = .aWrIdx a b) :
    Inv k { s with allocIdx := ringIdx (a + 1) s.cap, loc := upd s.loc b (.taken t),
                   pc := upd s.pc t (.aUnlock (some b)) } := by
  refine ⟨inv.1.move hpc rfl rfl, fun hl => ?_⟩
  obtain ⟨c, d, p⟩ := inv.2 hl
  obtain ⟨rfl, hcf, rfl⟩ := p.at hpc
  have hbp := (d.vl s.allocIdx d.ia d.ai_valid).1
  rw [ringIdx_nxt d.cap d.ia]
  exact ⟨c - 1, (d.commit (l := .taken t) hcf nofun nofun).same rfl,
    p.step inv.1 hpc rfl rfl (p.ow.take claim_owner hpc rfl rfl (by rw [hbp]; rfl)) (.inl rfl)
      (.inr ⟨rfl, rfl⟩) trivial⟩

theorem inv_aUnlock {b : Nat} (inv : Inv k s) (hpc : s.pc t = .aUnlock (some b)) :
    Inv k { s with alock := 0, g := (allocDone s.g t (s.pub t) (some b)).1,
                   pc := upd s.pc t (nextPc (s.prog t)), loc := upd s.loc b .client } := by
  refine ⟨⟨inv.1.ma.release hpc rfl (nextPc_inA _) 0, inv.1.mf.move hpc (nextPc_inF _)⟩, fun hl => ?_⟩
  obtain ⟨_, _, e⟩ := allocDone_some s.g t (s.pub t) b
  rw [e] at hl ⊢
  obtain ⟨c, d, p⟩ := inv.2 hl
  obtain ⟨-, hp, hc⟩ := p.held hpc rfl
  rw [if_neg (Bool.eq_false_iff.mp (d.not_owned hc))]
  exact ⟨c, (d.relocate (v := .client) (o := true) hp nofun (by simp)).same rfl,
    p.step inv.1 hpc rfl rfl (p.ow.give claim_owner hpc rfl (nextPc_claim _ t) rfl) (.inl rfl)
      (.inr ⟨rfl, rfl⟩) (nextPc_knows ..)⟩

theorem inv_fWrPtr {b f : Nat} (inv : Inv k s) (hpc : s.pc t = .fWrPtr b f) :
    Inv k { s with ptrs := upd s.ptrs f b, pc := upd s.pc t (.fRdFi2 b) } := by
  refine ⟨inv.1.move hpc rfl rfl, fun hl => ?_⟩
  obtain ⟨c, d, p⟩ := inv.2 hl
  obtain rfl : f = s.freeIdx := p.at hpc
  have hc := (d.out_lt (p.held hpc rfl).2.1).2
  have hne : s.allocIdx ≠ s.freeIdx := fun e => d.fi_invalid hc (e ▸ d.ai_valid)
  exact ⟨c, (d.store hc b).same rfl, p.step inv.1 hpc rfl rfl (p.ow.move hpc rfl)
    (.inr ⟨rfl, rfl, upd_other _ _ _ _ hne, Nat.le_refl c⟩) (.inl rfl) (upd_same ..)⟩

theorem inv_fStFi {b v : Nat} (inv : Inv k s) (hpc : s.pc t = .fStFi b v) :
    Inv k { s with freeIdx := v, loc := upd s.loc b .pool, pc := upd s.pc t .fUnlock } := by
  refine ⟨inv.1.move hpc rfl rfl, fun hl => ?_⟩
  obtain ⟨c, d, p⟩ := inv.2 hl
  obtain ⟨hptr, rfl⟩ := p.at hpc
  obtain ⟨-, hp, hc⟩ := p.held hpc rfl
  exact ⟨c + 1, (d.publish hp hc hptr).same rfl,
    p.step inv.1 hpc rfl rfl (p.ow.give claim_owner hpc rfl rfl rfl)
      (.inr ⟨rfl, rfl, rfl, Nat.le_succ c⟩) (.inl rfl) trivial⟩

theorem inv_begin {op : Op} {q : Pc} {prog : Nat → List Op} {pub : Nat → Bool} (inv : Inv k s)
    (hpc : s.pc t = .idle) (hA : inA q = false) (hF : inF q = false) (hc : claim t q = none)
    (hq : ∀ c s, Knows c s q) :
    Inv k { s with prog := prog, g := (beginOp s.g t s.cap op).1, pub := pub, pc := upd s.pc t q } := by
  refine ⟨inv.1.move hpc hA hF, fun hl => ?_⟩
  obtain ⟨_, _, e⟩ := beginOp_lists s.g t s.cap op
  rw [e] at hl ⊢
  obtain ⟨c, d, p⟩ := inv.2 hl
  exact ⟨c, d.same rfl, p.step inv.1 hpc rfl rfl (p.ow.move hpc hc)
    (.inr ⟨rfl, rfl, rfl, Nat.le_refl c⟩) (.inr ⟨rfl, rfl⟩) (hq _ _)⟩

/-- `free(b)` is called: ownership ends here -/
theorem inv_free {op : Op} {b : Nat} {prog : Nat → List Op} (inv : Inv k s) (hpc : s.pc t = .idle) :
    Inv k { s with prog := prog, g := (freeBegin false (beginOp s.g t s.cap op).1 t b).1,
                   pc := upd s.pc t (.fLock b),
                   loc := if (beginOp s.g t s.cap op).1.owned b then upd s.loc b (.freeing t) else s.loc } := by
  refine ⟨inv.1.move hpc rfl rfl, fun hl => ?_⟩
  obtain ⟨ho, hi0⟩ := freeBegin_legal hl
  rw [freeBegin_false ho]
  obtain ⟨_, _, e⟩ := beginOp_lists s.g t s.cap op
  rw [e] at ho hi0 ⊢
  obtain ⟨c, d, p⟩ := inv.2 hi0
  have hloc : s.loc b = .client := (d.own b).mp ho
  rw [if_pos ho]
  exact ⟨c, (d.relocate (v := .freeing t) (o := false) (by rw [hloc]; nofun) nofun (by simp)).same rfl,
    p.step inv.1 hpc rfl rfl (p.ow.take claim_owner hpc rfl rfl (by rw [hloc]; rfl))
      (.inr ⟨rfl, rfl, rfl, Nat.le_refl c⟩) (.inr ⟨rfl, rfl⟩) trivial⟩

theorem step_effect {s' : St} {tok : Tok} {ev : List String} (inv : Inv k s)
    (hs : step s tok = some (s', ev)) :
    Inv k s' ∧ ClientStep (fun b => s.pc tok.tid = .aUnlock (some b)) tok.tid s.cap s.prog s.g s'.prog s'.g := by
  unfold step at hs
  simp only [] at hs  -- the `let`s of `step`
  split at hs
  · cases hs
  split at hs
  · cases hs
  next hpc =>  -- idle
    split at hs
    · cases hs
    next op rest hprog =>
    split at hs <;> cases hs
    next h =>  -- no operand
      exact ⟨inv_begin inv hpc (nextPc_inA _) (nextPc_inF _) (nextPc_claim ..) (nextPc_knows rest), .op hprog (by rw [h]; nofun)⟩
    next h =>  -- allocation
      exact ⟨inv_begin inv hpc rfl rfl rfl fun _ _ => trivial, .op hprog (by rw [h]; nofun)⟩
    next h =>  -- free
      exact ⟨inv_free inv hpc, .free hprog h⟩
  next hpc =>  -- aLock
    split at hs <;> cases hs
    next h0 =>
      exact ⟨inv.moveLock .aRdIdx hpc rfl (fun _ _ _ => trivial)
        ⟨inv.1.ma.acquire h0 (by decide), inv.1.mf.move hpc rfl⟩, .none⟩
    · exact ⟨inv.move _ hpc rfl rfl rfl fun _ _ _ => trivial, .none⟩
  next hpc =>  -- aYield
    cases hs; exact ⟨inv.move _ hpc rfl rfl rfl fun _ _ _ => trivial, .none⟩
  next hpc =>  -- aRdIdx
    cases hs; exact ⟨inv.move _ hpc rfl rfl rfl fun _ _ _ => rfl, .none⟩
  next a hpc =>  -- aRdCf
    split at hs <;> cases hs
    · exact ⟨inv.move _ hpc rfl rfl rfl fun _ _ p => show a = s.allocIdx from p.at hpc, .none⟩
    next h =>
      refine ⟨inv.move _ hpc rfl rfl rfl fun _ d p => ?_, .none⟩
      obtain rfl : a = s.allocIdx := p.at hpc
      exact ⟨rfl, ringIdx_nxt d.cap d.ia ▸ h⟩
  next a hpc =>  -- aLdFi
    cases hs
    refine ⟨inv.move _ hpc rfl rfl rfl fun _ d p => ?_, .none⟩
    have hc := d.cnt
    exact ⟨p.at hpc, hc ▸ d.pos, Nat.le_of_eq hc.symm, hc ▸ d.fi⟩
  next a f n hpc =>  -- aWrCf
    cases hs; exact ⟨inv_aWrCf inv hpc, .none⟩
  next a seen hpc =>  -- aRdCf2
    -- `cached_free_pos` is the next slot only after the allocator has loaded `free_idx` and saw one block
    have key : ∀ c, DataC k c s → PcC c s →
        a = s.allocIdx ∧ (ringIdx (a + 1) s.cap = s.cachedFree → seen = some 1) := by
      intro c d p
      have hk := p.at hpc
      have hn := ringIdx_nxt d.cap d.ia
      cases seen with
      | none => obtain ⟨rfl, h⟩ := hk; exact ⟨rfl, fun e => absurd (hn ▸ e) h⟩
      | some m =>
        obtain ⟨rfl, h1, h2, h3⟩ := hk
        exact ⟨rfl, fun e => congrArg some
          ((fwd_eq_nxt d.ia h1 (Nat.le_trans h2 d.le)).mp (h3.symm.trans (e.symm.trans hn)))⟩
    split at hs
    next h =>
      cases hs
      refine ⟨inv.move _ hpc rfl rfl rfl fun _ d p => ?_, .none⟩
      obtain ⟨rfl, -⟩ := key _ d p
      exact ⟨rfl, ringIdx_nxt d.cap d.ia ▸ h⟩
    next h =>
      have h := Decidable.of_not_not h
      cases seen with
      | none =>
        -- whichever way the monitor goes: in a legal history `key` says `seen = some 1`
        have no : Legal s → False := fun hl => let ⟨c, d, p⟩ := inv.2 hl; nomatch (key c d p).2 h
        simp only [] at hs
        split at hs <;> cases hs
        · exact ⟨⟨inv.1.move hpc rfl rfl, fun hl => (no hl).elim⟩, .none⟩
        · exact ⟨⟨inv.1.move hpc rfl rfl, fun hl => (no hl).elim⟩, .none⟩
      | some m =>
        simp only [] at hs
        split at hs <;> cases hs
        · exact ⟨inv.move _ hpc rfl rfl rfl fun _ _ _ => trivial, .none⟩
        next hleg =>
          refine ⟨⟨inv.1.move hpc rfl rfl, fun hl => ?_⟩, .none⟩
          obtain ⟨c, d, p⟩ := inv.2 hl
          cases (key c d p).2 h
          simp at hleg
  next a hpc =>  -- aRdPtr
    split at hs
    · cases hs
    cases hs
    refine ⟨inv.move _ hpc rfl rfl rfl fun _ _ p => ?_, .none⟩
    obtain ⟨rfl, h⟩ := p.at hpc
    exact ⟨rfl, h, rfl⟩
  next a b hpc =>  -- aWrIdx
    cases hs; exact ⟨inv_aWrIdx inv hpc, .none⟩
  next res hpc =>  -- aUnlock
    cases hs
    cases res with
    | some b => exact ⟨inv_aUnlock inv hpc, .ret _ hpc⟩
    | none =>
      exact ⟨inv.moveLock _ hpc (nextPc_claim ..) (fun c _ _ => nextPc_knows _ c s)
        ⟨inv.1.ma.release hpc rfl (nextPc_inA _) 0, inv.1.mf.move hpc (nextPc_inF _)⟩, .none⟩
  next b hpc =>  -- fLock
    split at hs <;> cases hs
    next h0 =>
      exact ⟨inv.moveLock (.fRdFi b) hpc rfl (fun _ _ _ => trivial)
        ⟨inv.1.ma.move hpc rfl, inv.1.mf.acquire h0 (by decide)⟩, .none⟩
    · exact ⟨inv.move _ hpc rfl rfl rfl fun _ _ _ => trivial, .none⟩
  next b hpc =>  -- fYield
    cases hs; exact ⟨inv.move _ hpc rfl rfl rfl fun _ _ _ => trivial, .none⟩
  next b hpc =>  -- fRdFi
    cases hs; exact ⟨inv.move _ hpc rfl rfl rfl fun _ _ _ => rfl, .none⟩
  next b f hpc =>  -- fWrPtr
    split at hs
    · cases hs
    cases hs; exact ⟨inv_fWrPtr inv hpc, .none⟩
  next b hpc =>  -- fRdFi2
    cases hs
    exact ⟨inv.move _ hpc rfl rfl rfl fun _ d p => ⟨p.at hpc, ringIdx_nxt d.cap d.fi_lt⟩, .none⟩
  next b v hpc =>  -- fStFi
    cases hs; exact ⟨inv_fStFi inv hpc, .none⟩
  next hpc =>  -- fUnlock
    cases hs
    exact ⟨inv.moveLock _ hpc (nextPc_claim ..) (fun c _ _ => nextPc_knows _ c s)
      ⟨inv.1.ma.move hpc (nextPc_inA _), inv.1.mf.release hpc rfl (nextPc_inF _) 0⟩, .none⟩

theorem poolCount_init (cap n : Nat) (progs : List (List Op)) : poolCount (mkInit cap n progs) = cap := by
  unfold poolCount mkInit
  simp

theorem init_inv (k n : Nat) (progs : List (List Op)) : Inv k (mkInit (2 ^ k) n progs) := by
  have hpos : 0 < 2 ^ k := Nat.two_pow_pos k
  refine ⟨⟨.init fun _ => nextPc_inA _, .init fun _ => nextPc_inF _⟩, fun _ =>
    ⟨2 ^ k, ?_, .init (fun t => nextPc_claim _ t) fun _ => rfl, fun t => nextPc_knows ..⟩⟩
  constructor
  · rfl
  · rfl
  · rfl
  · intro b; simp [mkInit]
  · intro b _; rfl
  · exact (poolCount_init _ _ _).symm
  · exact Nat.le_refl _
  · exact hpos
  · simp [mkInit, fwd]
  · exact ⟨2 ^ k, hpos, Nat.le_refl _, by simp [mkInit, fwd]⟩
  · intro j hj _
    exact ⟨rfl, hj⟩
  · intro j j' _ _ _ _ e
    exact e

theorem reach_inv {k n : Nat} {progs : List (List Op)} {s : St}
    (hr : Reach step (mkInit (2 ^ k) n progs) s) : Inv k s :=
  Reach.inv (Inv k) (init_inv k n progs) (fun _ _ _ _ inv hs => (step_effect inv hs).1) s hr

theorem reach_locks {k n : Nat} {progs : List (List Op)} {s : St}
    (hr : Reach step (mkInit (2 ^ k) n progs) s) : Locks s.alock s.flock s.pc := (reach_inv hr).1

/-- with well-formed programs (no `X`) `illegal = 0` is a consequence, not an assumption -/
theorem reach_cl {k n : Nat} {progs : List (List Op)}
    (h : ∀ p, p ∈ progs → ∀ op, op ∈ p → wellFormed op = true) {s : St}
    (hr : Reach step (mkInit (2 ^ k) n progs) s) : CInv s.prog s.g :=
  Reach.inv_of (Q := fun s => CInv s.prog s.g) (fun _ hr => reach_inv hr) (CInv.init h)
    (fun s _ _ _ inv (ih : CInv s.prog s.g) hs =>
      let ⟨_, d, p⟩ := inv.2 ih.il
      ih.step (step_effect inv hs).2 fun _ hpc => d.not_owned (p.held hpc rfl).2.2) s hr

end MgProof.C05.Ts
