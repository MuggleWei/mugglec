import MgProof.C05.TsStep
import MgProof.C05.RingInv
import MgProof.C05.SowrStep
import MgModel.C05.TsOrig
/-!
# C05 — concurrent memory pools never hand out a block that is still owned

Property theorems. All of them quantify over every schedule of every length
(`Conc.Reach step init s`: `s` is reachable from the initial state by some sequence of
steps, one step = one shared-memory access of one thread), every number of threads and
every client program (lists of `a p f g t u x X` operations, see `MgModel.C05.Client`).
Legal histories are recognised by ghost monitors of the models: `illegal = 0` (no free of a
block that is not owned), `misuse = 0` (the pool's threading contract was respected).
`double` counts allocations that returned a block that was owned at that moment.
-/
namespace MgProof.C05
open MgModel.Conc MgModel.C05

/-! ## thread-safe pool (repaired algorithm, `fixes/C05-ts-pool-alloc-lock.patch`) -/

/-- **Clause 1, ts pool.** For every capacity `2^k`, every number of threads, every client
program and every schedule: as long as the history is legal, no allocation has returned a
block that was still owned (between the return of an allocation and the call of `free`). -/
theorem ts_no_double_handout (k n : Nat) (progs : List (List Op)) (s : Ts.St)
    (hr : Reach Ts.step (Ts.mkInit (2 ^ k) n progs) s) (hl : s.g.illegal = 0) :
    s.g.double = 0 := by
  obtain ⟨_, d, _⟩ := (Ts.reach_inv hr).2 hl
  exact d.dbl

/-- **Clause 1, ts pool, state form.** In every reachable legal state the `c` ring slots from
`alloc_idx` hold pairwise distinct blocks, none of them owned. -/
theorem ts_ring_blocks_free_and_distinct (k n : Nat) (progs : List (List Op)) (s : Ts.St)
    (hr : Reach Ts.step (Ts.mkInit (2 ^ k) n progs) s) (hl : s.g.illegal = 0) :
    ∃ c, 1 ≤ c ∧ c ≤ s.cap ∧ c = Ts.poolCount s ∧
      (∀ j, j < s.cap → Ts.valid s.cap s.allocIdx c j → s.g.owned (s.ptrs j) = false ∧ s.ptrs j < s.cap) ∧
      (∀ j j', j < s.cap → j' < s.cap → Ts.valid s.cap s.allocIdx c j → Ts.valid s.cap s.allocIdx c j' →
        s.ptrs j = s.ptrs j' → j = j') := by
  obtain ⟨c, d, _⟩ := (Ts.reach_inv hr).2 hl
  refine ⟨c, d.pos, d.le, d.cnt, fun j hj hv => ?_, d.inj⟩
  obtain ⟨h1, h2⟩ := d.vl j hj hv
  exact ⟨d.not_owned (by rw [h1]; nofun), h2⟩

/-- **Clause 2, ts pool (exhaustion only when exhausted).** `spuriousNull` counts allocations
that returned NULL although more than the one slack block was in the pool when `free_idx`
was loaded (the linearisation point of the failing allocation). It stays 0: NULL is only
reported when at most one block (the slack the ring keeps by design) is in the pool, i.e.
`cap - 1` blocks are outstanding. Hence a history that keeps at most `cap - 2` blocks
outstanding is never refused. -/
theorem ts_null_only_when_exhausted (k n : Nat) (progs : List (List Op)) (s : Ts.St)
    (hr : Reach Ts.step (Ts.mkInit (2 ^ k) n progs) s) (hl : s.g.illegal = 0) :
    s.spuriousNull = 0 := by
  obtain ⟨_, d, _⟩ := (Ts.reach_inv hr).2 hl
  exact d.spn

/-- **Clause 2, ts pool (freed blocks become allocatable).** The pool never loses a block:
the number of blocks in the pool's ring is `free_idx - alloc_idx` (cyclically, `cap` when
equal), and it is at least 1. -/
theorem ts_ring_accounts_for_pool (k n : Nat) (progs : List (List Op)) (s : Ts.St)
    (hr : Reach Ts.step (Ts.mkInit (2 ^ k) n progs) s) (hl : s.g.illegal = 0) :
    s.freeIdx = (if s.allocIdx + Ts.poolCount s < s.cap then s.allocIdx + Ts.poolCount s
                 else s.allocIdx + Ts.poolCount s - s.cap) ∧
    1 ≤ Ts.poolCount s := by
  obtain ⟨c, d, _⟩ := (Ts.reach_inv hr).2 hl
  have := d.cnt; subst this
  exact ⟨d.fi, d.pos⟩

/-- **Clause 1 + 2, ts pool, unconditional form.** If the client programs contain no malformed
operation (`X`: free of a block the thread does not hold), the history is legal by construction —
every `f g t u x` operation frees a block its thread owns — so for every schedule no block is
handed out twice and exhaustion is reported only when exhausted. -/
theorem ts_safe_for_wellformed_clients (k n : Nat) (progs : List (List Op))
    (hwf : ∀ p, p ∈ progs → ∀ op, op ∈ p → wellFormed op = true) (s : Ts.St)
    (hr : Reach Ts.step (Ts.mkInit (2 ^ k) n progs) s) :
    s.g.illegal = 0 ∧ s.g.double = 0 ∧ s.spuriousNull = 0 := by
  have cl := Ts.reach_cl hwf hr
  obtain ⟨_, d, _⟩ := (Ts.reach_inv hr).2 cl.il
  exact ⟨cl.il, d.dbl, d.spn⟩

/-- mutual exclusion of allocators in the repaired pool; it holds whatever the clients do (`Ts.reach_locks`),
`hl` is not used -/
theorem ts_allocators_serialised (k n : Nat) (progs : List (List Op)) (s : Ts.St)
    (hr : Reach Ts.step (Ts.mkInit (2 ^ k) n progs) s) (hl : s.g.illegal = 0) (t t' : Nat)
    (h : Ts.inA (s.pc t) = true) (h' : Ts.inA (s.pc t') = true) : t = t' :=
  (Ts.reach_locks hr).ma.excl t t' h h'

/-- non-vacuity: a legal reachable state of the ts pool (capacity 2, two threads): thread 1 was
refused while thread 0 held the only usable block, thread 0 freed it, thread 1 then got block 1
and `alloc_idx` has wrapped -/
example : ∃ s, Reach Ts.step (Ts.mkInit (2 ^ 1) 2 [[.a, .f], [.a, .a]]) s ∧ s.g.illegal = 0 ∧
    s.g.owned 1 = true ∧ s.g.owned 0 = false ∧ s.freeIdx = 1 ∧ s.allocIdx = 0 :=
  ⟨_, reach_runSched Ts.step _ _ Reach.init
      (List.replicate 8 { tid := 0 } ++ List.replicate 8 { tid := 1 } ++ List.replicate 7 { tid := 0 } ++
       List.replicate 10 { tid := 1 }), by decide, by decide, by decide, by decide, by decide⟩

/-! ## the original lock-free allocation is unsafe (negation witnesses) -/

def abaProgs : List (List Op) := [[.a], [.a, .a, .a, .g, .g, .a]]
/-- thread 0 is preempted between reading `ptrs[alloc_idx]` and its compare-exchange while thread 1
cycles the ring -/
def abaSched : List Tok :=
  List.replicate 4 { tid := 0 } ++ List.replicate 37 { tid := 1 } ++ [{ tid := 0 }]

/-- **The full safety statement is false for the original algorithm (ABA on the masked
`alloc_idx`).** Capacity 4, two threads, a legal history: block 0 is returned to thread 0
while thread 1 still owns it. -/
theorem ts_orig_double_handout_aba :
    ∃ s, Reach TsOrig.step (TsOrig.mkInit 4 2 abaProgs) s ∧ s.g.illegal = 0 ∧ s.g.double = 1 :=
  ⟨_, reach_runSched TsOrig.step _ _ Reach.init abaSched, by decide, by decide⟩

def staleProgs : List (List Op) := [[.a, .a], [.a, .a, .a, .f, .a, .f, .a]]
def staleSched : List Tok :=
  List.replicate 22 { tid := 1 } ++ List.replicate 4 { tid := 0 } ++ List.replicate 23 { tid := 1 } ++
  List.replicate 12 { tid := 0 }

/-- **Second witness (unsynchronised `cached_free_pos`).** Thread 0 stores a stale
`free_idx` into `cached_free_pos`; `alloc_idx` overtakes `free_idx` and block 2, owned by
thread 1, is handed out again. -/
theorem ts_orig_double_handout_stale_cache :
    ∃ s, Reach TsOrig.step (TsOrig.mkInit 4 2 staleProgs) s ∧ s.g.illegal = 0 ∧ s.g.double = 1 :=
  ⟨_, reach_runSched TsOrig.step _ _ Reach.init staleSched, by decide, by decide⟩

theorem ts_orig_not_safe :
    ¬ ∀ (n : Nat) (progs : List (List Op)) (s : TsOrig.St),
        Reach TsOrig.step (TsOrig.mkInit 4 n progs) s → s.g.illegal = 0 → s.g.double = 0 := by
  intro h
  obtain ⟨s, hr, hl, hd⟩ := ts_orig_double_handout_aba
  have := h 2 abaProgs s hr hl
  omega

/-! ## sowr pool (one allocating thread, one freeing thread) -/

/-- **Clause 1, sowr pool.** For every capacity `2^k`, `k ≤ 32`, every start value of the free-running
32-bit `alloc_idx` (a multiple of the capacity, so also across its wrap), every number of
threads and list of programs and every interleaving of the allocating and the freeing thread (the
same thread may do both: sequential histories): while the history is legal — every freed block is
owned; a free releases the block and every block allocated before it — and the pool's contract holds
(`misuse = 0`), no allocation returns a block that is still owned. -/
theorem sowr_no_double_handout (k base n : Nat) (progs : List (List Op)) (hk : k ≤ 32) (hb : 2 ^ k ∣ base)
    (s : Sowr.St) (hr : Reach Sowr.step (Sowr.mkInit (2 ^ k) base n progs) s)
    (hl : s.g.illegal = 0) (hm : s.misuse = 0) : s.g.double = 0 := by
  obtain ⟨_, c⟩ := Sowr.reach_inv hk hb hr ⟨hl, hm⟩
  exact c.dbl

/-- **Clause 2, sowr pool.** NULL is returned only when `cap - 1` blocks are outstanding
(allocated and not yet returned by a completed `free`) at the moment `free_idx` is loaded:
the usable capacity is `cap - 1` because allocation stops one block short of the last freed
position. A history that keeps at most `cap - 2` blocks outstanding is never refused. -/
theorem sowr_null_only_when_exhausted (k base n : Nat) (progs : List (List Op)) (hk : k ≤ 32)
    (hb : 2 ^ k ∣ base) (s : Sowr.St) (hr : Reach Sowr.step (Sowr.mkInit (2 ^ k) base n progs) s)
    (hl : s.g.illegal = 0) (hm : s.misuse = 0) : s.spuriousNull = 0 := by
  obtain ⟨_, c⟩ := Sowr.reach_inv hk hb hr ⟨hl, hm⟩
  exact c.spn

/-- **Clause 1, sowr pool, state form.** Owned blocks carry distinct allocation serials inside
the window of the last `cap - 1` allocations, each at position `serial % cap`; at most
`cap - 1` blocks are outstanding. -/
theorem sowr_owned_window (k base n : Nat) (progs : List (List Op)) (hk : k ≤ 32) (hb : 2 ^ k ∣ base)
    (s : Sowr.St) (hr : Reach Sowr.step (Sowr.mkInit (2 ^ k) base n progs) s)
    (hl : s.g.illegal = 0) (hm : s.misuse = 0) :
    s.g.nextSerial ≤ s.nRet + s.cap - 1 ∧
    ∀ b, s.g.owned b = true → b < s.cap ∧ s.g.serial b % s.cap = b ∧ s.nRet ≤ s.g.serial b ∧
      s.g.serial b < s.g.nextSerial := by
  obtain ⟨rc, c⟩ := Sowr.reach_inv hk hb hr ⟨hl, hm⟩
  obtain ⟨r1, _, r3⟩ := c.win
  exact ⟨by omega, c.own⟩

/-- non-vacuity: capacity 4, `alloc_idx` started 4 below the 2^32 wrap; the allocating thread
takes three blocks, the freeing thread frees the newest one (releasing all three), then
`alloc_idx` wraps -/
example : ∃ s, Reach Sowr.step (Sowr.mkInit (2 ^ 2) 4294967292 2 [[.p, .p, .p, .p, .p], [.u]]) s ∧
    s.g.illegal = 0 ∧ s.misuse = 0 ∧ s.allocIdx = 1 ∧ s.g.owned 3 = true ∧ s.g.owned 1 = false ∧ s.nRet = 3 :=
  ⟨_, reach_runSched Sowr.step _ _ Reach.init
      (List.replicate 3 { tid := 0 } ++ List.replicate 2 { tid := 1 } ++ List.replicate 3 { tid := 0 }),
    by decide, by decide, by decide, by decide, by decide, by decide⟩

/-! ## ring pool -/

/-- **Clause 1, ring pool.** One allocating thread calling `muggle_ring_memory_pool_alloc`
(`locked = false`, the contract monitored by `misuse`) or any number of threads calling
`muggle_ring_memory_pool_threadsafe_alloc` (`locked = true`), any number of freeing threads,
every schedule: no allocation returns a block that is still owned. -/
theorem ring_no_double_handout (cap n : Nat) (locked : Bool) (progs : List (List Op)) (s : Ring.St)
    (hr : Reach Ring.step (Ring.mkInit cap n locked progs) s) (hl : s.g.illegal = 0) (hm : s.misuse = 0) :
    s.g.double = 0 :=
  ((Ring.reach_inv hr).2 ⟨hl, hm⟩).dbl

/-- **Clause 1, ring pool, state form.** Every owned block has its `in_use` flag set, so the
allocator skips it. -/
theorem ring_owned_blocks_flagged (cap n : Nat) (locked : Bool) (progs : List (List Op)) (s : Ring.St)
    (hr : Reach Ring.step (Ring.mkInit cap n locked progs) s) (hl : s.g.illegal = 0) (hm : s.misuse = 0)
    (b : Nat) (ho : s.g.owned b = true) : s.inUse b ≠ 0 :=
  (((Ring.reach_inv hr).2 ⟨hl, hm⟩).blk b).flagged ho

/-- **Clause 2, ring pool (never skips a free block).** The ring pool has no failure path
(the model's `alloc` only ever returns a block: exhaustion is never reported, the clause
"exhaustion only when exhausted" is vacuous). What can be said about progress: a probe fails
only on a block that is not in the pool — held by a client, inside `free`, or just taken. -/
theorem ring_probe_fails_only_on_busy (cap n : Nat) (locked : Bool) (progs : List (List Op)) (s : Ring.St)
    (hr : Reach Ring.step (Ring.mkInit cap n locked progs) s) (hl : s.g.illegal = 0) (hm : s.misuse = 0)
    (b : Nat) (hbusy : s.inUse b ≠ 0) : s.loc b ≠ .pool := by
  exact fun h => hbusy ((((Ring.reach_inv hr).2 ⟨hl, hm⟩).blk b).pf h)

/- Left out: no theorem says that a ring-pool allocation terminates ("served indefinitely"). The
index walk `alloc_idx ↦ (alloc_idx + 1) & (cap - 1)` visits every block within `cap` probes, so an
allocation completes within `cap` probes once some block is in the pool and stays there; only the
correspondence exercises this (every ring run must end `ok`). -/

/-- with the spin-locked entry point the program never breaks the threading contract: the
`misuse` monitor stays 0 for every program, so `ring_no_double_handout` needs no hypothesis on it -/
theorem ring_locked_no_misuse (cap n : Nat) (progs : List (List Op)) (s : Ring.St)
    (hr : Reach Ring.step (Ring.mkInit cap n true progs) s) : s.misuse = 0 ∧ s.locked = true :=
  ⟨(Ring.reach_inv hr).1.ms rfl, (Ring.reach_inv hr).1.lk⟩

/-- **Clause 1, ring pool, unconditional form.** Spin-locked allocators, any number of threads,
well-formed client programs (no `X`), every schedule: the history is legal by construction and
no allocation returns a block that is still owned. -/
theorem ring_locked_safe_for_wellformed_clients (cap n : Nat) (progs : List (List Op))
    (hwf : ∀ p, p ∈ progs → ∀ op, op ∈ p → wellFormed op = true) (s : Ring.St)
    (hr : Reach Ring.step (Ring.mkInit cap n true progs) s) :
    s.g.illegal = 0 ∧ s.misuse = 0 ∧ s.g.double = 0 := by
  have cl := Ring.reach_cl hwf hr
  obtain ⟨a, inv⟩ := Ring.reach_inv hr
  exact ⟨cl.il, a.ms rfl, (inv ⟨cl.il, a.ms rfl⟩).dbl⟩

/-- non-vacuity: a legal reachable state of the ring pool (two spin-locked allocators) -/
example : ∃ s, Reach Ring.step (Ring.mkInit 2 2 true [[.a], [.a, .f]]) s ∧ s.g.illegal = 0 ∧ s.misuse = 0 ∧
    s.g.owned 0 = true ∧ s.inUse 1 = 0 :=
  ⟨_, reach_runSched Ring.step _ _ Reach.init
      ((List.replicate 10 { tid := 0 }) ++ (List.replicate 12 { tid := 1 })), by decide, by decide, by decide, by decide⟩

end MgProof.C05
