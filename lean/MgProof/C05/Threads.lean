import MgProof.C05.Lemmas
/-! Two notions the pool invariants share, each with what a step of one thread (`upd pc t q`) does to it.
`Mutex`: a lock word that is a number and does not name its holder (the pools' spinlocks), so who holds it is
read off the program counters. Where a model stores the holder, `own_*` of `MgProof.Conc` say the same as one
`↔`; `excl_upd` there is the clause `excl` alone. -/
namespace MgProof.C05
open MgModel.Conc

structure Mutex {P : Type} (inside : P → Bool) (l : Nat) (pc : Nat → P) : Prop where
  excl : ∀ t t', inside (pc t) = true → inside (pc t') = true → t = t'
  idle : l = 0 → ∀ t, inside (pc t) = false

namespace Mutex
variable {P : Type} {inside : P → Bool} {l : Nat} {pc : Nat → P} {t : Nat} {p0 q : P}

theorem init (h : ∀ t, inside (pc t) = false) : Mutex inside l pc :=
  ⟨fun t _ ht => absurd ((h t).symm.trans ht) Bool.false_ne_true, fun _ => h⟩

theorem move (m : Mutex inside l pc) (hpc : pc t = p0) (h : inside q = inside p0) :
    Mutex inside l (upd pc t q) := by
  subst hpc
  have key := upd_forall (P := fun j a => inside a = inside (pc j)) (fun _ _ => rfl) h
  exact ⟨fun t1 t2 => by rw [key, key]; exact m.excl t1 t2, fun hl t' => by rw [key]; exact m.idle hl t'⟩

theorem acquire (m : Mutex inside l pc) (hl : l = 0) {l' : Nat} (hl' : l' ≠ 0) :
    Mutex inside l' (upd pc t q) := by
  have key := upd_forall (P := fun j a => inside a = true → j = t) (f := pc) (a := q)
    (fun j _ h => absurd h (by rw [m.idle hl]; nofun)) fun _ => rfl
  exact ⟨fun t1 t2 h1 h2 => by rw [key t1 h1, key t2 h2], fun h => absurd h hl'⟩

theorem release (m : Mutex inside l pc) (hpc : pc t = p0) (h : inside p0 = true) (hq : inside q = false)
    (l' : Nat) : Mutex inside l' (upd pc t q) := by
  subst hpc
  have key := upd_forall (P := fun _ a => inside a = false)
    (fun j e => Bool.eq_false_iff.mpr fun h' => e (m.excl j t h' h)) hq
  exact ⟨fun t1 _ h1 => absurd h1 (by rw [key]; exact Bool.false_ne_true), fun _ => key⟩

end Mutex

/-- `claim t p`: the block thread `t` holds at `p`, with the location it has meanwhile; `owner l`: the thread a
location names. A location names a thread exactly while that thread claims the block. -/
structure Owns {P L : Type} (claim : Nat → P → Option (Nat × L)) (owner : L → Option Nat)
    (pc : Nat → P) (loc : Nat → L) : Prop where
  fwd : ∀ t b l, claim t (pc t) = some (b, l) → loc b = l
  bwd : ∀ b t, owner (loc b) = some t → claim t (pc t) = some (b, loc b)

namespace Owns
variable {P L : Type} {claim : Nat → P → Option (Nat × L)} {owner : L → Option Nat}
  {pc : Nat → P} {loc : Nat → L} {t b : Nat} {p0 q : P} {l : L}

theorem init (h : ∀ t, claim t (pc t) = none) (h' : ∀ b, owner (loc b) = none) : Owns claim owner pc loc :=
  ⟨fun t _ _ ht => (nomatch (h t).symm.trans ht), fun b _ hb => (nomatch (h' b).symm.trans hb)⟩

theorem move (o : Owns claim owner pc loc) (hpc : pc t = p0) (h : claim t q = claim t p0) :
    Owns claim owner (upd pc t q) loc := by
  subst hpc
  have key := upd_forall (P := fun j a => claim j a = claim j (pc j)) (fun _ _ => rfl) h
  exact ⟨fun t' b l => by rw [key]; exact o.fwd t' b l, fun b t' => by rw [key]; exact o.bwd b t'⟩

/-- Thread `t` moves and block `b` changes hands between `t` and nobody: before, `b` is nobody's and `t`
claims nothing, or `t` claims `b`; after, likewise with the new location `l`. -/
theorem set (o : Owns claim owner pc loc) (hc : ∀ t p b l, claim t p = some (b, l) → owner l = some t)
    (hpc : pc t = p0)
    (h0 : claim t p0 = none ∧ owner (loc b) = none ∨ ∃ l0, claim t p0 = some (b, l0))
    (hq : claim t q = some (b, l) ∨ claim t q = none ∧ owner l = none) :
    Owns claim owner (upd pc t q) (upd loc b l) := by
  subst hpc
  -- nobody but `t` has to do with `b`, and `t` with no other block
  have hb : ∀ t', owner (loc b) = some t' → t' = t := fun t' h =>
    h0.elim (fun h0 => by rw [h0.2] at h; cases h) fun ⟨l0, h0⟩ => by
      rw [o.fwd t b l0 h0, hc _ _ _ _ h0] at h; exact (Option.some.inj h).symm
  have ht : ∀ b' l', claim t (pc t) = some (b', l') → b' = b := fun b' l' h =>
    h0.elim (fun h0 => by rw [h0.1] at h; cases h) fun ⟨l0, h0⟩ => by
      rw [h0] at h; exact (congrArg Prod.fst (Option.some.inj h)).symm
  constructor
  · intro t' b' l' h
    by_cases e : t' = t
    · subst e
      rw [upd_same] at h
      rcases hq with hq | ⟨hq, -⟩ <;> rw [hq] at h <;> cases h
      exact upd_same ..
    · rw [upd_other _ _ _ _ e] at h
      have hl := o.fwd t' b' l' h
      have : b' ≠ b := fun e' => e (hb t' (by rw [← e', hl]; exact hc _ _ _ _ h))
      rw [upd_other _ _ _ _ this]; exact hl
  · intro b' t' h
    by_cases e' : b' = b
    · subst e'
      rw [upd_same] at h ⊢
      rcases hq with hq | hq
      · obtain rfl : t' = t := Option.some.inj ((hc _ _ _ _ hq).symm.trans h).symm
        rw [upd_same]; exact hq
      · rw [hq.2] at h; cases h
    · rw [upd_other _ _ _ _ e'] at h ⊢
      have h' := o.bwd b' t' h
      have : t' ≠ t := fun e => e' (ht b' _ (e ▸ h'))
      rw [upd_other _ _ _ _ this]; exact h'

theorem take (o : Owns claim owner pc loc) (hc : ∀ t p b l, claim t p = some (b, l) → owner l = some t)
    (hpc : pc t = p0) (h0 : claim t p0 = none) (hq : claim t q = some (b, l)) (hb : owner (loc b) = none) :
    Owns claim owner (upd pc t q) (upd loc b l) :=
  o.set hc hpc (.inl ⟨h0, hb⟩) (.inl hq)

theorem give (o : Owns claim owner pc loc) (hc : ∀ t p b l, claim t p = some (b, l) → owner l = some t)
    {l0 : L} (hpc : pc t = p0) (h0 : claim t p0 = some (b, l0)) (hq : claim t q = none) (hl : owner l = none) :
    Owns claim owner (upd pc t q) (upd loc b l) :=
  o.set hc hpc (.inr ⟨l0, h0⟩) (.inr ⟨hq, hl⟩)

end Owns
end MgProof.C05
