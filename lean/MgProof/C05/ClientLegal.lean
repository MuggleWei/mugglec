import MgProof.C05.Lemmas
/-! The client layer never produces an illegal free on its own: with well-formed programs
(no `X` operation) every block a thread frees is one it owns. -/
namespace MgProof.C05
open MgModel.Conc MgModel.C05

def wellFormed : Op → Bool
  | .X _ => false
  | _ => true

def lst (g : Ghost) : Option Nat → List Nat
  | some t => g.mine t
  | none => g.bag

structure GInv (g : Ghost) : Prop where
  own : ∀ x b, b ∈ lst g x → g.owned b = true
  nd  : ∀ x, (lst g x).Nodup
  one : ∀ x y b, b ∈ lst g x → b ∈ lst g y → x = y

/-- what remains listed after the operand `b` was taken out -/
structure Removed (g g' : Ghost) (b : Nat) : Prop where
  ob  : g.owned b = true
  sub : ∀ x y, y ∈ lst g' x → y ∈ lst g x ∧ y ≠ b
  nd  : ∀ x, (lst g' x).Nodup

theorem lst_mine (g : Ghost) (t : Nat) (r : List Nat) (x : Option Nat) :
    lst { g with mine := upd g.mine t r } x = if x = some t then r else lst g x := by
  cases x with
  | none => rfl
  | some t' => simp only [lst, upd, Option.some.injEq]

theorem lst_bag (g : Ghost) (r : List Nat) (x : Option Nat) :
    lst { g with bag := r } x = if x = none then r else lst g x := by
  cases x <;> rfl

theorem GInv.remove {g g' : Ghost} (gi : GInv g) {x₀ : Option Nat} {b : Nat} {r : List Nat}
    (hl : ∀ x, lst g' x = if x = x₀ then r else lst g x) (hb : b ∈ lst g x₀)
    (hr : ∀ y, y ∈ r → y ∈ lst g x₀ ∧ y ≠ b) (hrn : r.Nodup) : Removed g g' b := by
  refine ⟨gi.own x₀ b hb, fun x y hy => ?_, fun x => ?_⟩
  · rw [hl] at hy
    split at hy
    next e => exact e ▸ hr y hy
    next e => exact ⟨hy, fun e' => e (gi.one x x₀ y hy (e' ▸ hb))⟩
  · rw [hl]; split
    · exact hrn
    · exact gi.nd x

theorem beginOp_free {g : Ghost} {t cap b : Nat} {op : Op} (gi : GInv g) (hw : wellFormed op = true)
    (h : (beginOp g t cap op).2 = .free b) : Removed g (beginOp g t cap op).1 b := by
  have head : ∀ {x₀ r g'}, (∀ x, lst g' x = if x = x₀ then r else lst g x) → lst g x₀ = b :: r →
      Removed g g' b := fun hl hm =>
    have hn := List.nodup_cons.mp (hm ▸ gi.nd _)
    gi.remove hl (hm ▸ List.mem_cons_self ..) (fun y hy => ⟨hm ▸ List.mem_cons_of_mem _ hy, fun e => hn.1 (e ▸ hy)⟩) hn.2
  unfold beginOp at h ⊢
  cases op with
  | a | p => cases h
  | f =>
    dsimp only at h ⊢
    split at h <;> cases h
    next hm => exact head (lst_mine _ _ _) hm
  | g =>
    dsimp only at h ⊢
    split at h <;> cases h
    next hm =>
    obtain ⟨ys, hys⟩ := List.getLast?_eq_some_iff.mp hm
    have hn : (ys ++ [b]).Nodup := hys ▸ gi.nd (some t)
    obtain ⟨n1, _, n3⟩ := List.nodup_append.mp hn
    have hsub : ∀ y, y ∈ ys → y ∈ lst g (some t) := fun y hy =>
      (show lst g (some t) = ys ++ [b] from hys) ▸ List.mem_append_left _ hy
    rw [hys, List.dropLast_concat]
    exact gi.remove (lst_mine _ _ _) (x₀ := some t) (List.mem_of_getLast? hm)
      (fun y hy => ⟨hsub y hy, fun e => n3 y hy b (List.mem_singleton_self b) e⟩) n1
  | t =>
    dsimp only at h ⊢
    split at h <;> cases h
    next hm => exact head (lst_bag _ _) hm
  | u =>
    dsimp only at h ⊢
    split at h <;> cases h
    next hm => exact gi.remove (lst_bag _ _) (x₀ := none) (List.mem_of_getLast? hm) (fun _ h => nomatch h) List.nodup_nil
  | x k =>
    cases k with
    | none => cases h
    | some k =>
      dsimp only at h ⊢
      split at h <;> cases h
      next hc =>
      rw [if_pos hc]
      exact gi.remove (lst_mine _ _ _) (x₀ := some t) hc.2
        (fun y hy => ((List.Nodup.mem_erase_iff (gi.nd (some t))).mp hy).symm) ((gi.nd (some t)).erase b)
  | X k => cases hw

theorem beginOp_not_free {g : Ghost} {t cap : Nat} {op : Op} (h : ∀ b, (beginOp g t cap op).2 ≠ .free b) :
    (beginOp g t cap op).1 = g := by
  have : (beginOp g t cap op).1 = g ∨ ∃ b, (beginOp g t cap op).2 = .free b := by
    unfold beginOp
    split <;> (try split) <;> first | exact .inl rfl | exact .inr ⟨_, rfl⟩
  exact this.resolve_right fun ⟨b, hb⟩ => h b hb

theorem GInv.after_free {g g' : Ghost} {t b : Nat} (gi : GInv g) (r : Removed g g' b)
    (ho : g'.owned = g.owned) : GInv (freeBegin false g' t b).1 := by
  rw [freeBegin_false (t := t) (ho ▸ r.ob : g'.owned b = true)]
  refine ⟨fun x y hy => ?_, r.nd, fun x x' y h h' => gi.one x x' y (r.sub x y h).1 (r.sub x' y h').1⟩
  obtain ⟨h1, h2⟩ := r.sub x y hy
  show upd g'.owned b false y = true
  rw [ho, upd_other _ _ _ _ h2]; exact gi.own x y h1

/-- an allocation that returns `b` appends it to one list -/
theorem lst_allocDone (g : Ghost) (t b : Nat) (pb : Bool) :
    ∃ x₀, ∀ x, lst (allocDone g t pb (some b)).1 x = if x = x₀ then lst g x₀ ++ [b] else lst g x := by
  cases pb
  · exact ⟨some t, lst_mine _ t _⟩
  · exact ⟨none, lst_bag _ _⟩

theorem GInv.after_alloc {g : Ghost} {t b : Nat} {pb : Bool} (gi : GInv g) (hb : g.owned b = false) :
    GInv (allocDone g t pb (some b)).1 := by
  have nl : ∀ x, b ∉ lst g x := fun x h => by rw [gi.own x b h] at hb; cases hb
  have a1 : (allocDone g t pb (some b)).1.owned = upd g.owned b true := by
    obtain ⟨_, _, e⟩ := allocDone_some g t pb b; rw [e]
  obtain ⟨x₀, hl⟩ := lst_allocDone g t b pb
  have mem : ∀ x y, y ∈ lst (allocDone g t pb (some b)).1 x → y ∈ lst g x ∨ y = b ∧ x = x₀ := by
    intro x y hy
    rw [hl] at hy
    split at hy
    next e => exact (List.mem_append.mp hy).imp (e ▸ id) fun h => ⟨List.mem_singleton.mp h, e⟩
    · exact .inl hy
  refine ⟨fun x y hy => ?_, fun x => ?_, fun x x' y h h' => ?_⟩
  · rw [a1]
    exact upd_intro (Q := (· = true)) (fun _ => rfl) fun e => gi.own x y ((mem x y hy).resolve_right fun h => e h.1)
  · rw [hl]; split
    · exact List.pairwise_concat (gi.nd x₀) fun y hy e => nl x₀ (e ▸ hy)
    · exact gi.nd x
  · rcases mem x y h with h1 | ⟨e1, e2⟩ <;> rcases mem x' y h' with h2 | ⟨e3, e4⟩
    · exact gi.one x x' y h1 h2
    · exact absurd (e3 ▸ h1) (nl x)
    · exact absurd (e1 ▸ h2) (nl x')
    · rw [e2, e4]

theorem GInv.init : GInv {} := by
  refine ⟨fun x b h => ?_, fun x => ?_, fun x y b h => ?_⟩
  · cases x <;> cases h
  · cases x <;> exact List.nodup_nil
  · cases x <;> cases h

/-- what a step of a pool model does to programs and ghost; `R`: the blocks an allocation may return -/
inductive ClientStep (R : Nat → Prop) (t cap : Nat) (prog : Nat → List Op) (g : Ghost) :
    (Nat → List Op) → Ghost → Prop where
  | none : ClientStep R t cap prog g prog g
  | op {op : Op} {rest : List Op} (h : prog t = op :: rest) (hn : ∀ b, (beginOp g t cap op).2 ≠ .free b) :
      ClientStep R t cap prog g (upd prog t rest) (beginOp g t cap op).1
  | free {op : Op} {rest : List Op} {b : Nat} (h : prog t = op :: rest) (hb : (beginOp g t cap op).2 = .free b) :
      ClientStep R t cap prog g (upd prog t rest) (freeBegin false (beginOp g t cap op).1 t b).1
  | ret (pb : Bool) {b : Nat} (h : R b) : ClientStep R t cap prog g prog (allocDone g t pb (some b)).1

structure CInv (prog : Nat → List Op) (g : Ghost) : Prop where
  wf : ∀ t op, op ∈ prog t → wellFormed op = true
  gi : GInv g
  il : g.illegal = 0

theorem CInv.step {R : Nat → Prop} {t cap : Nat} {prog prog' : Nat → List Op} {g g' : Ghost}
    (c : CInv prog g) (h : ClientStep R t cap prog g prog' g') (hR : ∀ b, R b → g.owned b = false) :
    CInv prog' g' := by
  obtain ⟨hw, gi, hi⟩ := c
  have tail : ∀ {op rest}, prog t = op :: rest → ∀ t' op', op' ∈ upd prog t rest t' → wellFormed op' = true :=
    fun hp => upd_forall (P := fun _ l => ∀ op', op' ∈ l → wellFormed op' = true) (fun j _ => hw j)
      fun op' h' => hw t op' (hp ▸ List.mem_cons_of_mem _ h')
  cases h with
  | none => exact ⟨hw, gi, hi⟩
  | op hp hn => rw [beginOp_not_free hn]; exact ⟨tail hp, gi, hi⟩
  | @free op rest b hp hb =>
    have r := beginOp_free gi (hw t op (hp ▸ List.mem_cons_self ..)) hb
    have bo := beginOp_owned g t cap op
    refine ⟨tail hp, gi.after_free r bo, ?_⟩
    rw [freeBegin_false (t := t) (bo ▸ r.ob)]; exact (beginOp_illegal ..).trans hi
  | ret pb hb =>
    refine ⟨hw, gi.after_alloc (hR _ hb), ?_⟩
    obtain ⟨_, _, e⟩ := allocDone_some g t pb _
    rw [e]; exact hi

theorem CInv.init {progs : List (List Op)} (h : ∀ p, p ∈ progs → ∀ op, op ∈ p → wellFormed op = true) :
    CInv (fun t => progs.getD t []) {} := by
  refine ⟨fun t op hop => ?_, GInv.init, rfl⟩
  rw [List.getD_eq_getElem?_getD] at hop
  by_cases ht : t < progs.length
  · rw [List.getElem?_eq_getElem ht, Option.getD_some] at hop
    exact h _ (List.getElem_mem ht) op hop
  · rw [List.getElem?_eq_none (Nat.le_of_not_lt ht), Option.getD_none] at hop
    cases hop

end MgProof.C05
