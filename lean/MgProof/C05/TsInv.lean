import MgProof.C05.Threads
import MgModel.C05.TsPool
/-! Invariant of the repaired thread-safe pool model (`MgModel.C05.Ts.step`). Whatever the clients do,
the two spinlocks serialise allocators / freers (`Locks`). For histories that are legal so far
(`illegal = 0`): the ring of free pointers between `alloc_idx` and `free_idx` holds pairwise distinct
blocks that are in the pool, and `cached_free_pos` lies between them. -/
namespace MgProof.C05.Ts
open MgModel.Conc MgModel.C05 MgModel.C05.Ts

/-- distance from `a` forward to `x` in the ring, in `1..C` -/
def dist (C a x : Nat) : Nat := if a < x then x - a else x + C - a

/-- slot `j` is one of the `c` slots starting at `a` -/
def valid (C a c j : Nat) : Prop := (a ≤ j ∧ j < a + c) ∨ j + C < a + c

/-- the slot `c` after `a` -/
def fwd (C a c : Nat) : Nat := if a + c < C then a + c else a + c - C

theorem nxt_lt {C a : Nat} (ha : a < C) : nxt C a < C := by
  unfold nxt; split <;> omega

theorem dist_pos {C a x : Nat} (ha : a < C) : 1 ≤ dist C a x := by
  unfold dist; split <;> omega

theorem dist_le {C a x : Nat} (ha : a < C) (hx : x < C) : dist C a x ≤ C := by
  unfold dist; split <;> omega

theorem valid_nxt {C a c j : Nat} (hc1 : 1 ≤ c) (hc : c ≤ C) (h : valid C (nxt C a) (c - 1) j) :
    valid C a c j ∧ j ≠ a := by
  unfold valid nxt at *
  split at h <;> omega

theorem fwd_nxt {C a c : Nat} (hc2 : 2 ≤ c) (hc : c ≤ C) : fwd C a c = fwd C (nxt C a) (c - 1) := by
  unfold fwd nxt
  by_cases e : a + 1 = C
  · rw [if_pos e, if_neg (by omega), if_pos (by omega)]; omega
  · rw [if_neg e]
    by_cases e' : a + c < C
    · rw [if_pos e', if_pos (by omega)]; omega
    · rw [if_neg e', if_neg (by omega)]; omega

theorem fwd_eq_nxt {C a m : Nat} (ha : a < C) (h1 : 1 ≤ m) (hm : m ≤ C) : fwd C a m = nxt C a ↔ m = 1 := by
  unfold fwd nxt; split <;> split <;> omega

theorem valid_succ {C a c j : Nat} (hj : j < C) (h : valid C a (c + 1) j) : valid C a c j ∨ j = fwd C a c := by
  unfold valid fwd at *
  split <;> omega

theorem nxt_fwd {C a c : Nat} (ha : a < C) (hc : c < C) : nxt C (fwd C a c) = fwd C a (c + 1) := by
  unfold nxt fwd
  split <;> split <;> split <;> omega

/-- thread holds `alloc_spinlock` -/
def inA : Pc → Bool
  | .aRdIdx | .aRdCf _ | .aLdFi _ | .aWrCf _ _ _ | .aRdCf2 _ _ | .aRdPtr _ | .aWrIdx _ _ | .aUnlock _ => true
  | _ => false

/-- thread holds `free_spinlock` -/
def inF : Pc → Bool
  | .fRdFi _ | .fWrPtr _ _ | .fRdFi2 _ | .fStFi _ _ | .fUnlock => true
  | _ => false

def claim (t : Nat) : Pc → Option (Nat × Loc)
  | .aUnlock (some b) => some (b, .taken t)
  | .fLock b | .fYield b | .fRdFi b | .fWrPtr b _ | .fRdFi2 b | .fStFi b _ => some (b, .freeing t)
  | _ => none

def owner : Loc → Option Nat
  | .taken t | .freeing t => some t
  | _ => none

theorem claim_owner (t : Nat) (p : Pc) (b : Nat) (l : Loc) (h : claim t p = some (b, l)) :
    owner l = some t := by
  unfold claim at h
  split at h <;> cases h <;> rfl

/-- the shared data; `c` is the number of blocks in the ring: `free_idx` is `c` slots after `alloc_idx`
(clause `fi`), and `cached_free_pos`, the allocators' stale copy of it, `m ≤ c` slots after `alloc_idx` (clause `icf`) -/
structure DataC (k c : Nat) (s : St) : Prop where
  cap : s.cap = 2 ^ k
  dbl : s.g.double = 0
  spn : s.spuriousNull = 0
  own : ∀ b, s.g.owned b = true ↔ s.loc b = .client
  big : ∀ b, s.cap ≤ b → s.loc b = .pool
  cnt : c = poolCount s
  le  : c ≤ s.cap
  ia  : s.allocIdx < s.cap
  fi  : s.freeIdx = fwd s.cap s.allocIdx c
  icf : ∃ m, 1 ≤ m ∧ m ≤ c ∧ s.cachedFree = fwd s.cap s.allocIdx m
  vl  : ∀ j, j < s.cap → valid s.cap s.allocIdx c j → s.loc (s.ptrs j) = .pool ∧ s.ptrs j < s.cap
  inj : ∀ j j', j < s.cap → j' < s.cap → valid s.cap s.allocIdx c j → valid s.cap s.allocIdx c j' →
          s.ptrs j = s.ptrs j' → j = j'

/-- what a thread at `p` may rely on, being inside the lock that guards the variables it has read;
at `aWrCf x f0 n`, `n` is the model's ghost `poolCount` at the load of `free_idx` -/
def Knows (c : Nat) (s : St) : Pc → Prop
  | .aRdCf x | .aLdFi x => x = s.allocIdx
  | .aWrCf x f0 n => x = s.allocIdx ∧ 1 ≤ n ∧ n ≤ c ∧ f0 = fwd s.cap s.allocIdx n
  | .aRdCf2 x (some n) => x = s.allocIdx ∧ 1 ≤ n ∧ n ≤ c ∧ s.cachedFree = fwd s.cap s.allocIdx n
  | .aRdCf2 x none | .aRdPtr x => x = s.allocIdx ∧ nxt s.cap s.allocIdx ≠ s.cachedFree
  | .aWrIdx x b => x = s.allocIdx ∧ nxt s.cap s.allocIdx ≠ s.cachedFree ∧ b = s.ptrs s.allocIdx
  | .fWrPtr _ f0 => f0 = s.freeIdx
  | .fRdFi2 b => s.ptrs s.freeIdx = b
  | .fStFi b v => s.ptrs s.freeIdx = b ∧ v = nxt s.cap s.freeIdx
  | _ => True

structure Locks (a f : Nat) (pc : Nat → Pc) : Prop where
  ma : Mutex inA a pc
  mf : Mutex inF f pc

theorem Locks.move {a f : Nat} {pc : Nat → Pc} {t : Nat} {p0 q : Pc} (l : Locks a f pc) (hpc : pc t = p0)
    (hA : inA q = inA p0) (hF : inF q = inF p0) : Locks a f (upd pc t q) :=
  ⟨l.ma.move hpc hA, l.mf.move hpc hF⟩

structure PcC (c : Nat) (s : St) : Prop where
  ow : Owns claim owner s.pc s.loc
  kn : ∀ t, Knows c s (s.pc t)

def Legal (s : St) : Prop := s.g.illegal = 0

def Inv (k : Nat) (s : St) : Prop :=
  Locks s.alock s.flock s.pc ∧ (Legal s → ∃ c, DataC k c s ∧ PcC c s)

theorem nextPc_inA (rest : List Op) : inA (nextPc rest) = false := by unfold nextPc; split <;> rfl
theorem nextPc_inF (rest : List Op) : inF (nextPc rest) = false := by unfold nextPc; split <;> rfl
theorem nextPc_claim (rest : List Op) (t : Nat) : claim t (nextPc rest) = none := by
  unfold nextPc; split <;> rfl
theorem nextPc_knows (rest : List Op) (c : Nat) (s : St) : Knows c s (nextPc rest) := by
  unfold nextPc; split <;> trivial

theorem poolCount_same {s s' : St} (h1 : s'.cap = s.cap) (h2 : s'.loc = s.loc) : poolCount s' = poolCount s := by
  unfold poolCount; rw [h1, h2]

theorem poolCount_upd {s s' : St} {b : Nat} {v : Loc} (h1 : s'.cap = s.cap) (h2 : s'.loc = upd s.loc b v)
    (hb : b < s.cap) :
    poolCount s' + (if s.loc b = .pool then 1 else 0) = poolCount s + (if v = .pool then 1 else 0) := by
  unfold poolCount; rw [h1, h2]
  have := countP_range_upd (fun l : Loc => l == .pool) s.loc b v s.cap hb
  simpa using this

theorem poolCount_lt {s : St} {b : Nat} (hb : b < s.cap) (h : s.loc b ≠ .pool) : poolCount s < s.cap := by
  -- with `b` put into the pool there would be one more, and at most `cap`
  have h1 := poolCount_upd (s := s) (s' := { s with loc := upd s.loc b .pool }) rfl rfl hb
  have h2 : poolCount { s with loc := upd s.loc b .pool } ≤ s.cap := countP_range_le _ _
  rw [if_neg h, if_pos rfl] at h1
  omega

/-- the fields `DataC` reads -/
def shared (s : St) :=
  (s.cap, s.g.double, s.spuriousNull, s.g.owned, s.loc, s.allocIdx, s.freeIdx, s.cachedFree, s.ptrs)

namespace DataC
variable {k c : Nat} {s s' : St}

theorem same (d : DataC k c s) (h : shared s' = shared s) : DataC k c s' := by
  simp only [shared, Prod.mk.injEq] at h
  obtain ⟨hcap, hdbl, hspn, hown, hloc, hai, hfi, hcf, hptr⟩ := h
  constructor
  · rw [hcap]; exact d.cap
  · rw [hdbl]; exact d.dbl
  · rw [hspn]; exact d.spn
  · rw [hown, hloc]; exact d.own
  · rw [hcap, hloc]; exact d.big
  · rw [poolCount_same hcap hloc]; exact d.cnt
  · rw [hcap]; exact d.le
  · rw [hcap, hai]; exact d.ia
  · rw [hcap, hai, hfi]; exact d.fi
  · rw [hcap, hai, hcf]; exact d.icf
  · rw [hcap, hloc, hai, hptr]; exact d.vl
  · rw [hcap, hai, hptr]; exact d.inj

/-- step `aWrCf` -/
theorem cached (d : DataC k c s) {cf : Nat} (hcf : ∃ m, 1 ≤ m ∧ m ≤ c ∧ cf = fwd s.cap s.allocIdx m) :
    DataC k c { s with cachedFree := cf } :=
  ⟨d.cap, d.dbl, d.spn, d.own, d.big, d.cnt, d.le, d.ia, d.fi, hcf, d.vl, d.inj⟩

/-- allocation stops one slot before `cached_free_pos` and `free_idx` is no nearer: the ring never runs empty -/
theorem pos (d : DataC k c s) : 1 ≤ c :=
  let ⟨_, h1, h2, _⟩ := d.icf; Nat.le_trans h1 h2

theorem fi_lt (d : DataC k c s) : s.freeIdx < s.cap := by
  have h := d.fi; have := d.le; have := d.ia
  unfold fwd at h
  split at h <;> omega

theorem fi_invalid (d : DataC k c s) (hc : c < s.cap) : ¬ valid s.cap s.allocIdx c s.freeIdx := by
  have h := d.fi; have := d.le; have := d.ia
  unfold fwd at h; unfold valid
  split at h <;> omega

theorem valid_succ (d : DataC k c s) {j : Nat} (hj : j < s.cap) (h : valid s.cap s.allocIdx (c + 1) j) :
    valid s.cap s.allocIdx c j ∨ j = s.freeIdx :=
  d.fi ▸ Ts.valid_succ hj h

theorem ai_valid (d : DataC k c s) : valid s.cap s.allocIdx c s.allocIdx := by
  have := d.pos; unfold valid; omega

theorem out_lt (d : DataC k c s) {b : Nat} (h : s.loc b ≠ .pool) : b < s.cap ∧ c < s.cap := by
  have hb : b < s.cap := Nat.lt_of_not_le fun hle => h (d.big b hle)
  exact ⟨hb, d.cnt ▸ poolCount_lt hb h⟩

theorem not_owned (d : DataC k c s) {b : Nat} (h : s.loc b ≠ .client) : s.g.owned b = false :=
  Bool.eq_false_iff.mpr fun ho => h ((d.own b).mp ho)

theorem big_upd (d : DataC k c s) {b : Nat} (hb : b < s.cap) (v : Loc) :
    ∀ b', s.cap ≤ b' → upd s.loc b v b' = .pool := fun b' hb' => by
  rw [upd_other _ _ _ _ (by omega)]; exact d.big b' hb'

theorem own_upd (d : DataC k c s) {b : Nat} {v : Loc} (hb : s.loc b ≠ .client) (hv : v ≠ .client) :
    ∀ b', s.g.owned b' = true ↔ upd s.loc b v b' = .client :=
  upd_forall (P := fun b' (l : Loc) => s.g.owned b' = true ↔ l = .client) (fun b' _ => d.own b')
    (by rw [d.not_owned hb]; exact ⟨nofun, fun h => absurd h hv⟩)

theorem cnt_upd (d : DataC k c s) {b : Nat} (v : Loc) (hb : b < s.cap) :
    poolCount { s with loc := upd s.loc b v } + (if s.loc b = .pool then 1 else 0) =
      c + (if v = .pool then 1 else 0) :=
  d.cnt ▸ poolCount_upd rfl rfl hb

/-- step `aUnlock` and the start of a `free` -/
theorem relocate (d : DataC k c s) {b : Nat} {v : Loc} {o : Bool} (hb : s.loc b ≠ .pool) (hv : v ≠ .pool)
    (ho : o = true ↔ v = .client) :
    DataC k c { s with g := { s.g with owned := upd s.g.owned b o }, loc := upd s.loc b v } := by
  have hbl := (d.out_lt hb).1
  refine ⟨d.cap, d.dbl, d.spn, ?_, d.big_upd hbl v, ?_, d.le, d.ia, d.fi, d.icf, fun j hj hvj => ?_, d.inj⟩
  · exact upd_forall₂ (P := fun _ o (l : Loc) => o = true ↔ l = .client) (fun b' _ => d.own b') ho
  · have := d.cnt_upd v hbl
    rw [if_neg hb, if_neg hv] at this
    exact this.symm
  · obtain ⟨e1, e2⟩ := d.vl j hj hvj
    have : s.ptrs j ≠ b := fun e => hb (e ▸ e1)
    show upd s.loc b v (s.ptrs j) = .pool ∧ _
    rw [upd_other _ _ _ _ this]; exact ⟨e1, e2⟩

/-- step `aWrIdx` -/
theorem commit (d : DataC k c s) (hcf : nxt s.cap s.allocIdx ≠ s.cachedFree) {l : Loc} (hl : l ≠ .pool)
    (hl' : l ≠ .client) :
    DataC k (c - 1) { s with loc := upd s.loc (s.ptrs s.allocIdx) l, allocIdx := nxt s.cap s.allocIdx } := by
  obtain ⟨hbp, hbl⟩ := d.vl s.allocIdx d.ia d.ai_valid
  have hia := d.ia
  have hcC := d.le
  obtain ⟨m, hm1, hmc, hcfm⟩ := d.icf
  -- `cached_free_pos` is not the next slot, so it is at least two slots away
  have hm2 : 2 ≤ m := by
    have : m ≠ 1 := fun e => hcf (((fwd_eq_nxt hia hm1 (Nat.le_trans hmc hcC)).mpr e).symm.trans hcfm.symm)
    omega
  have hc2 : 2 ≤ c := Nat.le_trans hm2 hmc
  refine ⟨d.cap, d.dbl, d.spn, d.own_upd (by rw [hbp]; nofun) hl', d.big_upd hbl l, ?_, (by show c - 1 ≤ s.cap; omega), nxt_lt hia,
    d.fi.trans (fwd_nxt hc2 hcC), ⟨m - 1, by omega, by omega, hcfm.trans (fwd_nxt hm2 (Nat.le_trans hmc hcC))⟩,
    fun j hj hv => ?_, fun j j' hj hj' hv hv' e => ?_⟩
  · have := d.cnt_upd l hbl
    rw [if_pos hbp, if_neg hl] at this
    exact Nat.sub_eq_of_eq_add this.symm
  · obtain ⟨hv', hne⟩ := valid_nxt d.pos hcC hv
    obtain ⟨e1, e2⟩ := d.vl j hj hv'
    have : s.ptrs j ≠ s.ptrs s.allocIdx := fun e => hne (d.inj j s.allocIdx hj hia hv' d.ai_valid e)
    show upd s.loc _ l (s.ptrs j) = .pool ∧ _
    rw [upd_other _ _ _ _ this]; exact ⟨e1, e2⟩
  · exact d.inj j j' hj hj' (valid_nxt d.pos hcC hv).1 (valid_nxt d.pos hcC hv').1 e

/-- step `fWrPtr` -/
theorem store (d : DataC k c s) (hc : c < s.cap) (b : Nat) :
    DataC k c { s with ptrs := upd s.ptrs s.freeIdx b } := by
  have hinv := d.fi_invalid hc
  have other : ∀ j, valid s.cap s.allocIdx c j → upd s.ptrs s.freeIdx b j = s.ptrs j :=
    fun j hv => upd_other _ _ _ _ fun e => hinv (e ▸ hv)
  refine ⟨d.cap, d.dbl, d.spn, d.own, d.big, d.cnt, d.le, d.ia, d.fi, d.icf, fun j hj hv => ?_,
    fun j j' hj hj' hv hv' => ?_⟩
  · show s.loc (upd s.ptrs s.freeIdx b j) = .pool ∧ upd s.ptrs s.freeIdx b j < s.cap
    rw [other j hv]; exact d.vl j hj hv
  · show upd s.ptrs s.freeIdx b j = upd s.ptrs s.freeIdx b j' → j = j'
    rw [other j hv, other j' hv']; exact d.inj j j' hj hj' hv hv'

/-- step `fStFi` -/
theorem publish (d : DataC k c s) {b : Nat} (hb : s.loc b ≠ .pool) (hb' : s.loc b ≠ .client)
    (hptr : s.ptrs s.freeIdx = b) :
    DataC k (c + 1) { s with loc := upd s.loc b .pool, freeIdx := nxt s.cap s.freeIdx } := by
  obtain ⟨hbl, hcl⟩ := d.out_lt hb
  have hia := d.ia
  refine ⟨d.cap, d.dbl, d.spn, d.own_upd hb' nofun, d.big_upd hbl .pool, ?_, (by show c + 1 ≤ s.cap; omega), hia,
    (congrArg (nxt s.cap) d.fi).trans (nxt_fwd hia hcl),
    d.icf.imp fun _ h => ⟨h.1, Nat.le_succ_of_le h.2.1, h.2.2⟩, fun j hj hv => ?_,
    fun j j' hj hj' hv hv' e => ?_⟩
  · have := d.cnt_upd .pool hbl
    rw [if_neg hb, if_pos rfl] at this
    exact this.symm
  · show upd s.loc b .pool (s.ptrs j) = .pool ∧ _
    rcases d.valid_succ hj hv with hv' | rfl
    · obtain ⟨e1, e2⟩ := d.vl j hj hv'
      exact ⟨upd_intro (Q := (· = Loc.pool)) (fun _ => rfl) fun _ => e1, e2⟩
    · rw [hptr, upd_same]; exact ⟨rfl, hbl⟩
  · have e : s.ptrs j = s.ptrs j' := e
    -- the slots valid so far hold blocks in the pool, `b` is not
    have key : ∀ i, i < s.cap → valid s.cap s.allocIdx c i → s.ptrs i ≠ b :=
      fun i hi hvi h => hb (h ▸ (d.vl i hi hvi).1)
    rcases d.valid_succ hj hv with e1 | e1 <;>
      rcases d.valid_succ hj' hv' with e2 | e2
    · exact d.inj j j' hj hj' e1 e2 e
    · subst e2; rw [hptr] at e; exact absurd e (key j hj e1)
    · subst e1; rw [hptr] at e; exact absurd e.symm (key j' hj' e2)
    · rw [e1, e2]

end DataC

theorem Knows.frame {c c' : Nat} {s s' : St} {p : Pc} (h : Knows c s p) (hcap : s'.cap = s.cap)
    (hA : inA p = true → s'.allocIdx = s.allocIdx ∧ s'.cachedFree = s.cachedFree ∧
      s'.ptrs s.allocIdx = s.ptrs s.allocIdx ∧ c ≤ c')
    (hF : inF p = true → s'.freeIdx = s.freeIdx ∧ s'.ptrs s.freeIdx = s.ptrs s.freeIdx) :
    Knows c' s' p := by
  cases p with
  | aRdCf x | aLdFi x | aRdPtr x | aWrIdx x b =>
    obtain ⟨e1, e2, e3, -⟩ := hA rfl
    simp only [Knows, hcap, e1, e2, e3] at h ⊢
    exact h
  | aWrCf x f0 n =>
    obtain ⟨e1, -, -, e4⟩ := hA rfl
    simp only [Knows, hcap, e1] at h ⊢
    exact ⟨h.1, h.2.1, Nat.le_trans h.2.2.1 e4, h.2.2.2⟩
  | aRdCf2 x seen =>
    obtain ⟨e1, e2, -, e4⟩ := hA rfl
    cases seen <;> simp only [Knows, hcap, e1, e2] at h ⊢
    · exact h
    · exact ⟨h.1, h.2.1, Nat.le_trans h.2.2.1 e4, h.2.2.2⟩
  | fWrPtr b f0 | fRdFi2 b | fStFi b v =>
    obtain ⟨e1, e2⟩ := hF rfl
    simp only [Knows, hcap, e1, e2] at h ⊢
    exact h
  | _ => trivial

/-- One thread steps from `p0` to `q`. The other threads keep what they know: either the stepping
thread is inside the lock that guards a variable (so they are not) or the step leaves it alone. -/
theorem PcC.step {c c' : Nat} {s s' : St} {t : Nat} {p0 q : Pc} (p : PcC c s) (l : Locks s.alock s.flock s.pc)
    (hpc : s.pc t = p0) (hpc' : s'.pc = upd s.pc t q) (hcap : s'.cap = s.cap)
    (ow : Owns claim owner (upd s.pc t q) s'.loc)
    (hA : inA p0 = true ∨ (s'.allocIdx = s.allocIdx ∧ s'.cachedFree = s.cachedFree ∧
      s'.ptrs s.allocIdx = s.ptrs s.allocIdx ∧ c ≤ c'))
    (hF : inF p0 = true ∨ (s'.freeIdx = s.freeIdx ∧ s'.ptrs s.freeIdx = s.ptrs s.freeIdx))
    (hq : Knows c' s' q) : PcC c' s' := by
  subst hpc
  exact ⟨hpc' ▸ ow, hpc' ▸ upd_forall (P := fun _ p => Knows c' s' p)
    (fun t' e => (p.kn t').frame hcap (fun h => hA.resolve_left fun h' => e (l.ma.excl t' t h h'))
      (fun h => hF.resolve_left fun h' => e (l.mf.excl t' t h h'))) hq⟩

theorem PcC.at {c : Nat} {s : St} {t : Nat} {p0 : Pc} (p : PcC c s) (hpc : s.pc t = p0) : Knows c s p0 :=
  hpc ▸ p.kn t

theorem PcC.held {c : Nat} {s : St} {t b : Nat} {p0 : Pc} {l : Loc} (p : PcC c s) (hpc : s.pc t = p0)
    (h : claim t p0 = some (b, l)) : s.loc b = l ∧ s.loc b ≠ .pool ∧ s.loc b ≠ .client := by
  have hl := p.ow.fwd t b l (hpc ▸ h)
  have := claim_owner t p0 b l h
  rw [hl]
  cases l <;> cases this <;> exact ⟨rfl, nofun, nofun⟩

end MgProof.C05.Ts
