import MgProof.C05.SowrInv
/-! The invariant of the sowr-pool model holds in every reachable state. -/
namespace MgProof.C05.Sowr
open MgModel.Conc MgModel.C05 MgModel.C05.Sowr

theorem legal_of_allocOk {s : St} {t : Nat} {rest : List Op} {evs : List String}
    (h : Legal (allocOk s t rest evs).1) : Legal s := by
  obtain ⟨_, _, e⟩ := allocDone_some s.g t (s.pub t) (ringIdx s.allocIdx s.cap)
  have h' : (allocDone s.g t (s.pub t) (some (ringIdx s.allocIdx s.cap))).1.illegal = 0 ∧ s.misuse = 0 := h
  rw [e] at h'
  exact h'

namespace Core
variable {k rc : Nat} {s : St} {t : Nat}

theorem others {s' : St} (c : Core k rc s) (ht : t = s.freeTid) (h : s'.allocTid = s.allocTid) {t' : Nat}
    (e : t' ≠ t) : Knows s' t' (s.pc t') := by
  have hk := c.kn t'
  cases hp : s.pc t' with
  | sSt b sb => rw [hp] at hk; exact absurd (hk.1.trans ht.symm) e
  | sLd => rw [hp] at hk; exact hk.trans h.symm
  | _ => trivial

theorem recache (c : Core k rc s) (cf : Nat) (hcf : cf = ringIdx ((s.freeIdx + u32 - 1) % u32) s.cap) :
    Core k s.nRet { s with cachedFree := cf } := by
  obtain ⟨hw1, -, hw3⟩ := c.win
  exact ⟨c.cap, c.dbl, c.spn, c.pos, c.own, ⟨Nat.le_refl _, hcf.trans c.pred_fi, by show s.g.nextSerial ≤ s.nRet + s.cap - 1; omega⟩, c.rn, c.fi, c.kn⟩

theorem freeBegin {b m : Nat} (c : Core k rc s) (ht : t = s.freeTid) (hob : s.g.owned b = true) :
    Core k rc { s with g := (freeBegin true s.g t b).1, pc := upd s.pc t (.sSt b (s.g.serial b)), misuse := m } := by
  obtain ⟨_, _, e⟩ := freeBegin_true (t := t) hob
  rw [e]
  obtain ⟨b1, b2, b3, b4⟩ := c.own b hob
  -- the blocks still owned were owned before and are younger than `b`
  have still : ∀ i, (s.g.owned i && !(s.g.owned i && decide (s.g.serial i ≤ s.g.serial b))) = true →
      s.g.owned i = true ∧ s.g.serial b < s.g.serial i := by
    intro i hi
    cases h : s.g.owned i <;> simp [h] at hi ⊢
    exact hi
  refine ⟨c.cap, c.dbl, c.spn, c.pos, fun i hi => c.own i (still i hi).1, c.win, c.rn, c.fi, ?_⟩
  exact upd_forall (fun _ e => c.others ht (by rfl) e) ⟨ht, b1, b2, b3, b4, fun i hi => (still i hi).2⟩

theorem store {b sb : Nat} (c : Core k rc s) (hpc : s.pc t = .sSt b sb) :
    Core k rc { s with freeIdx := b + 1, nRet := max s.nRet (sb + 1), pc := upd s.pc t (nextPc (s.prog t)) } := by
  obtain ⟨ht, hb, hsb, hn, hN, hyoung⟩ := c.at hpc
  obtain ⟨hw1, hw2, hw3⟩ := c.win
  rw [show max s.nRet (sb + 1) = sb + 1 by omega]
  refine ⟨c.cap, c.dbl, c.spn, c.pos, fun b' hb' => ?_, ⟨by show rc ≤ sb + 1; omega, hw2, hw3⟩, hN, ?_, ?_⟩
  · obtain ⟨h1, h2, -, h4⟩ := c.own b' hb'
    exact ⟨h1, h2, hyoung b' hb', h4⟩
  · exact Nat.add_mod_eq_add_mod_right 1 ((Nat.mod_eq_of_lt hb).trans hsb.symm)
  · exact upd_forall (fun _ e => c.others ht (by rfl) e) (nextPc_out ..)

end Core

theorem step_inv {k : Nat} {s s' : St} {tok : Tok} {ev : List String} (inv : Inv k s)
    (hs : step s tok = some (s', ev)) : Inv k s' := by
  unfold step at hs
  simp only [] at hs  -- the `let`s of `step`
  split at hs
  · cases hs
  split at hs
  · cases hs
  next hpc =>  -- idle
    split at hs
    · cases hs
    next op rest _ =>
    have bi := beginOp_illegal s.g tok.tid s.cap op
    split at hs
    · cases hs
      intro hl
      obtain ⟨rc, c⟩ := inv ⟨bi.symm.trans hl.1, hl.2⟩
      exact ⟨rc, (c.begin tok.tid op _ _ _).move (nextPc_out ..)⟩
    · split at hs
      · -- fast path: the position differs from the cached free position
        next hne =>
        injection hs with hs
        obtain rfl : (allocOk _ tok.tid rest _).1 = s' := congrArg Prod.fst hs
        intro hl
        have hl := legal_of_allocOk hl
        obtain ⟨rc, c⟩ := inv ⟨bi.symm.trans hl.1, (monitor_zero hl.2).2⟩
        exact ⟨rc, (c.begin tok.tid op _ _ _).allocOk hne⟩
      · -- slow path: go and load `free_idx`
        cases hs
        intro hl
        obtain ⟨hat, hm⟩ := monitor_zero hl.2
        obtain ⟨rc, c⟩ := inv ⟨bi.symm.trans hl.1, hm⟩
        exact ⟨rc, (c.begin tok.tid op _ _ _).move hat⟩
    · cases hs
      intro hl
      obtain ⟨ho, hi0⟩ := freeBegin_legal hl.1
      obtain ⟨hft, hm⟩ := monitor_zero hl.2
      obtain ⟨rc, c⟩ := inv ⟨bi.symm.trans hi0, hm⟩
      exact ⟨rc, (c.begin tok.tid op _ s.pub s.misuse).freeBegin hft ho⟩
  next hpc =>  -- sLd
    split at hs
    · -- the block at the allocation position is free
      next hne =>
      injection hs with hs
      obtain rfl : (allocOk _ tok.tid _ _).1 = s' := congrArg Prod.fst hs
      intro hl
      have hl := legal_of_allocOk hl
      -- not `inv hl`: comparing the two states would make the kernel evaluate `cached_free_pos`
      obtain ⟨rc, c⟩ := inv ⟨hl.1, hl.2⟩
      exact ⟨_, (c.recache _ rfl).allocOk hne⟩
    next heq =>
      have heq := Decidable.of_not_not heq
      split at hs <;> cases hs <;> intro hl <;> obtain ⟨rc, c⟩ := inv hl
      · -- NULL with `cap - 1` blocks outstanding
        exact ⟨_, (c.recache _ rfl).move (nextPc_out ..)⟩
      next hcond =>
        -- NULL with fewer blocks outstanding: impossible
        refine absurd (.inl ?_) hcond
        obtain ⟨hw1, -, hw3⟩ := c.win
        have r3' : s.g.nextSerial ≤ s.nRet + s.cap - 1 := by omega
        have hpos := c.cap_pos
        have hrn := c.rn
        have := Nat.mod_inj_of_lt_add (n := s.cap) (by rw [← c.pos_ringIdx, heq, c.pred_fi]) r3' (by omega)
        omega
  next b sb hpc =>  -- sSt
    cases hs
    exact fun hl => let ⟨rc, c⟩ := inv hl; ⟨rc, c.store hpc⟩

theorem init_inv (k base n : Nat) (progs : List (List Op)) (hk : k ≤ 32) (hb : 2 ^ k ∣ base) :
    Inv k (mkInit (2 ^ k) base n progs) := by
  intro _
  have hpos : 1 ≤ 2 ^ k := Nat.one_le_two_pow
  refine ⟨0, ⟨rfl, hk⟩, rfl, rfl, ?_, nofun, ⟨Nat.le_refl _, ?_, ?_⟩, Nat.le_refl _, rfl,
    fun t => nextPc_out ..⟩
  · show (base % u32) % 2 ^ k = 0 % 2 ^ k
    rw [Nat.mod_mod_of_dvd _ (pow_dvd_u32 hk), Nat.zero_mod]
    exact Nat.mod_eq_zero_of_dvd hb
  · show 2 ^ k - 1 = (0 + 2 ^ k - 1) % 2 ^ k
    rw [Nat.zero_add]; exact (Nat.mod_eq_of_lt (by omega)).symm
  · show 0 ≤ 0 + 2 ^ k - 1; omega

theorem reach_inv {k base n : Nat} {progs : List (List Op)} (hk : k ≤ 32) (hb : 2 ^ k ∣ base) {s : St}
    (hr : Reach step (mkInit (2 ^ k) base n progs) s) : Inv k s :=
  Reach.inv (Inv k) (init_inv k base n progs hk hb) (fun _ _ _ _ inv hs => step_inv inv hs) s hr

end MgProof.C05.Sowr
