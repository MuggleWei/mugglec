import MgModel.C17.Size
/-!
# C17 — lemmas for the size-rotating handler

The directory refines a segment history that never forgets a segment (`Rel`); the property theorems
are then facts about `specRun`. All index arithmetic is in the rename loop and `rotate_bak`; every call
reaches `rotate` through `rotIf`.
-/
namespace MgProof.C17
open MgModel.C17
variable {α : Type}

/-- with one configuration `k` can be the number of backups kept, `max(backup_count,1)` -/
def Keeps (k : Nat) : List (Op α) → Prop
  | [] => True
  | .init _ bc :: ops => k ≤ eff bc ∧ Keeps k ops
  | _ :: ops => Keeps k ops

def AtMost (K : Nat) : List (Op α) → Prop
  | [] => True
  | .init _ bc :: ops => eff bc ≤ K ∧ AtMost K ops
  | _ :: ops => AtMost K ops

def LowLimit (M : Nat) : List (Op α) → Prop
  | [] => True
  | .init mb _ :: ops => M ≤ mb ∧ LowLimit M ops
  | _ :: ops => LowLimit M ops

def PosLimit : List (Op α) → Prop
  | [] => True
  | .init mb _ :: ops => 1 ≤ mb ∧ PosLimit ops
  | _ :: ops => PosLimit ops

theorem bget_pad (b : Bak α) (n j : Nat) : bget (b ++ List.replicate n none) j = bget b j := by
  unfold bget
  simp only [List.getD_eq_getElem?_getD, List.getElem?_append, List.getElem?_replicate]
  split
  · rfl
  · rw [List.getElem?_eq_none (by omega)]; split <;> rfl

theorem bget_bset (b : Bak α) (i j : Nat) (v : Option (List α)) :
    bget (bset b i v) j = if j = i then v else bget b j := by
  unfold bset
  split
  · next h =>
    simp only [bget, List.getD_eq_getElem?_getD, List.getElem?_set]
    split
    · next e => rw [if_pos e.symm]; rfl
    · next e => rw [if_neg (Ne.symm e)]
  · -- the padded table has length `i` and the same lookups as `b`
    have hl : (b ++ List.replicate (i - b.length) none).length = i := by
      rw [List.length_append, List.length_replicate]; omega
    rw [← bget_pad b (i - b.length) j]
    generalize b ++ List.replicate (i - b.length) none = c at hl
    subst hl
    simp only [bget, List.getD_eq_getElem?_getD]
    rcases Nat.lt_trichotomy j c.length with l | rfl | l
    · rw [List.getElem?_append_left l, if_neg (Nat.ne_of_lt l)]
    · rw [List.getElem?_concat_length, if_pos rfl]; rfl
    · rw [List.getElem?_eq_none (by rw [List.length_append]; exact l),
        List.getElem?_eq_none (Nat.le_of_lt l), if_neg (Nat.ne_of_gt l)]

theorem bget_remove (b : Bak α) (i j : Nat) :
    bget (osRemoveIfExists b i) j = if j = i then none else bget b j := by
  unfold osRemoveIfExists
  split
  · exact bget_bset ..
  · next h =>
    split
    · next e => rw [e]; simpa using h
    · rfl

/-- onto a missing target `rename` is an exchange, also when the source is missing and it fails -/
theorem bget_rename (b : Bak α) (i j k : Nat) (hj : bget b j = none) :
    bget (osRename b i j) k = if k = j then bget b i else if k = i then none else bget b k := by
  unfold osRename
  cases h : bget b i with
  | none =>
    show bget b k = _
    split
    · next e => rw [e, hj]
    · split
      · next e => rw [e, h]
      · rfl
  | some c => simp only [bget_bset]

/-- the gap at `path.(i+1)` travels down to `path.1` -/
theorem bget_renameLoop : ∀ (i : Nat) (b : Bak α) (j : Nat), bget b (i + 1) = none →
    bget (renameLoop i b) (j + 1) =
      if j = 0 then none else if j ≤ i then bget b j else bget b (j + 1) := by
  intro i
  induction i with
  | zero =>
    intro b j hb
    show bget b (j + 1) = _
    split
    · next e => rw [e, hb]
    · rw [if_neg (by omega)]
  | succ i ih =>
    intro b j hb
    have hr := fun k => bget_rename b (i + 1) (i + 2) k hb
    show bget (renameLoop i (osRename b (i + 1) (i + 2))) (j + 1) = _
    rw [ih _ j (by rw [hr, if_neg (by omega), if_pos rfl])]
    by_cases h0 : j = 0
    · rw [if_pos h0, if_pos h0]
    · rw [if_neg h0, if_neg h0, hr, hr]
      by_cases h1 : j ≤ i
      · rw [if_pos h1, if_neg (by omega), if_neg (by omega), if_pos (by omega)]
      · rw [if_neg h1]
        by_cases h2 : j = i + 1
        · rw [if_pos (by omega), if_pos (by omega), h2]
        · rw [if_neg (by omega), if_neg (by omega), if_neg (by omega)]

theorem eff_pos (n : Nat) : 1 ≤ eff n := Nat.le_max_right ..

/-- `path.0` is outside the chain; with `backup_count = 0` it is the file removed first -/
theorem rotate_bak (h : RH) (fs : FS α) (c : List α) (hl : fs.live = some c) (j : Nat) :
    bget (rotate h fs).2.bak (j + 1) =
      if j = 0 then some c else if j < eff h.backupCount then bget fs.bak j
      else bget fs.bak (j + 1) := by
  -- `Nat.add_eq_right` decides `j + 1 = 1`, the index `rename(path, path.1)` writes
  simp only [rotate, hl, bget_bset, Nat.add_eq_right]
  split
  · rfl
  · next h0 =>
    cases h.backupCount with
    | zero =>
      have : ¬ j < 1 := by omega
      show bget (osRemoveIfExists fs.bak 0) (j + 1) = _
      rw [bget_remove, if_neg (Nat.succ_ne_zero j), eff, Nat.max_eq_right (Nat.zero_le 1),
        if_neg this]
    | succ m =>
      -- `remove path.(m+1)` makes the gap the loop needs
      have hb : bget (osRemoveIfExists fs.bak (m + 1)) (m + 1) = none := by
        rw [bget_remove, if_pos rfl]
      rw [Nat.add_sub_cancel, bget_renameLoop _ _ _ hb, if_neg h0, bget_remove, bget_remove,
        eff, Nat.max_eq_left (Nat.le_add_left 1 m)]
      by_cases h1 : j ≤ m
      · rw [if_pos h1, if_pos (Nat.lt_succ_of_le h1), if_neg (by omega)]
      · rw [if_neg h1, if_neg (by omega), if_neg (by omega)]

theorem rotate_untouched (h : RH) (fs : FS α) (j : Nat) (hl : fs.live.isSome)
    (hj : eff h.backupCount < j) : bget (rotate h fs).2.bak j = bget fs.bak j := by
  obtain ⟨c, hc⟩ := Option.isSome_iff_exists.mp hl
  obtain ⟨j, rfl⟩ := Nat.exists_eq_add_one.mpr (Nat.zero_lt_of_lt hj)
  have := eff_pos h.backupCount
  rw [rotate_bak _ _ c hc, if_neg (by omega), if_neg (by omega)]

/-- the common tail of `init` and `write` -/
def rotIf (s : St α) : St α :=
  if s.h.offset ≥ s.h.maxBytes then ⟨(rotate s.h s.fs).1, (rotate s.h s.fs).2⟩ else s

theorem step_init (len : α → Nat) (s : St α) (mb bc : Nat) :
    step len s (.init mb bc) =
      rotIf ⟨{ isOpen := true, offset := fsize len (cont s.fs.live), maxBytes := mb, backupCount := bc },
        { s.fs with live := some (cont s.fs.live) }⟩ := by
  simp only [step, init, rotIf]; split <;> rfl

theorem step_write (len : α → Nat) (s : St α) (l : α) :
    step len s (.write l) =
      if s.h.isOpen then
        rotIf ⟨{ s.h with offset := s.h.offset + len l },
          { s.fs with live := some (cont s.fs.live ++ [l]) }⟩
      else s := by
  simp only [step, write, rotIf]; split
  · split <;> rfl
  · rfl

@[simp] theorem seg_cons_zero (a : List α) (S : List (List α)) : seg (a :: S) 0 = a := rfl
@[simp] theorem seg_cons_succ (a : List α) (S : List (List α)) (j : Nat) :
    seg (a :: S) (j + 1) = seg S j := by simp [seg]
theorem seg_drop_one (S : List (List α)) (j : Nat) : seg (S.drop 1) j = seg S (j + 1) := by
  cases S <;> simp [seg]

theorem fsize_concat (len : α → Nat) (c : List α) (l : α) :
    fsize len (c ++ [l]) = fsize len c + len l := by
  simp [fsize]

/-- the directory against the segment history (newest first): the live file is segment 0, `path.j` is
segment `j` for `1 ≤ j ≤ k` (a missing file an empty one); while the handler is open its offset is the
size of the live file, the limits agree and it keeps at least `k` backups -/
structure Rel (len : α → Nat) (k : Nat) (s : St α) (sp : Spec α) : Prop where
  live : cont s.fs.live = seg sp.segs 0
  bak : ∀ j, 1 ≤ j → j ≤ k → cont (bget s.fs.bak j) = seg sp.segs j
  isOpen : s.h.isOpen = sp.isOpen
  whenOpen : s.h.isOpen = true → s.fs.live.isSome ∧ s.h.offset = fsize len (cont s.fs.live) ∧
    s.h.maxBytes = sp.maxBytes ∧ k ≤ eff s.h.backupCount

theorem rel_rotate {len : α → Nat} {k : Nat} {s : St α} {sp : Spec α} (r : Rel len k s sp)
    (ho : s.h.isOpen = true) :
    Rel len k ⟨(rotate s.h s.fs).1, (rotate s.h s.fs).2⟩ { sp with segs := [] :: sp.segs } := by
  obtain ⟨hl, _, hm, hk⟩ := r.whenOpen ho
  obtain ⟨c, hc⟩ := Option.isSome_iff_exists.mp hl
  refine ⟨rfl, fun j hj1 hjk => ?_, ho.symm.trans r.isOpen, fun _ => ⟨rfl, rfl, hm, hk⟩⟩
  obtain ⟨j, rfl⟩ := Nat.exists_eq_add_one.mpr hj1
  rw [rotate_bak _ _ c hc, seg_cons_succ]
  split
  · next h0 => rw [h0, ← r.live, hc]
  · next h0 =>
    rw [if_pos (Nat.lt_of_lt_of_le hjk hk)]
    exact r.bak j (Nat.pos_of_ne_zero h0) (Nat.le_of_lt hjk)

/-- model and history take the decision to rotate together -/
theorem rel_rotIf {len : α → Nat} {k : Nat} {s : St α} {sp : Spec α} (r : Rel len k s sp)
    (ho : s.h.isOpen = true) : Rel len k (rotIf s) (specRotateIf len sp) := by
  obtain ⟨_, hoff, hmb, _⟩ := r.whenOpen ho
  have hc : (fsize len (seg sp.segs 0) ≥ sp.maxBytes) = (s.h.offset ≥ s.h.maxBytes) := by
    rw [← r.live, ← hoff, hmb]
  unfold rotIf specRotateIf
  simp only [hc]
  split
  · exact rel_rotate r ho
  · exact r

theorem rel_step {len : α → Nat} {k : Nat} {s : St α} {sp : Spec α} (r : Rel len k s sp)
    {op : Op α} {ops : List (Op α)} (hk : Keeps k (op :: ops)) :
    Rel len k (step len s op) (specStep len sp op) ∧ Keeps k ops := by
  cases op with
  | close => exact ⟨⟨r.live, r.bak, rfl, fun ho => nomatch ho⟩, hk⟩
  | init mb bc =>
    rw [step_init]
    exact ⟨rel_rotIf (sp := { sp with isOpen := true, maxBytes := mb })
      ⟨r.live, r.bak, rfl, fun _ => ⟨rfl, rfl, rfl, hk.1⟩⟩ rfl, hk.2⟩
  | write l =>
    refine ⟨?_, hk⟩
    rw [step_write, specStep, ← r.isOpen]
    split
    · next ho =>
      obtain ⟨_, hoff, hmb, hkeff⟩ := r.whenOpen ho
      refine rel_rotIf ⟨?_, ?_, rfl, fun _ => ⟨rfl, ?_, hmb, hkeff⟩⟩ ho
      · rw [← r.live]; rfl
      · intro j hj1 hjk
        obtain ⟨j, rfl⟩ := Nat.exists_eq_add_one.mpr hj1
        rw [seg_cons_succ, seg_drop_one]; exact r.bak _ hj1 hjk
      · show s.h.offset + len l = fsize len (cont s.fs.live ++ [l])
        rw [fsize_concat, hoff]
    · exact r

theorem rel_run {len : α → Nat} {k : Nat} (ops : List (Op α)) : ∀ {s : St α} {sp : Spec α},
    Rel len k s sp → Keeps k ops → Rel len k (run len s ops) (specRun len sp ops) := by
  induction ops with
  | nil => intro s sp r _; exact r
  | cons op ops ih => intro s sp r hk; exact ih (rel_step r hk).1 (rel_step r hk).2

theorem seg_segsOf (fs : FS α) {k j : Nat} (hj1 : 1 ≤ j) (hjk : j ≤ k) :
    cont (bget fs.bak j) = seg (segsOf fs k) j := by
  obtain ⟨j, rfl⟩ := Nat.exists_eq_add_one.mpr hj1
  rw [segsOf, seg_cons_succ, seg, List.getD_eq_getElem?_getD, List.getElem?_map,
    List.getElem?_range hjk]
  rfl

theorem rel_initial (len : α → Nat) (k : Nat) (h0 : RH) (fs0 : FS α) (hc : h0.isOpen = false)
    (mb0 : Nat) :
    Rel len k ⟨h0, fs0⟩ { segs := segsOf fs0 k, isOpen := false, maxBytes := mb0 } :=
  ⟨rfl, fun _ => seg_segsOf fs0, hc, fun ho => absurd (hc.symm.trans ho) Bool.false_ne_true⟩

theorem specAll_cons (a : List α) (S : List (List α)) : specAll (a :: S) = specAll S ++ a := by
  simp [specAll]

theorem specAll_append (S T : List (List α)) : specAll (S ++ T) = specAll T ++ specAll S := by
  simp [specAll]

theorem specRotateIf_isOpen (len : α → Nat) (sp : Spec α) :
    (specRotateIf len sp).isOpen = sp.isOpen := by
  unfold specRotateIf; split <;> rfl

theorem specRotateIf_maxBytes (len : α → Nat) (sp : Spec α) :
    (specRotateIf len sp).maxBytes = sp.maxBytes := by
  unfold specRotateIf; split <;> rfl

theorem specRotateIf_segs (len : α → Nat) (sp : Spec α) :
    (specRotateIf len sp).segs = sp.segs ∨
    ((specRotateIf len sp).segs = [] :: sp.segs ∧ sp.maxBytes ≤ fsize len (seg sp.segs 0)) := by
  unfold specRotateIf; split
  · next h => exact Or.inr ⟨rfl, h⟩
  · exact Or.inl rfl

theorem specAll_rotateIf (len : α → Nat) (sp : Spec α) :
    specAll (specRotateIf len sp).segs = specAll sp.segs := by
  rcases specRotateIf_segs len sp with e | ⟨e, _⟩ <;> rw [e]
  rw [specAll_cons, List.append_nil]

theorem specAll_head (S : List (List α)) : specAll S = specAll (S.drop 1) ++ seg S 0 := by
  cases S with
  | nil => rfl
  | cons a t => exact specAll_cons a t

theorem specAll_run (len : α → Nat) (ops : List (Op α)) : ∀ (sp : Spec α),
    specAll (specRun len sp ops).segs = specAll sp.segs ++ written sp.isOpen ops := by
  induction ops with
  | nil => intro sp; exact (List.append_nil _).symm
  | cons op ops ih =>
    intro sp
    refine (ih _).trans ?_
    cases op with
    | init mb bc =>
      show specAll (specRotateIf len _).segs ++ written (specRotateIf len _).isOpen ops = _
      rw [specAll_rotateIf, specRotateIf_isOpen]; rfl
    | close => rfl
    | write l =>
      rw [specStep]
      split
      · next ho =>
        rw [specAll_rotateIf, specRotateIf_isOpen, specAll_cons, specAll_head sp.segs, ho]
        simp only [List.append_assoc]; rfl
      · next ho => rw [show sp.isOpen = false from Bool.not_eq_true _ ▸ ho]; rfl

theorem specRotateIf_head (len : α → Nat) {sp : Spec α} {a : List α} {T : List (List α)}
    (h : sp.segs = a :: T) (ho : sp.isOpen = true) :
    (specRotateIf len sp).segs = a :: T ∨
      ((specRotateIf len sp).segs = [] :: a :: T ∧ (specRotateIf len sp).isOpen = true ∧
        (specRotateIf len sp).maxBytes ≤ fsize len a) := by
  rw [specRotateIf_isOpen, specRotateIf_maxBytes]
  rcases specRotateIf_segs len sp with e | ⟨e, hge⟩
  · exact Or.inl (e.trans h)
  · exact Or.inr ⟨by rw [e, h], ho, by rwa [h] at hge⟩

/-- one call changes the head segment only and may then, at the limit, push an empty head -/
theorem specStep_head (len : α → Nat) {sp : Spec α} {a : List α} {T : List (List α)}
    (h : sp.segs = a :: T) (op : Op α) :
    ∃ a', (specStep len sp op).segs = a' :: T ∨
      ((specStep len sp op).segs = [] :: a' :: T ∧ (specStep len sp op).isOpen = true ∧
        (specStep len sp op).maxBytes ≤ fsize len a') := by
  cases op with
  | close => exact ⟨a, Or.inl h⟩
  | init mb bc =>
    exact ⟨a, specRotateIf_head len (sp := { sp with isOpen := true, maxBytes := mb }) h rfl⟩
  | write l =>
    rw [specStep]
    split
    · next ho => exact ⟨seg sp.segs 0 ++ [l], specRotateIf_head len (by rw [h]; rfl) ho⟩
    · exact ⟨a, Or.inl h⟩

/-- for `specView_few_rotations`, which wants the shape of the history only -/
theorem lowLimit_zero : ∀ ops : List (Op α), LowLimit 0 ops
  | [] => trivial
  | .init .. :: ops => ⟨Nat.zero_le _, lowLimit_zero ops⟩
  | .write _ :: ops => lowLimit_zero ops
  | .close :: ops => lowLimit_zero ops

theorem lowLimit_step (len : α → Nat) {M : Nat} {sp : Spec α} {op : Op α} {ops : List (Op α)}
    (hm : sp.isOpen = true → M ≤ sp.maxBytes) (hl : LowLimit M (op :: ops)) :
    ((specStep len sp op).isOpen = true → M ≤ (specStep len sp op).maxBytes) ∧ LowLimit M ops := by
  cases op with
  | close => exact ⟨fun ho => (nomatch ho), hl⟩
  | init mb bc =>
    refine ⟨fun _ => ?_, hl.2⟩
    show M ≤ (specRotateIf len _).maxBytes
    rw [specRotateIf_maxBytes]; exact hl.1
  | write l =>
    refine ⟨?_, hl⟩
    rw [specStep]
    split
    · rw [specRotateIf_isOpen, specRotateIf_maxBytes]; exact hm
    · exact hm

/-- a run extends the history at its head only, and each segment it closes had reached the limit -/
theorem specRun_extends (len : α → Nat) (M : Nat) (ops : List (Op α)) : ∀ (sp : Spec α)
    (a : List α) (T : List (List α)), sp.segs = a :: T → (sp.isOpen = true → M ≤ sp.maxBytes) →
    LowLimit M ops →
    ∃ n ns, (specRun len sp ops).segs = n :: (ns ++ T) ∧ ∀ x ∈ ns, M ≤ fsize len x := by
  induction ops with
  | nil => intro sp a T h _ _; exact ⟨a, [], h, fun _ hx => (List.not_mem_nil hx).elim⟩
  | cons op ops ih =>
    intro sp a T h hm hl
    obtain ⟨a', hs⟩ := specStep_head len h op
    obtain ⟨hm', hl'⟩ := lowLimit_step len hm hl
    rcases hs with hs | ⟨hs, ho', hge⟩
    · exact ih _ a' T hs hm' hl'
    · obtain ⟨n, ns, h1, h3⟩ := ih _ [] (a' :: T) hs hm' hl'
      refine ⟨n, ns ++ [a'], h1.trans (by rw [List.append_assoc]; rfl), fun x hx => ?_⟩
      rcases List.mem_append.mp hx with hx | hx
      · exact h3 x hx
      · rw [List.mem_singleton.mp hx]; exact Nat.le_trans (hm' ho') hge

theorem rotations_eq {len : α → Nat} {ops : List (Op α)} {sp : Spec α} {a n : List α}
    {T ns : List (List α)} (h : sp.segs = a :: T)
    (h1 : (specRun len sp ops).segs = n :: (ns ++ T)) : rotations len sp ops = ns.length := by
  rw [rotations, h1, h]; simp

/-- by `specAll_run`, as `T` is still there -/
theorem specAll_added {len : α → Nat} {ops : List (Op α)} {sp : Spec α} {a n : List α}
    {T ns : List (List α)} (h : sp.segs = a :: T)
    (h1 : (specRun len sp ops).segs = n :: (ns ++ T)) :
    specAll (n :: ns) = a ++ written sp.isOpen ops := by
  have h2 := specAll_run len ops sp
  rw [h1, h, ← List.cons_append, specAll_append, specAll_cons a T, List.append_assoc] at h2
  exact List.append_cancel_left h2

theorem seg_closed_full (len : α → Nat) (M : Nat) (ops : List (Op α)) (sp : Spec α)
    (a : List α) (T : List (List α)) (h : sp.segs = a :: T)
    (hm : sp.isOpen = true → M ≤ sp.maxBytes) (hl : LowLimit M ops) (j : Nat) (hj1 : 1 ≤ j)
    (hjr : j ≤ rotations len sp ops) :
    M ≤ fsize len (seg (specRun len sp ops).segs j) := by
  obtain ⟨n, ns, h1, h3⟩ := specRun_extends len M ops sp a T h hm hl
  rw [rotations_eq h h1] at hjr
  obtain ⟨j, rfl⟩ := Nat.exists_eq_add_one.mpr hj1
  have hseg : seg (specRun len sp ops).segs (j + 1) = ns[j] := by
    rw [h1, seg_cons_succ, seg, List.getD_eq_getElem?_getD, List.getElem?_append_left hjr,
      List.getElem?_eq_getElem hjr]; rfl
  rw [hseg]
  exact h3 _ (List.getElem_mem _)

theorem posLimit_lowLimit : ∀ {ops : List (Op α)}, PosLimit ops → LowLimit 1 ops
  | [], _ => trivial
  | .init .. :: _, h => ⟨h.1, posLimit_lowLimit h.2⟩
  | .write _ :: ops, h => posLimit_lowLimit (ops := ops) h
  | .close :: ops, h => posLimit_lowLimit (ops := ops) h

theorem getLast?_append_of_ne_nil (l : List α) {l' : List α} (h : l' ≠ []) :
    (l ++ l').getLast? = l'.getLast? := by
  rw [List.getLast?_append, Option.or_of_isSome (List.getLast?_isSome.mpr h)]

/-- the newest line is kept because nothing is forgotten and a closed segment is not empty -/
theorem specRun_newest_line (len : α → Nat) (ops : List (Op α)) (sp : Spec α) (a : List α)
    (T : List (List α)) (h : sp.segs = a :: T) (hm : sp.isOpen = true → 1 ≤ sp.maxBytes)
    (hp : PosLimit ops) (hw : a ++ written sp.isOpen ops ≠ []) :
    (seg (specRun len sp ops).segs 0).getLast? = (a ++ written sp.isOpen ops).getLast? ∨
    (seg (specRun len sp ops).segs 0 = [] ∧
      (seg (specRun len sp ops).segs 1).getLast? = (a ++ written sp.isOpen ops).getLast?) := by
  obtain ⟨n, ns, h1, h3⟩ := specRun_extends len 1 ops sp a T h hm (posLimit_lowLimit hp)
  rw [← specAll_added h h1, specAll_cons] at hw ⊢
  rw [h1, seg_cons_zero, seg_cons_succ]
  by_cases hn : n = []
  · right
    subst hn
    cases ns with
    | nil => exact absurd rfl hw
    | cons m ms =>
      have hne : m ≠ [] := by
        intro e; have := h3 m (List.mem_cons_self ..); simp [e, fsize] at this
      rw [specAll_cons, List.append_nil, getLast?_append_of_ne_nil _ hne]
      exact ⟨rfl, rfl⟩
  · left; rw [getLast?_append_of_ne_nil _ hn]

theorem specView_zero (S : List (List α)) : specView 0 S = seg S 0 := by
  cases S <;> simp [specView, seg]

theorem specView_succ (k : Nat) (S : List (List α)) :
    specView (k + 1) S = seg S (k + 1) ++ specView k S := by
  unfold specView
  rw [List.take_add_one, List.reverse_append, List.flatten_append]
  congr 1
  simp only [seg, List.getD_eq_getElem?_getD]
  cases S[k + 1]? <;> simp

theorem view_succ (k : Nat) (fs : FS α) : view (k + 1) fs = cont (bget fs.bak (k + 1)) ++ view k fs :=
  List.append_assoc ..

theorem view_eq_specView {k : Nat} {fs : FS α} {S : List (List α)} (hl : cont fs.live = seg S 0)
    (hb : ∀ j, 1 ≤ j → j ≤ k → cont (bget fs.bak j) = seg S j) : view k fs = specView k S := by
  have : ∀ n, n ≤ k → view n fs = specView n S := by
    intro n
    induction n with
    | zero => intro _; rw [specView_zero, ← hl]; rfl
    | succ n ih =>
      intro hn
      rw [view_succ, specView_succ, hb _ (Nat.succ_pos n) hn, ih (Nat.le_of_succ_le hn)]
  exact this k (Nat.le_refl k)

theorem Rel.view {len : α → Nat} {k : Nat} {s : St α} {sp : Spec α} (r : Rel len k s sp) :
    view k s.fs = specView k sp.segs :=
  view_eq_specView r.live r.bak

theorem view_segsOf (fs : FS α) (k : Nat) : specAll (segsOf fs k) = view k fs := by
  rw [view_eq_specView rfl fun _ => seg_segsOf fs]
  unfold specView specAll
  rw [List.take_of_length_le (by simp [segsOf])]

theorem specView_split (k : Nat) (S : List (List α)) :
    specAll S = ((S.drop (k + 1)).reverse).flatten ++ specView k S := by
  unfold specAll specView
  rw [← List.flatten_append, ← List.reverse_append, List.take_append_drop]

theorem specView_suffix (k : Nat) (S : List (List α)) : specView k S <:+ specAll S :=
  ⟨_, (specView_split k S).symm⟩

theorem segsOf_tail_take (fs : FS α) (k n : Nat) (hn : n ≤ k) :
    cont fs.live :: ((segsOf fs k).drop 1).take n = segsOf fs n := by
  simp only [segsOf, List.drop_one, List.tail_cons, ← List.map_take, List.take_range]
  rw [Nat.min_eq_left hn]

theorem specView_few_rotations (len : α → Nat) (k : Nat) (fs0 : FS α) (ops : List (Op α))
    (sp : Spec α) (hs : sp.segs = segsOf fs0 k) (ho : sp.isOpen = false)
    (hr : rotations len sp ops ≤ k) :
    specView k (specRun len sp ops).segs
      = view (k - rotations len sp ops) fs0 ++ written false ops := by
  -- the `k+1` segments kept are the new ones `n :: ns` followed by the first `k - |ns|` old
  -- backups, and `view_segsOf` turns those, with the old live file, back into a `view`
  have hs' : sp.segs = cont fs0.live :: (segsOf fs0 k).drop 1 := hs
  obtain ⟨n, ns, h1, _⟩ :=
    specRun_extends len 0 ops sp _ _ hs' (fun _ => Nat.zero_le _) (lowLimit_zero ops)
  have h2 := specAll_added hs' h1
  rw [ho] at h2
  rw [rotations_eq hs' h1] at hr ⊢
  have h4 := view_segsOf fs0 (k - ns.length)
  rw [← segsOf_tail_take fs0 k _ (Nat.sub_le ..), specAll_cons] at h4
  unfold specView
  rw [h1, List.take_succ_cons, List.take_append, List.take_of_length_le hr, ← List.cons_append,
    List.reverse_append, List.flatten_append]
  show _ ++ specAll (n :: ns) = _
  rw [h2, ← h4, specAll, List.append_assoc]

def OffInv (len : α → Nat) (s : St α) : Prop :=
  s.h.isOpen = true → s.h.offset = fsize len (cont s.fs.live) ∧
    1 ≤ s.h.maxBytes ∧ s.h.offset < s.h.maxBytes

theorem offInv_rotIf {len : α → Nat} {s : St α} (hoff : s.h.offset = fsize len (cont s.fs.live))
    (hpos : 1 ≤ s.h.maxBytes) : OffInv len (rotIf s) := by
  unfold rotIf
  split
  · exact fun _ => ⟨rfl, hpos, hpos⟩
  · next hlt => exact fun _ => ⟨hoff, hpos, Nat.lt_of_not_le hlt⟩

theorem offInv_step {len : α → Nat} {s : St α} (inv : OffInv len s) {op : Op α} {ops : List (Op α)}
    (hp : PosLimit (op :: ops)) : OffInv len (step len s op) ∧ PosLimit ops := by
  cases op with
  | close => exact ⟨fun ho => (nomatch ho), hp⟩
  | init mb bc => rw [step_init]; exact ⟨offInv_rotIf rfl hp.1, hp.2⟩
  | write l =>
    refine ⟨?_, hp⟩
    rw [step_write]
    split
    · next ho =>
      obtain ⟨hoff, hpos, _⟩ := inv ho
      refine offInv_rotIf ?_ hpos
      show s.h.offset + len l = fsize len (cont s.fs.live ++ [l])
      rw [fsize_concat, hoff]
    · exact inv

theorem offInv_run {len : α → Nat} (ops : List (Op α)) :
    ∀ {s : St α}, OffInv len s → PosLimit ops → OffInv len (run len s ops) := by
  induction ops with
  | nil => intro s i _; exact i
  | cons op ops ih => intro s i hp; exact ih (offInv_step i hp).1 (offInv_step i hp).2

def Within (K : Nat) (s : St α) : Prop := s.h.isOpen = true → eff s.h.backupCount ≤ K

theorem rotIf_untouched {K j : Nat} (hj : K < j) {s : St α} (hs : s.fs.live.isSome)
    (hK : eff s.h.backupCount ≤ K) :
    bget (rotIf s).fs.bak j = bget s.fs.bak j ∧ Within K (rotIf s) := by
  unfold rotIf
  split
  · exact ⟨rotate_untouched _ _ j hs (Nat.lt_of_le_of_lt hK hj), fun _ => hK⟩
  · exact ⟨rfl, fun _ => hK⟩

theorem untouched_step (len : α → Nat) {K j : Nat} (hj : K < j) {s : St α} (hs : Within K s)
    {op : Op α} {ops : List (Op α)} (ha : AtMost K (op :: ops)) :
    (bget (step len s op).fs.bak j = bget s.fs.bak j ∧ Within K (step len s op)) ∧ AtMost K ops := by
  cases op with
  | close => exact ⟨⟨rfl, fun ho => nomatch ho⟩, ha⟩
  | init mb bc => rw [step_init]; exact ⟨rotIf_untouched hj rfl ha.1, ha.2⟩
  | write l =>
    refine ⟨?_, ha⟩
    rw [step_write]
    split
    · next ho => exact rotIf_untouched hj rfl (hs ho)
    · exact ⟨rfl, hs⟩

theorem untouched_run (len : α → Nat) (K j : Nat) (hj : K < j) (ops : List (Op α)) :
    ∀ (s : St α), Within K s → AtMost K ops → bget (run len s ops).fs.bak j = bget s.fs.bak j := by
  induction ops with
  | nil => intro s _ _; rfl
  | cons op ops ih =>
    intro s hs ha
    obtain ⟨⟨h1, h2⟩, h3⟩ := untouched_step len hj hs ha
    exact (ih _ h2 h3).trans h1

end MgProof.C17
