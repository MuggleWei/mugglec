import MgModel.C17.Time
/-!
# C17 — lemmas for the time-rotating handler (fixed order: detect, rotate, write)

The invariant `TInv` says that the open file is named for the period of `last_sec`; hence one
`write` files its line correctly (`twrite_spec`) and so do whole histories, record by record
under the configuration in force (`trun_filed_cfg`).
-/
namespace MgProof.C17
open MgModel.C17
variable {β : Type}

/-- `lo` is an upper bound of `last_sec` (the newest effective time seen so far); the third clause
of `cur` is what `time_file_name_is_truncated_timestamp` needs -/
structure TInv (toTm : Bool → Int → Tm) (s : TSt β) (lo : Int) : Prop where
  cur : ∀ n, s.h.cur = some n → n.unit = s.h.unit ∧
    periodOf s.h.unit s.h.mod n.tm = periodOf s.h.unit s.h.mod s.h.lastTm ∧
    nameOf s.h.unit n.tm = n
  tm : s.h.cur.isSome → s.h.lastTm = toTm s.h.useLocal s.h.lastSec ∧ 1 ≤ s.h.mod ∧ s.h.lastSec ≤ lo

/-- the bound restarts at the clock of each init; writes to a closed handler count too (more than
the code needs), and the first bound is arbitrary -/
def Timely : Int → List (TOp β) → Prop
  | _, [] => True
  | _, .init c _ m _ :: ops => 1 ≤ m ∧ Timely c ops
  | lo, .write c ts _ :: ops => lo ≤ effSec c ts ∧ Timely (effSec c ts) ops
  | lo, .close :: ops => Timely lo ops

def CfgConst (u : RotUnit) (m : Nat) (loc : Bool) : List (TOp β) → Prop
  | [] => True
  | .init _ u' m' loc' :: ops => (u' = u ∧ m' = m ∧ loc' = loc) ∧ CfgConst u m loc ops
  | _ :: ops => CfgConst u m loc ops

structure Cfg where
  unit : RotUnit
  mod  : Nat
  loc  : Bool

/-- the lines accepted by the handler, each with the configuration in force -/
def twrittenCfg : Option Cfg → List (TOp β) → List (β × Cfg)
  | _, [] => []
  | _, .init _ u m loc :: ops => twrittenCfg (some ⟨u, m, loc⟩) ops
  | some c, .write _ _ l :: ops => (l, c) :: twrittenCfg (some c) ops
  | none, .write _ _ _ :: ops => twrittenCfg none ops
  | _, .close :: ops => twrittenCfg none ops

def FiledAs (toTm : Bool → Int → Tm) : List (Rec β) → List (β × Cfg) → Prop
  | [], [] => True
  | r :: rs, p :: ps =>
    (r.line = p.1 ∧ Filed toTm p.2.unit p.2.mod p.2.loc r) ∧ FiledAs toTm rs ps
  | _, _ => False

/-- the `switch` of `detect` asks for a rotation exactly when the period changes -/
theorem needRot_eq_false_iff (u : RotUnit) (m : Nat) (c l : Tm) :
    needRot u m c l = false ↔ periodOf u m c = periodOf u m l := by
  -- `Bool.or_eq_false_iff` and `bne_eq_false_iff_eq` turn the `||` of `!=` into the equations
  cases u <;>
    simp only [needRot, periodOf, Bool.or_eq_false_iff, bne_eq_false_iff_eq, Period.mk.injEq,
      and_true, and_assoc] <;>
    constructor <;> intro h <;> simp only [h, and_self]

theorem periodOf_nameOf (u : RotUnit) (m : Nat) (t : Tm) :
    periodOf u m (nameOf u t).tm = periodOf u m t := by
  cases u <;> rfl

theorem nameOf_unit (u : RotUnit) (t : Tm) : (nameOf u t).unit = u := by
  cases u <;> rfl

/-- a name made by `rotate` is its own truncation (the fields below the unit are absent) -/
theorem nameOf_idem (u : RotUnit) (t : Tm) : nameOf u (nameOf u t).tm = nameOf u t := by
  cases u <;> rfl

theorem tinv_mono {toTm : Bool → Int → Tm} {s : TSt β} {lo lo' : Int} (inv : TInv toTm s lo)
    (h : lo ≤ lo') : TInv toTm s lo' :=
  ⟨inv.cur, fun ho => let ⟨a, b, c⟩ := inv.tm ho; ⟨a, b, Int.le_trans c h⟩⟩

theorem tinv_closed {toTm : Bool → Int → Tm} {s : TSt β} (lo : Int) (h : s.h.cur = none) :
    TInv toTm s lo :=
  ⟨fun n hn => (nomatch h.symm.trans hn), fun ho => by rw [h] at ho; cases ho⟩

theorem tinv_rotated {toTm : Bool → Int → Tm} {h : TH} (fs : TFS β)
    (hcur : h.cur = some (nameOf h.unit h.lastTm)) (htm : h.lastTm = toTm h.useLocal h.lastSec)
    (hm : 1 ≤ h.mod) : TInv toTm ⟨h, fs⟩ h.lastSec := by
  refine ⟨fun n hn => ?_, fun _ => ⟨htm, hm, Int.le_refl _⟩⟩
  cases hcur.symm.trans hn
  exact ⟨nameOf_unit .., periodOf_nameOf .., nameOf_idem ..⟩

theorem twrite_closed (toTm : Bool → Int → Tm) (clock : Int) (h : TH) (fs : TFS β) (ts : Int) (l : β)
    (hc : h.cur = none) : twrite toTm clock h fs ts l = .ok (h, fs) := by
  rw [twrite, hc]

theorem tinv_filed {toTm : Bool → Int → Tm} {s : TSt β} {lo : Int} (inv : TInv toTm s lo)
    {n : Name} (hn : s.h.cur = some n) (l : β) :
    Filed toTm s.h.unit s.h.mod s.h.useLocal ⟨n, s.h.lastSec, l⟩ ∧ nameOf s.h.unit n.tm = n := by
  obtain ⟨hu, hp, hid⟩ := inv.cur n hn
  obtain ⟨htm, _, _⟩ := inv.tm (by rw [hn]; rfl)
  exact ⟨⟨hu, by rw [hp, htm]⟩, hid⟩

/-- for a message not older than the newest one seen the shortcut `last_sec ≥ sec` of `detect`
changes nothing: the same second is the same period -/
theorem detect_ok (toTm : Bool → Int → Tm) (h : TH) (sec : Int)
    (htm : h.lastTm = toTm h.useLocal h.lastSec) (hm : 1 ≤ h.mod) (hle : h.lastSec ≤ sec) :
    detect toTm h sec = .ok ({ h with lastSec := sec, lastTm := toTm h.useLocal sec },
      needRot h.unit h.mod (toTm h.useLocal sec) h.lastTm) := by
  unfold detect
  split
  · have e : sec = h.lastSec := by omega
    rw [e, ← htm, (needRot_eq_false_iff ..).mpr rfl]
  · rw [if_neg (by omega)]

def cfgOf (h : TH) : Option Cfg := if h.cur.isSome then some ⟨h.unit, h.mod, h.useLocal⟩ else none

theorem twrite_spec {toTm : Bool → Int → Tm} {s : TSt β} {lo : Int} (inv : TInv toTm s lo)
    (clock ts : Int) (l : β) (hopen : s.h.cur.isSome) (hlo : lo ≤ effSec clock ts) :
    ∃ h' fs' n, twrite toTm clock s.h s.fs ts l = .ok (h', fs') ∧
      fs'.recs = s.fs.recs ++ [⟨n, effSec clock ts, l⟩] ∧
      (Filed toTm s.h.unit s.h.mod s.h.useLocal ⟨n, effSec clock ts, l⟩ ∧
        nameOf s.h.unit n.tm = n) ∧
      h'.cur = some n ∧ cfgOf h' = cfgOf s.h ∧ TInv toTm ⟨h', fs'⟩ (effSec clock ts) := by
  obtain ⟨n0, hn0⟩ := Option.isSome_iff_exists.mp hopen
  obtain ⟨htm, hmod, hls⟩ := inv.tm hopen
  generalize hsec : effSec clock ts = sec at *
  have hd := detect_ok toTm s.h sec htm hmod (Int.le_trans hls hlo)
  -- that the line is filed correctly is the invariant of the state after `write` (`tinv_filed`)
  by_cases hrot : needRot s.h.unit s.h.mod (toTm s.h.useLocal sec) s.h.lastTm = true
  · let h' : TH := { s.h with lastSec := sec, lastTm := toTm s.h.useLocal sec,
                              cur := some (nameOf s.h.unit (toTm s.h.useLocal sec)) }
    let fs' : TFS β :=
      { (trotate { s.h with lastSec := sec, lastTm := toTm s.h.useLocal sec } s.fs).2 with
        recs := s.fs.recs ++ [⟨nameOf s.h.unit (toTm s.h.useLocal sec), sec, l⟩] }
    have inv' : TInv toTm ⟨h', fs'⟩ sec := tinv_rotated fs' rfl rfl hmod
    refine ⟨h', fs', _, ?_, rfl, tinv_filed inv' rfl l, rfl, by rw [cfgOf, cfgOf, hn0]; rfl, inv'⟩
    -- `hd` evaluates the `detect` bind, `hrot` picks the branch
    simp [twrite, hn0, hsec, hd, hrot, trotate, bind, Except.bind, h', fs']
  · have hsame := (needRot_eq_false_iff ..).mp (Bool.not_eq_true _ ▸ hrot)
    obtain ⟨hu0, hp0, hid0⟩ := inv.cur n0 hn0
    let h' : TH := { s.h with lastSec := sec, lastTm := toTm s.h.useLocal sec }
    let fs' : TFS β := { s.fs with recs := s.fs.recs ++ [⟨n0, sec, l⟩] }
    have inv' : TInv toTm ⟨h', fs'⟩ sec :=
      ⟨fun n' hn' => by cases hn0.symm.trans hn'; exact ⟨hu0, hp0.trans hsame.symm, hid0⟩,
       fun _ => ⟨rfl, hmod, Int.le_refl _⟩⟩
    refine ⟨h', fs', n0, ?_, rfl, tinv_filed inv' hn0 l, hn0, rfl, inv'⟩
    simp [twrite, hn0, hsec, hd, hrot, bind, Except.bind, h', fs']

theorem twrittenCfg_init (c : Option Cfg) (k : Int) (u : RotUnit) (m : Nat) (loc : Bool)
    (ops : List (TOp β)) :
    twrittenCfg c (.init k u m loc :: ops) = twrittenCfg (some ⟨u, m, loc⟩) ops := by
  cases c <;> rfl

theorem twrittenCfg_close (c : Option Cfg) (ops : List (TOp β)) :
    twrittenCfg c (.close :: ops) = twrittenCfg none ops := by
  cases c <;> rfl

theorem trun_cons {toTm : Bool → Int → Tm} {s s1 : TSt β} {op : TOp β} (ops : List (TOp β))
    (h : tstep toTm s op = .ok s1) : trun toTm s (op :: ops) = trun toTm s1 ops := by
  show (tstep toTm s op >>= fun s1 => trun toTm s1 ops) = _
  rw [h]; rfl

/-- the last conclusion: every record is in a file named as `rotate` names files -/
theorem trun_filed_cfg (toTm : Bool → Int → Tm) (ops : List (TOp β)) :
    ∀ (s : TSt β) (lo : Int), TInv toTm s lo → Timely lo ops →
    ∃ s', trun toTm s ops = .ok s' ∧ ∃ new : List (Rec β),
      s'.fs.recs = s.fs.recs ++ new ∧
      FiledAs toTm new (twrittenCfg (cfgOf s.h) ops) ∧
      ∀ r ∈ new, nameOf r.name.unit r.name.tm = r.name := by
  induction ops with
  | nil =>
    intro s lo _ _
    exact ⟨s, rfl, [], (List.append_nil _).symm, trivial, fun _ hr => (List.not_mem_nil hr).elim⟩
  | cons op ops ih =>
    intro s lo inv ht
    cases op with
    | init c u m loc =>
      obtain ⟨s', hs', new, h1, h2, h3⟩ := ih ⟨(tinit toTm c s.fs u m loc).1, (tinit toTm c s.fs u m loc).2⟩ c
        (tinv_rotated _ rfl rfl ht.1) ht.2
      refine ⟨s', (trun_cons ops rfl).trans hs', new, h1, ?_, h3⟩
      rw [twrittenCfg_init]; exact h2
    | close =>
      obtain ⟨s', hs', new, h1, h2, h3⟩ := ih { s with h := tclose s.h } lo (tinv_closed lo rfl) ht
      refine ⟨s', (trun_cons ops rfl).trans hs', new, h1, ?_, h3⟩
      rw [twrittenCfg_close]; exact h2
    | write c ts l =>
      obtain ⟨hlo, ht'⟩ := ht
      by_cases ho : s.h.cur.isSome
      · obtain ⟨h', fs', n, hw, hr, ⟨hf, hcanon⟩, _, ecfg, inv'⟩ :=
          twrite_spec inv c ts l ho hlo
        obtain ⟨s', hs', new, h1, h2, h3⟩ := ih ⟨h', fs'⟩ _ inv' ht'
        have hstep : tstep toTm s (.write c ts l) = .ok ⟨h', fs'⟩ := by rw [tstep, hw]; rfl
        refine ⟨s', (trun_cons ops hstep).trans hs', ⟨n, effSec c ts, l⟩ :: new,
          by rw [h1, hr, List.append_assoc]; rfl, ?_, ?_⟩
        · have hc : cfgOf s.h = some ⟨s.h.unit, s.h.mod, s.h.useLocal⟩ := by rw [cfgOf, if_pos ho]
          rw [ecfg, hc] at h2
          rw [hc]
          exact ⟨⟨rfl, hf⟩, h2⟩
        · intro r hr'
          rcases List.mem_cons.mp hr' with rfl | hr'
          · show nameOf n.unit n.tm = n
            rw [hf.1]; exact hcanon
          · exact h3 r hr'
      · have hn : s.h.cur = none := by simpa using ho
        obtain ⟨s', hs', new, h1, h2, h3⟩ := ih s _ (tinv_closed _ hn) ht'
        have hstep : tstep toTm s (.write c ts l) = .ok s := by
          rw [tstep, twrite_closed _ _ _ _ _ _ hn]; rfl
        refine ⟨s', (trun_cons ops hstep).trans hs', new, h1, ?_, h3⟩
        have hc : cfgOf s.h = none := by rw [cfgOf, hn]; rfl
        rw [hc] at h2 ⊢
        exact h2

theorem twrittenCfg_const {u : RotUnit} {m : Nat} {loc : Bool} (ops : List (TOp β)) : ∀ (o : Bool),
    CfgConst u m loc ops →
    twrittenCfg (if o then some ⟨u, m, loc⟩ else none) ops
      = (twritten o ops).map (·, ⟨u, m, loc⟩) := by
  induction ops with
  | nil => intro o _; cases o <;> rfl
  | cons op ops ih =>
    intro o hc
    cases op with
    | init c u' m' l' =>
      obtain ⟨⟨rfl, rfl, rfl⟩, hc⟩ := hc
      rw [twrittenCfg_init]; exact ih true hc
    | write c ts l =>
      cases o
      · exact ih false hc
      · exact congrArg ((l, _) :: ·) (ih true hc)
    | close => rw [twrittenCfg_close]; exact ih false hc

theorem filedAs_const {toTm : Bool → Int → Tm} {c : Cfg} : ∀ {recs : List (Rec β)} {ws : List β},
    FiledAs toTm recs (ws.map (·, c)) →
    recs.map (·.line) = ws ∧ ∀ r ∈ recs, Filed toTm c.unit c.mod c.loc r
  | [], [], _ => ⟨rfl, fun _ hr => (List.not_mem_nil hr).elim⟩
  | r :: rs, w :: ws, ⟨⟨hl, hf⟩, h⟩ => by
    obtain ⟨h1, h2⟩ := filedAs_const h
    refine ⟨by rw [List.map_cons, hl, h1], fun r' hr' => ?_⟩
    rcases List.mem_cons.mp hr' with rfl | hr'
    · exact hf
    · exact h2 r' hr'

theorem trun_filed (toTm : Bool → Int → Tm) (u : RotUnit) (m : Nat) (loc : Bool)
    (ops : List (TOp β)) (s : TSt β) (lo : Int) (inv : TInv toTm s lo) (ht : Timely lo ops)
    (hc : CfgConst u m loc ops)
    (hs : s.h.cur.isSome → s.h.unit = u ∧ s.h.mod = m ∧ s.h.useLocal = loc) :
    ∃ s', trun toTm s ops = .ok s' ∧ ∃ new : List (Rec β),
      s'.fs.recs = s.fs.recs ++ new ∧
      (∀ r ∈ new, Filed toTm u m loc r ∧ nameOf u r.name.tm = r.name) ∧
      new.map (·.line) = twritten s.h.cur.isSome ops := by
  obtain ⟨s', h1, new, h2, h3, h4⟩ := trun_filed_cfg toTm ops s lo inv ht
  have hcfg : cfgOf s.h = if s.h.cur.isSome then some ⟨u, m, loc⟩ else none := by
    unfold cfgOf
    split
    · next ho => obtain ⟨e1, e2, e3⟩ := hs ho; rw [e1, e2, e3]
    · rfl
  rw [hcfg, twrittenCfg_const ops _ hc] at h3
  obtain ⟨h5, h6⟩ := filedAs_const h3
  exact ⟨s', h1, new, h2, fun r hr => ⟨h6 r hr, (show r.name.unit = u from (h6 r hr).1) ▸ h4 r hr⟩, h5⟩

end MgProof.C17
