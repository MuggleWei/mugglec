import MgProof.C17.LemmasSize
import MgProof.C17.LemmasTime
import MgModel.C17.Civil
/-!
# C17 — property theorems (log rotation never loses, splits or misfiles a line)

Statement (properties.jsonl): with the size-rotating handler, for any sequence of
message sizes, size limits, backup counts and handler restarts, the backup files from
oldest to newest followed by the live file concatenate to a contiguous suffix of
everything written (whole lines, original order, no duplicates), and only lines older
than the configured number of backups are ever discarded.  With the time-rotating
handler every line is stored whole in the file named for the period (in the configured
time zone mode) that contains the line's timestamp.

Models: `MgModel.C17.Size` (log_file_rotate_handler.c, pinned tree = fixed tree) and
`MgModel.C17.Time` (log_file_time_rot_handler.c **with fixes/C17-time-rot-write-order.patch and
fixes/C17-time-rot-local-time-init.patch**;
the pinned tree is `twriteLegacy`/`tinitLegacy`, for which the time clause is *false*:
see the two `…_legacy_…` theorems at the end; `Legacy` is what the other directories call
`orig` / `Orig`).

Quantifiers.  Size: every line type and length function, every directory found at the
start (pre-existing live file and backups, gaps, oversize files), every history of
`init(max_bytes, backup_count) / write / close` of every length; `max_bytes` and
`backup_count` may change at every restart; `k` is any number with `k ≤ max(backup_count,1)`
at every init (`Keeps k`): with one configuration it is the number of backups the code
really keeps (`backup_count`, but 1 for 0), with several it is the smallest of them — the
files `path.j`, `j > k`, may then be stale leftovers of an earlier, larger configuration
and are not claimed to be contiguous with the rest.
Time: every zone function `toTm` (so UTC and every local zone, DST included), every
unit and `rotate_mod ≥ 1`, every history of `init / write / close` with
reconfiguration at restarts, message times non-decreasing since the last init
(`Timely`; an older message is by design appended to the current file).

A file is a list of whole lines in the models: a line is written by one `fwrite` and
files are only renamed/removed as a whole; that no line is split on disk is checked by
the harness (every file must parse into whole self-describing lines).
-/
namespace MgProof.C17
open MgModel.C17
variable {α β : Type}

def spec0 (fs0 : FS α) (k : Nat) : Spec α := { segs := segsOf fs0 k, isOpen := false, maxBytes := 0 }

theorem run_rel (len : α → Nat) (k : Nat) (fs0 : FS α) (ops : List (Op α)) (hk : Keeps k ops) :
    Rel len k (run len ⟨{}, fs0⟩ ops) (specRun len (spec0 fs0 k) ops) :=
  rel_run ops (rel_initial len k {} fs0 rfl 0) hk

theorem specAll_spec0 (len : α → Nat) (k : Nat) (fs0 : FS α) (ops : List (Op α)) :
    specAll (specRun len (spec0 fs0 k) ops).segs = view k fs0 ++ written false ops := by
  rw [← view_segsOf fs0 k]; exact specAll_run len ops (spec0 fs0 k)

/-- **C17, size clause 1 (contiguous suffix).**  For every directory `fs0` found at the
start, every `k` and every history whose inits keep at least `k` backups: the `k` newest
backups oldest → newest followed by the live file are a suffix of (what those files held at the start
followed by every line written) — a list of whole lines, so original order, nothing
duplicated, nothing missing in the middle. -/
theorem size_view_is_suffix (len : α → Nat) (k : Nat) (fs0 : FS α) (ops : List (Op α))
    (hk : Keeps k ops) :
    view k (run len ⟨{}, fs0⟩ ops).fs <:+ view k fs0 ++ written false ops := by
  rw [(run_rel len k fs0 ops hk).view, ← specAll_spec0 len]
  exact specView_suffix k _

/-- **C17, size clause 1, "no duplicates".**  If what was there plus what was written has no
duplicate line, neither has what is on disk. -/
theorem size_no_duplicates (len : α → Nat) (k : Nat) (fs0 : FS α) (ops : List (Op α))
    (hk : Keeps k ops) (hnd : (view k fs0 ++ written false ops).Nodup) :
    (view k (run len ⟨{}, fs0⟩ ops).fs).Nodup :=
  (size_view_is_suffix len k fs0 ops hk).sublist.nodup hnd

/-- **C17, size clause 2 (what is kept, file by file).**  The files on disk are exactly
the newest `k+1` segments of the history cut at the points where the live file had
reached `max_bytes` (`specRun`): `path` is the newest segment, `path.j` the `j`-th newest;
all segments together are everything that was there plus everything written; hence
everything = (segments older than the `k` newest backups) ++ (what is on disk). -/
theorem size_files_are_newest_segments (len : α → Nat) (k : Nat) (fs0 : FS α) (ops : List (Op α))
    (hk : Keeps k ops) :
    let S := (specRun len (spec0 fs0 k) ops).segs
    let fin := (run len ⟨{}, fs0⟩ ops).fs
    cont fin.live = seg S 0 ∧
    (∀ j, 1 ≤ j → j ≤ k → cont (bget fin.bak j) = seg S j) ∧
    specAll S = view k fs0 ++ written false ops ∧
    view k fs0 ++ written false ops = ((S.drop (k + 1)).reverse).flatten ++ view k fin := by
  intro S fin
  have r := run_rel len k fs0 ops hk
  refine ⟨r.live, r.bak, specAll_spec0 len k fs0 ops, ?_⟩
  rw [← specAll_spec0 len, r.view]
  exact specView_split k S

/-- **C17, size clause 3 (only lines older than the backups are discarded).**  As long as
the policy has rotated at most `k` times, *nothing written during the history is
discarded*: each rotation only pushed out the then-oldest pre-existing backup.  (With
more than `k` rotations the files are the newest `k+1` segments — clause 2.) -/
theorem size_nothing_written_lost_within_k_rotations (len : α → Nat) (k : Nat) (fs0 : FS α)
    (ops : List (Op α)) (hk : Keeps k ops) (hr : rotations len (spec0 fs0 k) ops ≤ k) :
    view k (run len ⟨{}, fs0⟩ ops).fs
      = view (k - rotations len (spec0 fs0 k) ops) fs0 ++ written false ops := by
  rw [(run_rel len k fs0 ops hk).view]
  exact specView_few_rotations len k fs0 ops _ rfl rfl hr

/-- **C17, size: the newest line is never discarded** (`max_bytes ≥ 1`): after any
history in which a line was written, that line is the last line of the live file, or
the live file is empty (just rotated) and it is the last line of `path.1`. -/
theorem size_newest_line_kept (len : α → Nat) (k : Nat) (hk1 : 1 ≤ k) (fs0 : FS α)
    (ops : List (Op α)) (hk : Keeps k ops) (hp : PosLimit ops) (hw : written false ops ≠ []) :
    let fin := (run len ⟨{}, fs0⟩ ops).fs
    (cont fin.live).getLast? = (written false ops).getLast? ∨
    (cont fin.live = [] ∧ (cont (bget fin.bak 1)).getLast? = (written false ops).getLast?) := by
  intro fin
  have r := run_rel len k fs0 ops hk
  have := specRun_newest_line len ops (spec0 fs0 k) _ _ rfl nofun hp
    (fun e => hw (List.append_eq_nil_iff.mp e).2)
  rwa [show (spec0 fs0 k).isOpen = false from rfl, getLast?_append_of_ne_nil _ hw, ← r.live,
    ← r.bak 1 (Nat.le_refl 1) hk1] at this

/-- **C17, size: the live file stays below the limit** (`max_bytes ≥ 1`): whenever the
handler is open after a history, `offset` is the size of the live file and is smaller
than `max_bytes` — a file is closed as soon as it reaches the limit (that it is not closed
earlier is `size_backups_are_full`). -/
theorem size_live_below_limit (len : α → Nat) (fs0 : FS α) (ops : List (Op α)) (hp : PosLimit ops) :
    let s := run len ⟨{}, fs0⟩ ops
    s.h.isOpen = true →
      s.h.offset = fsize len (cont s.fs.live) ∧ fsize len (cont s.fs.live) < s.h.maxBytes := by
  intro s ho
  obtain ⟨h1, _, h2⟩ := offInv_run ops (s := ⟨{}, fs0⟩) nofun hp ho
  exact ⟨h1, h1 ▸ h2⟩

/-- **C17, size: a backup is a full file.**  If every init has `max_bytes ≥ M`, then after a
history with `r` rotations each of the `min r k` newest backups `path.1 … path.(min r k)`
holds at least `M` bytes: a file is set aside only once it has reached the limit.  So
when a written line has been discarded (`r > k`, clause 3), at least `k·M` bytes of newer
lines are on disk in the `k` backups. -/
theorem size_backups_are_full (len : α → Nat) (k M : Nat) (fs0 : FS α) (ops : List (Op α))
    (hk : Keeps k ops) (hl : LowLimit M ops) (j : Nat) (hj1 : 1 ≤ j) (hjk : j ≤ k)
    (hjr : j ≤ rotations len (spec0 fs0 k) ops) :
    M ≤ fsize len (cont (bget (run len ⟨{}, fs0⟩ ops).fs.bak j)) := by
  rw [(run_rel len k fs0 ops hk).bak j hj1 hjk]
  exact seg_closed_full len M ops (spec0 fs0 k) _ _ rfl nofun hl j hj1 hjr

/-- **C17, size: nothing else is touched.**  A file `path.j` with `j` above every configured
`max(backup_count,1)` is left exactly as it was found (existence and content).  (`path.0` is
below this range: `rotate` removes it when `backup_count = 0`.) -/
theorem size_files_beyond_backups_untouched (len : α → Nat) (K j : Nat) (hj : K < j) (fs0 : FS α)
    (ops : List (Op α)) (ha : AtMost K ops) :
    bget (run len ⟨{}, fs0⟩ ops).fs.bak j = bget fs0.bak j :=
  untouched_run len K j hj ops ⟨{}, fs0⟩ nofun ha

/-! ### The literal clause under arbitrary reconfiguration is false (recorded finding)

The property text quantifies over "any sequence of … backup counts and handler
restarts".  Read literally — the view taken with the `backup_count` *in force at the
end*, `backup_count` changing freely at restarts — the statement is `SizeViewLiteral`
below, and it is **false** for the real code (known_findings.jsonl, signature
`C17-stale-backups-after-backup-count-shrank`): when the count shrinks at one restart and
grows again at a later one, the backups numbered above the smaller count were not
shifted in between and are stale. -/

/-- the literal full statement: for every directory, every history with arbitrary
`max_bytes` / `backup_count` at every init, the `max(backup_count,1)` newest backups (count
of the last init) oldest → newest followed by the live file are a suffix of what those
files held at the start followed by everything written -/
def SizeViewLiteral : Prop :=
  ∀ (α : Type) (len : α → Nat) (fs0 : FS α) (ops : List (Op α)),
    let fin := run len ⟨{}, fs0⟩ ops
    view (eff fin.h.backupCount) fin.fs <:+ view (eff fin.h.backupCount) fs0 ++ written false ops

/-- the recorded history: limit 5, every line 6 bytes (so every write rotates);
3 backups, then 0 (keeps `path.1` only), then 3 again.  Ends with
`path.3 = [2]`, `path.2 = [4]`, `path.1 = [5]`: line 3 is missing in between. -/
def literalWitness : List (Op Nat) :=
  [.init 5 3, .write 1, .write 2, .write 3, .close, .init 5 0, .write 4, .close, .init 5 3, .write 5]

/-- **the literal clause fails** (negation witness, replayed on the implementation by the
check's `literal` family: `rinit 5 3; w 6 ×3; close; rinit 5 0; w 6; close; rinit 5 3; w 6`) -/
theorem size_view_literal_fails : ¬ SizeViewLiteral := by
  intro h
  have := h Nat (fun _ => 6) {} literalWitness
  revert this
  decide

/-- **what is proved of the literal clause** (= `size_view_is_suffix`).  Missing for the full
statement `SizeViewLiteral`: the view may only reach down to `k` backups with
`k ≤ max(backup_count,1)` at *every* init of the history (`Keeps k`), i.e. the smallest count
configured — for a history with one configuration (or a count that never drops below the
one in force at the end) that is the literal view; after the count has shrunk and grown
again the files `path.j`, `k < j`, are stale and not covered (`size_view_literal_fails`). -/
theorem size_view_is_suffix_partial (len : α → Nat) (k : Nat) (fs0 : FS α) (ops : List (Op α))
    (hk : Keeps k ops) :
    view k (run len ⟨{}, fs0⟩ ops).fs <:+ view k fs0 ++ written false ops :=
  size_view_is_suffix len k fs0 ops hk

/-- Non-vacuity (size): a pre-existing directory with a gap, limit 10, two backups, a
restart with another limit and another backup count, four rotations; hypotheses hold,
something was discarded, and the view is the expected suffix. -/
def exampleOps : List (Op Nat) := [.init 10 2, .write 4, .write 7, .write 12, .close, .init 5 3,
  .write 3, .write 3, .write 9, .write 2]
def exampleDir : FS Nat := { live := some [5], bak := [none, none, some [6, 6]] }
example :
    Keeps 2 exampleOps ∧ PosLimit exampleOps ∧
    view 2 (run id ⟨{}, exampleDir⟩ exampleOps).fs = [3, 3, 9, 2] ∧
    view 2 exampleDir ++ written false exampleOps = [6, 6, 5, 4, 7, 12, 3, 3, 9, 2] ∧
    rotations id (spec0 exampleDir 2) exampleOps = 4 ∧ LowLimit 5 exampleOps :=
  ⟨⟨by decide, by decide, trivial⟩, ⟨by decide, by decide, trivial⟩, by decide, by decide,
   by decide, ⟨by decide, by decide, trivial⟩⟩

/-! ## Time rotation (code with fixes/C17-time-rot-write-order.patch and fixes/C17-time-rot-local-time-init.patch) -/

/-- **C17, time clause, one write.**  From every state satisfying the representation
invariant (every reachable state does: it is carried through the induction of `trun_filed_cfg`),
for every zone function, a message whose effective time is not older than the newest
one seen is appended — one whole record — to exactly one file, and that file is named
for the period (unit, `rotate_mod`, zone mode of the open handler) containing the
message's time. -/
theorem time_write_files_line_in_its_period (toTm : Bool → Int → Tm) (s : TSt β) (lo : Int)
    (inv : TInv toTm s lo) (clock ts : Int) (l : β) (hopen : s.h.cur.isSome)
    (hlo : lo ≤ effSec clock ts) :
    ∃ h' fs' n, twrite toTm clock s.h s.fs ts l = .ok (h', fs') ∧
      fs'.recs = s.fs.recs ++ [⟨n, effSec clock ts, l⟩] ∧
      Filed toTm s.h.unit s.h.mod s.h.useLocal ⟨n, effSec clock ts, l⟩ := by
  obtain ⟨h', fs', n, h1, h2, h3, _⟩ := twrite_spec inv clock ts l hopen hlo
  exact ⟨h', fs', n, h1, h2, h3.1⟩

/-- **C17, time clause, whole histories, one configuration.**  Starting from an empty
directory, for every zone function, unit, `rotate_mod ≥ 1`, zone mode and every history
of init/write/close (restarts included) that is `Timely`: the run never fails, the
records in the directory are exactly the lines handed to the open handler, in order
(nothing lost, nothing duplicated), and every one is in the file named for the period
containing its timestamp. -/
theorem time_every_line_in_its_period_file (toTm : Bool → Int → Tm) (u : RotUnit) (m : Nat)
    (loc : Bool) (ops : List (TOp β)) (lo : Int) (ht : Timely lo ops) (hc : CfgConst u m loc ops) :
    ∃ s', trun toTm {} ops = .ok s' ∧
      (∀ r ∈ s'.fs.recs, Filed toTm u m loc r) ∧
      s'.fs.recs.map (·.line) = twritten false ops := by
  obtain ⟨s', h1, new, h2, h3, h4⟩ :=
    trun_filed toTm u m loc ops {} lo (tinv_closed lo rfl) ht hc nofun
  -- `({} : TSt β).fs.recs ++ new` reduces to `new`
  have h2 : s'.fs.recs = new := h2
  exact ⟨s', h1, fun r hr => (h3 r (h2 ▸ hr)).1, h2 ▸ h4⟩

/-- for `rotate_mod = 1` a period has exactly one possible file name -/
theorem nameOf_eq_of_period_one (u : RotUnit) (a b : Tm)
    (h : periodOf u 1 a = periodOf u 1 b) : nameOf u a = nameOf u b := by
  cases u <;> simp only [periodOf, Nat.div_one, Period.mk.injEq] at h <;> simp only [nameOf, h]

/-- **C17, time clause, `rotate_mod = 1`: the file is *the* file of the period.**  With
`rotate_mod = 1` every record is in the file whose name is exactly its timestamp
truncated to the unit (in the zone mode) — also across restarts.  (For `rotate_mod > 1`
the code names a file after the first message of the period, so a restart inside a
period starts a second file for it; both are "named for the period".) -/
theorem time_file_name_is_truncated_timestamp (toTm : Bool → Int → Tm) (u : RotUnit)
    (loc : Bool) (ops : List (TOp β)) (lo : Int) (ht : Timely lo ops) (hc : CfgConst u 1 loc ops) :
    ∃ s', trun toTm {} ops = .ok s' ∧
      ∀ r ∈ s'.fs.recs, r.name = nameOf u (toTm loc r.sec) := by
  obtain ⟨s', h1, new, h2, h3, _⟩ :=
    trun_filed toTm u 1 loc ops {} lo (tinv_closed lo rfl) ht hc nofun
  have h2 : s'.fs.recs = new := h2
  refine ⟨s', h1, fun r hr => ?_⟩
  obtain ⟨⟨_, hp⟩, hid⟩ := h3 r (h2 ▸ hr)
  rw [← hid]
  exact nameOf_eq_of_period_one u _ _ hp

/-- **C17, time clause, whole histories, reconfiguration at restarts.**  As above, but
every init may choose another unit / `rotate_mod ≥ 1` / zone mode: record by record,
the directory holds the line handed in, filed under the configuration of the handler
that was open when it was written. -/
theorem time_every_line_in_its_period_file_reconf (toTm : Bool → Int → Tm) (ops : List (TOp β))
    (lo : Int) (ht : Timely lo ops) :
    ∃ s', trun toTm {} ops = .ok s' ∧ FiledAs toTm s'.fs.recs (twrittenCfg none ops) := by
  obtain ⟨s', h1, new, h2, h3, _⟩ := trun_filed_cfg toTm ops {} lo (tinv_closed lo rfl) ht
  have h2 : s'.fs.recs = new := h2
  exact ⟨s', h1, h2 ▸ h3⟩

/-- Non-vacuity (time): UTC+5:30, 5-minute files, local mode; init at 2024-02-29
23:59:59 UTC (= 05:29:59 local, March 1st), messages crossing the 05:30 boundary, a
restart; the hypotheses hold and three different files are used. -/
def exampleTOps : List (TOp Nat) := [.init 1709251199 .min 5 true, .write 0 1709251199 1,
  .write 0 1709251200 2, .write 0 1709251200 3, .close, .init 1709251500 .min 5 true,
  .write 1709251501 0 4]
example :
    Timely 0 exampleTOps ∧ CfgConst .min 5 true exampleTOps ∧
    ∃ s, trun (toTmFixed 330) {} exampleTOps = .ok s ∧
      s.fs.created.length = 3 ∧ s.fs.recs.map (·.line) = [1, 2, 3, 4] :=
  ⟨⟨by decide, by decide, by decide, by decide, by decide, by decide, trivial⟩,
   ⟨⟨rfl, rfl, rfl⟩, ⟨rfl, rfl, rfl⟩, trivial⟩, _, rfl, by decide⟩

/-! ## The pinned tree violates the time clause (negation witnesses)

`trunLegacy` is the code as pinned (before the fix).  Both witnesses are `Timely`
histories with one configuration, evaluated with the real calendar; they are replayed
on the implementation by the check (corpus/C17). -/

/-- history 1: init at the epoch (UTC, 1-second files), one message stamped
2024-02-29 23:59:58 -/
def legacyWitness1 : List (TOp Nat) := [.init 0 .sec 1 false, .write 0 1709251198 7]

/-- **defect 1 (line written before the period change is detected).**  On the pinned
code the message of history 1 ends up in the file named for 1970-01-01 00:00:00. -/
theorem time_legacy_first_line_of_period_misfiled :
    Timely 0 legacyWitness1 ∧ CfgConst .sec 1 false legacyWitness1 ∧
    ∃ s', trunLegacy (toTmFixed 0) {} legacyWitness1 = .ok s' ∧
      ∃ r ∈ s'.fs.recs, ¬ Filed (toTmFixed 0) .sec 1 false r := by
  refine ⟨⟨by decide, by decide, trivial⟩, ⟨⟨rfl, rfl, rfl⟩, trivial⟩, _, rfl, ?_⟩
  decide

/-- history 2: zone UTC+5:30, daily files in local mode, init at 2024-02-29 23:59:59 UTC
(05:29:59 on March 1st local) and a message in the same second -/
def legacyWitness2 : List (TOp Nat) := [.init 1709251199 .day 1 true, .write 0 1709251199 7]

/-- **defect 2 (`use_local_time` read before it is assigned).**  On the pinned code the
first file is named in UTC (20240229) although local mode was requested, so the message
of history 2 — local date March 1st — is misfiled; no period change is involved. -/
theorem time_legacy_local_init_misfiled :
    Timely 0 legacyWitness2 ∧ CfgConst .day 1 true legacyWitness2 ∧
    ∃ s', trunLegacy (toTmFixed 330) {} legacyWitness2 = .ok s' ∧
      ∃ r ∈ s'.fs.recs, ¬ Filed (toTmFixed 330) .day 1 true r := by
  refine ⟨⟨by decide, by decide, trivial⟩, ⟨⟨rfl, rfl, rfl⟩, trivial⟩, _, rfl, ?_⟩
  decide

/-- the fixed code files the second witness history correctly (instance of the theorem) -/
example : ∃ s', trun (toTmFixed 330) {} legacyWitness2 = .ok s' ∧
    ∀ r ∈ s'.fs.recs, Filed (toTmFixed 330) .day 1 true r := by
  obtain ⟨s', h1, h2, _⟩ := time_every_line_in_its_period_file (toTmFixed 330) .day 1 true
    legacyWitness2 0 time_legacy_local_init_misfiled.1 time_legacy_local_init_misfiled.2.1
  exact ⟨s', h1, h2⟩

end MgProof.C17
