import MgModel.Generated.Bits
import MgModel.C20.Bits
import MgModel.C01.Channel
import MgModel.C02.Ring
import MgModel.C07.BytesBuffer
import MgModel.C20.Hex
/-!
# Tie A — the generated definitions are the hand-written models

`MgModel/Generated/Bits.lean` is produced by `lib/c2lean.py` from the C text of the repository
(and compared with the committed text on every run). The theorems here identify its definitions
with the hand-written ones the property theorems are about: bit utilities and hex table (C20),
the four space helpers of the bytes buffer (C07) and, for cursors and capacities below `2^32`, the
ring index (C01, C02). So a change of `muggle_next_pow_of_2`, `MUGGLE_IS_POW_OF_2`, an endian-swap
macro or `MUGGLE_IDX_IN_POW_OF_2_RING` changes the generated file, and then either the text
comparison or one of these proofs fails.
-/
namespace MgProof.Tie
open MgModel

theorem isPow2Macro_eq : Generated.isPow2Macro = C20.isPow2Macro := by
  funext x
  simp [Generated.isPow2Macro, C20.isPow2Macro, bne]

theorem nextPow2_eq : Generated.nextPow2 = C20.nextPow2 := by
  funext x
  simp [Generated.nextPow2, C20.nextPow2, C20.isPow2Macro, C20.smear16, bne]

theorem swap16_eq : Generated.swap16 = C20.swap16 := rfl
theorem swap32_eq : Generated.swap32 = C20.swap32 := rfl
theorem swap64_eq : Generated.swap64 = C20.swap64 := rfl

/-- the 32-bit macro agrees with the `Nat` ring index of the channel model on every cursor value
and every capacity the initialisation can produce (`1 ≤ cap < 2^32`) -/
theorem ring_eq (i cap : Nat) (hi : i < 2 ^ 32) (hc1 : 1 ≤ cap) (hc : cap < 2 ^ 32) :
    (Generated.idxInPow2Ring (BitVec.ofNat 32 i) (BitVec.ofNat 32 cap)).toNat = C01.ring i cap := by
  simp only [Generated.idxInPow2Ring, C01.ring, BitVec.toNat_and, BitVec.toNat_ofNat, BitVec.toNat_sub]
  have h1 : i % 2 ^ 32 = i := Nat.mod_eq_of_lt hi
  have h2 : (2 ^ 32 - 1 % 2 ^ 32 + cap % 2 ^ 32) % 2 ^ 32 = cap - 1 := by omega
  rw [h1, h2]

theorem ringIdx_eq (i cap : Nat) (hi : i < 2 ^ 32) (hc1 : 1 ≤ cap) (hc : cap < 2 ^ 32) :
    (Generated.idxInPow2Ring (BitVec.ofNat 32 i) (BitVec.ofNat 32 cap)).toNat = C02.ringIdx i cap :=
  ring_eq i cap hi hc1 hc

theorem bbContiguousWritable_eq (s : C07.BB) :
    Generated.bbContiguousWritable s.c s.w s.r s.t = C07.contiguousWritable s := rfl
theorem bbJumpWritable_eq (s : C07.BB) :
    Generated.bbJumpWritable s.c s.w s.r s.t = C07.jumpWritable s := rfl
theorem bbJumpReadable_eq (s : C07.BB) :
    Generated.bbJumpReadable s.c s.w s.r s.t = C07.jumpReadable s := rfl
theorem bbContiguousReadable_eq (s : C07.BB) :
    Generated.bbContiguousReadable s.c s.w s.r s.t = C07.contiguousReadable s := rfl

theorem sHex_eq : Generated.sHex = C20.sHex := rfl

end MgProof.Tie
