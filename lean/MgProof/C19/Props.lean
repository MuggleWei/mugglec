import MgProof.C19.Lemmas
/-!
# C19 — property theorems (flow controller)

Statement (properties.jsonl): for any non-decreasing sequence of request times the
controller with limit `n` per window `t` (starting as if `n` requests had been
admitted `init_forward` seconds before creation) admits a request exactly when
fewer than `n` admitted requests lie within the preceding `t`; the forced-update
variant records every request and returns the same verdict computed over all
requests; the tick-based controller agrees with the nanosecond one.

Quantifiers: every `n ≥ 1`, `t > 0`, every `init_forward`, every unit, every
operation list of every length (mixing both call kinds), every non-decreasing
timeline that does not start before the virtual initial admissions.
-/
namespace MgProof.C19
open MgModel.C19

/-- the timeline is non-decreasing and does not start before `lo` -/
def Mono : Int → List Op → Prop
  | _, [] => True
  | lo, op :: ops => lo ≤ op.now ∧ Mono op.now ops

/-- `check_and_update` calls only -/
def OnlyCau : List Op → Prop
  | [] => True
  | .cau _ :: ops => OnlyCau ops
  | .cfu _ :: _ => False

/-- `run_refines` with what histories of `check_and_update` alone add: spacing is kept -/
theorem run_spaced (ops : List Op) : ∀ {s : FC} {hist : List Int} {lo : Int},
    Inv s hist → Below hist lo → Mono lo ops →
    ∃ s', run s ops = .ok (s', (specRun s.t s.n hist ops).2) ∧
      Inv s' (specRun s.t s.n hist ops).1 ∧
      (OnlyCau ops → Spaced s.t s.n hist → Spaced s.t s.n (specRun s.t s.n hist ops).1) := by
  induction ops with
  | nil => intro s hist lo inv _ _; exact ⟨s, rfl, inv, fun _ hs => hs⟩
  | cons op ops ih =>
    intro s hist lo inv hb hm
    obtain ⟨hlo, hm'⟩ := hm
    have hb1 : Below hist op.now := fun a ha => Int.le_trans (hb a ha) hlo
    obtain ⟨s1, hs1, inv1, ht, hn, hb2⟩ := step_refines inv op hb1
    obtain ⟨s2, hs2, inv2, hsp⟩ := ih inv1 hb2 hm'
    rw [ht, hn] at hs2 inv2 hsp
    refine ⟨s2, ?_, inv2, fun hc hs => ?_⟩
    · simp only [run, specRun, hs1, bind, Except.bind, pure, Except.pure]
      simp [hs2]
    · cases op with
      | cfu x => exact hc.elim
      | cau x => exact hsp hc (specStep_spaced inv x hs)

/-- **Main refinement theorem.** From any state satisfying the invariant, any
operation list over a non-decreasing timeline runs without error and returns
exactly the specification's verdicts. -/
theorem run_refines (ops : List Op) : ∀ {s : FC} {hist : List Int} {lo : Int},
    Inv s hist → Below hist lo → Mono lo ops →
    ∃ s', run s ops = .ok (s', (specRun s.t s.n hist ops).2) ∧
      Inv s' (specRun s.t s.n hist ops).1 := by
  intro s hist lo inv hb hm
  obtain ⟨s', hr, inv', -⟩ := run_spaced ops inv hb hm
  exact ⟨s', hr, inv'⟩

/-- `run_refines` for a controller made by `init`: the record starts as `n` virtual admissions at
`-init_forward`. -/
theorem init_run {u tsec fwd : Int} {n : Nat} {s : FC} (h : init u tsec n fwd = some s)
    (ops : List Op) (hm : Mono (-fwd * u) ops) :
    ∃ s', run s ops = .ok (s', (specRun (tsec * u) n (List.replicate n (-fwd * u)) ops).2) ∧
      Inv s' (specRun (tsec * u) n (List.replicate n (-fwd * u)) ops).1 := by
  obtain ⟨inv, ht, hn⟩ := inv_init h
  have := run_refines ops inv (below_replicate _ _) hm
  rwa [ht, hn] at this

/-- **C19, verdicts.** A controller created by `init` (any unit: nanoseconds or
ticks) answers every history of `check_and_update` / `check_and_force_update` calls
over a non-decreasing timeline with exactly the specified verdict, where the recorded
admissions start as `n` virtual ones at `-init_forward`. -/
theorem flow_controller_verdicts {u tsec fwd : Int} {n : Nat} {s : FC}
    (h : init u tsec n fwd = some s) (ops : List Op) (hm : Mono (-fwd * u) ops) :
    ∃ s', run s ops = .ok (s', (specRun (tsec * u) n (List.replicate n (-fwd * u)) ops).2) := by
  obtain ⟨s', hr, -⟩ := init_run h ops hm
  exact ⟨s', hr⟩

/-- The model's `init` fails exactly on `n = 0` or a non-positive window (a failing `malloc`,
the third way `muggle_flow_ctl_init` returns false, is not modelled). -/
theorem init_fails_iff (u tsec fwd : Int) (n : Nat) :
    init u tsec n fwd = none ↔ (n = 0 ∨ tsec ≤ 0) := by
  unfold init
  by_cases h1 : n = 0 <;> by_cases h2 : tsec ≤ 0 <;> simp [h1, h2]

/-! ### Spacing: no more than `n` admissions in any window -/

/-- **C19, rate bound.** With `check_and_update` only, any two recorded admissions
that are `n` positions apart are at least `t` apart in time (interval form:
`flow_controller_no_window_exceeds_n`). -/
theorem flow_controller_rate_bound {u tsec fwd : Int} {n : Nat} {s : FC}
    (h : init u tsec n fwd = some s) (ops : List Op) (hm : Mono (-fwd * u) ops)
    (hc : OnlyCau ops) :
    Spaced (tsec * u) n (specRun (tsec * u) n (List.replicate n (-fwd * u)) ops).1 := by
  obtain ⟨inv, ht, hn⟩ := inv_init h
  obtain ⟨-, -, -, hsp⟩ := run_spaced ops inv (below_replicate _ _) hm
  rw [ht, hn] at hsp
  exact hsp hc (spaced_of_length_le (by simp))

/-- **C19, rate bound (interval form).** With `check_and_update` only, no half-open
interval `[x, x + t)` of length `t` — wherever it starts — contains more than `n`
recorded admissions (the `n` virtual initial ones included). -/
theorem flow_controller_no_window_exceeds_n {u tsec fwd : Int} {n : Nat} {s : FC}
    (h : init u tsec n fwd = some s) (ops : List Op) (hm : Mono (-fwd * u) ops)
    (hc : OnlyCau ops) (x : Int) :
    (specRun (tsec * u) n (List.replicate n (-fwd * u)) ops).1.countP
      (fun a => decide (x ≤ a ∧ a < x + tsec * u)) ≤ n := by
  obtain ⟨s', -, inv'⟩ := init_run h ops hm
  exact window_count_le x inv'.sorted (flow_controller_rate_bound h ops hm hc)

/-! ### Unit independence -/

/-- the state counted in a unit `k` times finer -/
def scaleFC (k : Int) (s : FC) : FC :=
  { s with arr := s.arr.map (k * ·), t := k * s.t }

/-- the call with its time in a unit `k` times finer -/
def scaleOp (k : Int) : Op → Op
  | .cau x => .cau (k * x)
  | .cfu x => .cfu (k * x)

/-- one call commutes with the change of unit -/
theorem step_scale {k : Int} (hk : 0 < k) (s : FC) (op : Op) :
    step (scaleFC k s) (scaleOp k op) =
      (step s op).map (fun p => (scaleFC k p.1, p.2)) := by
  have hchk : ∀ x, check (scaleFC k s) (k * x) = check s x := by
    intro x
    unfold check scaleFC
    simp only [List.getElem?_map]
    cases s.arr[s.cursor]? with
    | none => rfl
    | some a =>
      simp only [Option.map]
      congr 1
      rw [← Int.mul_sub]
      exact decide_eq_decide.mpr (Int.mul_le_mul_left hk)
  have hupd : ∀ x, update (scaleFC k s) (k * x) = (update s x).map (scaleFC k) := by
    intro x
    unfold update scaleFC
    by_cases h : s.cursor < s.arr.length
    · simp [h, Except.map, List.map_set]
    · simp [h, Except.map]
  cases op with
  | cau x =>
    simp only [step, scaleOp, checkAndUpdate, hchk, hupd]
    cases check s x with
    | error e => rfl
    | ok b =>
      cases b
      · rfl
      · cases update s x <;> rfl
  | cfu x =>
    simp only [step, scaleOp, checkAndForceUpdate, hchk, hupd]
    cases check s x with
    | error e => rfl
    | ok b => cases update s x <;> rfl

/-- **C19, unit independence of `init`.** Creating the controller in a unit `k` times finer gives the
scaled state. -/
theorem init_scale (k u tsec fwd : Int) (n : Nat) :
    init (k * u) tsec n fwd = (init u tsec n fwd).map (scaleFC k) := by
  unfold init
  by_cases h1 : n = 0 <;> by_cases h2 : tsec ≤ 0 <;> simp [h1, h2, scaleFC]
  constructor
  · rw [Int.mul_left_comm, Int.neg_mul]
  · rw [Int.mul_left_comm]

/-- **C19, unit independence.** Scaling the state, the window and the whole timeline by an
integer `k > 0` changes no verdict: a controller counting in ticks, `k` to the base unit,
answers as the one counting in the base unit on timelines that are exact multiples. -/
theorem scale_invariant {k : Int} (hk : 0 < k) (ops : List Op) (s : FC) :
    run (scaleFC k s) (ops.map (scaleOp k)) =
      (run s ops).map (fun p => (scaleFC k p.1, p.2)) := by
  induction ops generalizing s with
  | nil => rfl
  | cons op ops ih =>
    simp only [List.map, run, step_scale hk]
    cases step s op with
    | error e => rfl
    | ok p =>
      obtain ⟨s1, b⟩ := p
      simp only [Except.map, bind, Except.bind]
      rw [ih]
      cases run s1 ops with
      | error e => rfl
      | ok q => rfl

/-! ### Non-vacuity -/

example : ∃ s, init 1000000000 1 2 0 = some s ∧
    Mono (-0 * 1000000000) [.cau 0, .cau 1000000000, .cfu 1000000005, .cau 1999999999,
      .cau 2000000000] ∧
    (specRun (1 * 1000000000) 2 (List.replicate 2 (-0 * 1000000000))
      [.cau 0, .cau 1000000000, .cfu 1000000005, .cau 1999999999, .cau 2000000000]).2
      = [false, true, true, false, true] := by
  refine ⟨_, rfl, by simp [Mono, Op.now], by decide⟩

end MgProof.C19
