import MgModel.C19.FlowCtl
/-!
# C19 — the representation invariant of the flow controller and what one call does

With `Inv`, `check` computes the specified verdict (`check_ok`) and `update` appends to the
record (`update_inv`), so one API call refines one step of the specification (`step_refines`).
Then the facts about spacing (`Spaced`) behind the rate bound.
-/
namespace MgProof.C19
open MgModel.C19

/-- `hist` is the specification state (all recorded admissions, oldest first): the ring read from
`cursor` is its last `n` entries, and it is non-decreasing. -/
structure Inv (s : FC) (hist : List Int) : Prop where
  npos   : 0 < s.n
  len    : s.arr.length = s.n
  cur    : s.cursor < s.n
  hlen   : s.n ≤ hist.length
  ring   : s.arr.drop s.cursor ++ s.arr.take s.cursor = hist.drop (hist.length - s.n)
  sorted : hist.Pairwise (· ≤ ·)

/-- no recorded admission is after `now` -/
def Below (hist : List Int) (now : Int) : Prop := ∀ a ∈ hist, a ≤ now

theorem below_replicate (n : Nat) (x : Int) : Below (List.replicate n x) x :=
  fun _ ha => Int.le_of_eq (List.eq_of_mem_replicate ha)

theorem inv_init {u tsec fwd : Int} {n : Nat} {s : FC} (h : init u tsec n fwd = some s) :
    Inv s (List.replicate n (-fwd * u)) ∧ s.t = tsec * u ∧ s.n = n := by
  unfold init at h
  split at h
  · simp at h
  · split at h
    · simp at h
    · injection h with h
      subst h
      exact ⟨{ npos := by simp; omega, len := by simp, cur := by simp; omega, hlen := by simp,
               ring := by simp, sorted := by simp [List.pairwise_replicate] }, rfl, rfl⟩

/-- in a non-decreasing record fewer than `n` admissions lie in the window iff the `n`-th most
recent one is outside it -/
theorem window_iff {hist : List Int} {n : Nat} {t now a : Int} (hlen : n ≤ hist.length)
    (hs : hist.Pairwise (· ≤ ·)) (ha : hist[hist.length - n]? = some a) :
    inWindow t now hist < n ↔ now - a ≥ t := by
  obtain ⟨hk, hka⟩ := List.getElem?_eq_some_iff.mp ha
  have hrl : (hist.drop (hist.length - n + 1)).length + 1 = n := by rw [List.length_drop]; omega
  have hsplit : hist = hist.take (hist.length - n) ++ a :: hist.drop (hist.length - n + 1) := by
    rw [← hka, ← List.drop_eq_getElem_cons hk, List.take_append_drop]
  generalize hist.take (hist.length - n) = pre, hist.drop (hist.length - n + 1) = rest
    at hsplit hrl
  subst hsplit
  rw [List.pairwise_append, List.pairwise_cons] at hs
  obtain ⟨-, ⟨hpost, -⟩, hpre⟩ := hs
  rw [inWindow, List.countP_append, List.countP_cons]
  by_cases hw : now - a < t
  · have : rest.countP (fun a => decide (now - a < t)) = rest.length :=
      List.countP_eq_length.mpr fun x hx => decide_eq_true (by have := hpost x hx; omega)
    rw [this, if_pos (decide_eq_true hw)]
    omega
  · have hz : pre.countP (fun a => decide (now - a < t)) = 0 :=
      List.countP_eq_zero.mpr fun x hx => by
        have := hpre x hx a (List.mem_cons_self ..)
        simp; omega
    have := List.countP_le_length (p := fun a => decide (now - a < t)) (l := rest)
    rw [hz, if_neg (by simpa using hw)]
    omega

/-- `check` reads the `n`-th most recent admission `a` and so returns the specified verdict -/
theorem check_ok {s : FC} {hist : List Int} (inv : Inv s hist) (now : Int) :
    ∃ a, hist[hist.length - s.n]? = some a ∧
      specVerdict s.t s.n hist now = decide (now - a ≥ s.t) ∧
      check s now = .ok (specVerdict s.t s.n hist now) := by
  have hc : s.cursor < s.arr.length := by rw [inv.len]; exact inv.cur
  have ha : hist[hist.length - s.n]? = some s.arr[s.cursor] := by
    rw [← List.getElem?_eq_getElem hc, ← Nat.add_zero (hist.length - s.n), ← List.getElem?_drop,
      ← inv.ring, List.getElem?_append_left (by rw [List.length_drop]; omega), List.getElem?_drop,
      Nat.add_zero]
  have hv : specVerdict s.t s.n hist now = decide (now - s.arr[s.cursor] ≥ s.t) :=
    decide_eq_decide.mpr (window_iff inv.hlen inv.sorted ha)
  exact ⟨_, ha, hv, by rw [check, List.getElem?_eq_getElem hc, hv]⟩

/-- writing at the cursor and advancing it drops the oldest entry of the ring and appends the new one -/
theorem ring_set (l : List Int) (c n : Nat) (x : Int) (hl : l.length = n) (hc : c < n) :
    (l.set c x).drop ((c+1)%n) ++ (l.set c x).take ((c+1)%n) = l.drop (c+1) ++ l.take c ++ [x] := by
  have hset : l.set c x = l.take c ++ x :: l.drop (c+1) := by
    rw [List.set_eq_take_append_cons_drop]; simp [hl, hc]
  by_cases hw : c + 1 < n
  · rw [Nat.mod_eq_of_lt hw, hset]
    have e : l.take c ++ x :: l.drop (c+1) = (l.take c ++ [x]) ++ l.drop (c+1) := by simp
    rw [e, List.drop_left' (by simp; omega), List.take_left' (by simp; omega)]
    simp
  · have he : c + 1 = n := by omega
    rw [he, Nat.mod_self, hset]
    have : l.drop n = [] := by simp; omega
    simp [this]; omega

theorem update_inv {s : FC} {hist : List Int} (inv : Inv s hist) {now : Int}
    (hb : Below hist now) :
    ∃ s', update s now = .ok s' ∧ Inv s' (hist ++ [now]) ∧ s'.t = s.t ∧ s'.n = s.n := by
  have hc : s.cursor < s.arr.length := by rw [inv.len]; exact inv.cur
  refine ⟨{ s with arr := s.arr.set s.cursor now, cursor := (s.cursor + 1) % s.n },
    by unfold update; simp [hc], ?_, rfl, rfl⟩
  have hmod : (s.cursor + 1) % s.n < s.n := Nat.mod_lt _ inv.npos
  refine { npos := inv.npos, len := by simp [inv.len], cur := hmod,
           hlen := by simp; have := inv.hlen; omega, ring := ?_, sorted := ?_ }
  · show (s.arr.set s.cursor now).drop ((s.cursor + 1) % s.n) ++
         (s.arr.set s.cursor now).take ((s.cursor + 1) % s.n) =
         (hist ++ [now]).drop ((hist ++ [now]).length - s.n)
    have hR : (hist ++ [now]).drop ((hist ++ [now]).length - s.n) =
        (hist.drop (hist.length - s.n)).drop 1 ++ [now] := by
      have hl := inv.hlen
      have h1 : (hist ++ [now]).length - s.n = (hist.length - s.n) + 1 := by
        simp; omega
      rw [h1, List.drop_append_of_le_length (by omega), List.drop_drop]
    rw [hR, ← inv.ring, ring_set _ _ _ _ inv.len inv.cur]
    rw [List.drop_append_of_le_length (by simp; omega), List.drop_drop]
  · exact List.pairwise_append.mpr
      ⟨inv.sorted, List.pairwise_singleton _ _, fun a ha _ hb' => List.mem_singleton.mp hb' ▸ hb a ha⟩

/-! ### one API call -/

theorem checkAndUpdate_eq {s s' : FC} {x : Int} {v : Bool} (hc : check s x = .ok v)
    (hu : update s x = .ok s') : checkAndUpdate s x = .ok (if v then s' else s, v) := by
  rw [checkAndUpdate, hc]; cases v <;> simp [hu, bind, Except.bind, pure, Except.pure]

theorem checkAndForceUpdate_eq {s s' : FC} {x : Int} {v : Bool} (hc : check s x = .ok v)
    (hu : update s x = .ok s') : checkAndForceUpdate s x = .ok (s', v) := by
  rw [checkAndForceUpdate, hc, hu]; rfl

theorem step_refines {s : FC} {hist : List Int} (inv : Inv s hist) (op : Op)
    (hb : Below hist op.now) :
    ∃ s', step s op = .ok (s', (specStep s.t s.n hist op).2) ∧
      Inv s' (specStep s.t s.n hist op).1 ∧ s'.t = s.t ∧ s'.n = s.n ∧
      Below (specStep s.t s.n hist op).1 op.now := by
  obtain ⟨-, -, -, hchk⟩ := check_ok inv op.now
  obtain ⟨s', hu, inv', ht, hn⟩ := update_inv inv hb
  have hb' : Below (hist ++ [op.now]) op.now := by
    intro x hx
    rcases List.mem_append.mp hx with hx | hx
    · exact hb x hx
    · exact Int.le_of_eq (List.mem_singleton.mp hx)
  cases op with
  | cau x =>
    simp only [Op.now] at *
    simp only [step, specStep, checkAndUpdate_eq hchk hu]
    cases specVerdict s.t s.n hist x
    · exact ⟨s, rfl, inv, rfl, rfl, hb⟩
    · exact ⟨s', rfl, inv', ht, hn, hb'⟩
  | cfu x =>
    simp only [Op.now] at *
    exact ⟨s', checkAndForceUpdate_eq hchk hu, inv', ht, hn, hb'⟩

/-! ### spacing -/

/-- admissions `n` apart in the record are at least `t` apart in time -/
def Spaced (t : Int) (n : Nat) (hist : List Int) : Prop :=
  ∀ i a b, hist[i]? = some a → hist[i + n]? = some b → b - a ≥ t

theorem spaced_append {t : Int} {n : Nat} {hist : List Int} {x a : Int}
    (hn : 0 < n) (hs : Spaced t n hist) (ha : hist[hist.length - n]? = some a) (hx : x - a ≥ t) :
    Spaced t n (hist ++ [x]) := by
  intro i p q hp hq
  rcases Nat.lt_trichotomy (i + n) hist.length with hi | hi | hi
  · rw [List.getElem?_append_left hi] at hq
    rw [List.getElem?_append_left (by omega)] at hp
    exact hs i p q hp hq
  · rw [List.getElem?_append_left (by omega), show i = hist.length - n by omega, ha] at hp
    rw [hi, List.getElem?_concat_length] at hq
    cases hp; cases hq; exact hx
  · rw [List.getElem?_eq_none (by simp; omega)] at hq
    cases hq

/-- an admission is at least `t` after the `n`-th most recent one -/
theorem specStep_spaced {s : FC} {hist : List Int} (inv : Inv s hist) (x : Int)
    (hs : Spaced s.t s.n hist) : Spaced s.t s.n (specStep s.t s.n hist (.cau x)).1 := by
  obtain ⟨a, ha, hva, -⟩ := check_ok inv x
  simp only [specStep]
  cases hv : specVerdict s.t s.n hist x
  · exact hs
  · exact spaced_append inv.npos hs ha (of_decide_eq_true (hva ▸ hv))

theorem spaced_of_length_le {t : Int} {n : Nat} {l : List Int} (h : l.length ≤ n) : Spaced t n l := by
  intro i a b _ hb
  rw [List.getElem?_eq_none (by omega)] at hb
  cases hb

theorem spaced_drop {t : Int} {n : Nat} {l : List Int} (hs : Spaced t n l) (k : Nat) :
    Spaced t n (l.drop k) := by
  intro i a b ha hb
  rw [List.getElem?_drop] at ha hb
  exact hs (k + i) a b ha (by rw [Nat.add_assoc]; exact hb)

theorem window_count_le {t : Int} {n : Nat} {l : List Int} (x : Int)
    (hsort : l.Pairwise (· ≤ ·)) (hs : Spaced t n l) :
    l.countP (fun a => decide (x ≤ a ∧ a < x + t)) ≤ n := by
  induction l with
  | nil => exact Nat.zero_le n
  | cons a l ih =>
    by_cases hax : a < x
    · rw [List.countP_cons_of_neg (by simp; omega)]
      exact ih hsort.of_cons (spaced_drop hs 1)
    · -- the list starts inside or after the interval: whatever comes `n` or more places later
      -- is at least `t` later, hence outside
      rw [← List.take_append_drop n (a :: l), List.countP_append]
      have h1 := Nat.le_trans (List.countP_le_length (p := fun a => decide (x ≤ a ∧ a < x + t)))
        (List.length_take_le n (a :: l))
      have h2 : ((a :: l).drop n).countP (fun a => decide (x ≤ a ∧ a < x + t)) = 0 := by
        cases hd : (a :: l).drop n with
        | nil => rfl
        | cons c rest =>
          have hc : c - a ≥ t := hs 0 a c rfl (by rw [Nat.zero_add, ← List.head?_drop, hd]; rfl)
          have hrest := (List.pairwise_cons.mp (hd ▸ hsort.sublist (List.drop_sublist n _))).1
          rw [List.countP_eq_zero]
          intro b hb
          rcases List.mem_cons.mp hb with rfl | hb
          · simp; omega
          · have := hrest b hb; simp; omega
      omega

end MgProof.C19
