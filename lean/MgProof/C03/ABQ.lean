import MgProof.C01.ABQInv
/-!
# C03 — array blocking queue: the wait protocol (local half; the global half is `ABQGlobal.lean`)

A thread is inside `cond_wait` **only with its predicate false at the moment it released the mutex**
(`cnt = 0` for a consumer, `cnt = capacity` for a producer): the predicate is (re-)checked in a loop
under the mutex, and the waiter still owns the mutex between check and wait (`Inv.own`), so nobody
else can change `cnt` — the "no check-then-sleep window" half of the property. `InvA` says it for
the two pcs between check and wait.
-/
namespace MgProof.C03.ABQ
open MgModel.Conc MgModel.C01.ABQ MgProof.C01.ABQ

structure InvA (s : St) : Prop where
  cw : ∀ t, t < s.cfg.P + s.cfg.C → s.pc t = .cCvWait → s.cnt = 0
  pw : ∀ t, t < s.cfg.P + s.cfg.C → s.pc t = .pCvWait → s.cnt = s.cfg.cap

variable {s s' : St} {tok : Tok} {ev : List String} {t : Nat}

theorem InvA.step (ha : InvA s) (hi : Inv s) (h : Step s t s') : InvA s' := by
  have key : ∀ u, u < s.cfg.P + s.cfg.C →
      (s'.pc u = .cCvWait → s'.cnt = 0) ∧ (s'.pc u = .pCvWait → s'.cnt = s.cfg.cap) := by
    refine C01.Monitor.inside_step (P := fun c p => (p = .cCvWait → c = 0) ∧ (p = .pCvWait → c = s.cfg.cap))
      (x' := s'.cnt) (pc' := s'.pc) hi.own (fun u hu => ⟨ha.cw u hu, ha.pw u hu⟩)
      (fun p hp => ⟨fun e => (by rw [e] at hp; cases hp), fun e => (by rw [e] at hp; cases hp)⟩)
      (fun u hu => Framed.inside (h.frame hu)) h.cnt_eq ?_
    have idle : ∀ {q : Pc}, Idle q → (q = .cCvWait → s.cnt = 0) ∧ (q = .pCvWait → s.cnt = s.cfg.cap) := by
      rintro _ (e | e | e) <;> rw [e] <;> exact ⟨nofun, nofun⟩
    cases h <;> simp only [upd_same]
    case pFull _ _ hc => exact ⟨nofun, fun _ => hc⟩
    case cEmpty _ _ hc => exact ⟨fun _ => hc, nofun⟩
    case pUnlock => exact idle (nextP_idle s t)
    case cUnlockBad | cPay => exact idle (nextC_idle s t)
    all_goals exact ⟨nofun, nofun⟩
  rw [← h.cfg_eq] at key
  exact ⟨fun u hu => (key u hu).1, fun u hu => (key u hu).2⟩

theorem stepA (hi : Inv s) (ha : InvA s) (h : step s tok = some (s', ev)) : InvA s' :=
  ha.step hi (step_sound h).2

theorem initA (c : Cfg) : InvA (mkInit c) := by
  refine ⟨?_, ?_⟩ <;> intro t ht hp <;> rcases mkInit_idle c t with e | e | e <;> rw [e] at hp <;> cases hp

theorem reachA (c : Cfg) (hc : 0 < c.cap) (s : St) (hr : Reach step (mkInit c) s) : Inv s ∧ InvA s :=
  Reach.inv (fun s => Inv s ∧ InvA s) ⟨init_inv c hc, initA c⟩
    (fun _ _ _ _ hi h => ⟨step_inv hi.1 h, stepA hi.1 hi.2 h⟩) s hr

/-- **the predicate is checked in a loop under the mutex**: a consumer is about to wait on
`cv_not_empty` only with `cnt = 0`, a producer on `cv_not_full` only with `cnt = capacity`
(and it still owns the mutex at that point, so the check cannot be stale). The local half of the property; the full
statement is `no_global_sleep` in `ABQGlobal.lean`. -/
theorem no_global_sleep_partial {c : Cfg} {s : St} (hc : 0 < c.cap) (hr : Reach step (mkInit c) s) (t : Nat)
    (ht : t < s.cfg.P + s.cfg.C) :
    (s.pc t = .cCvWait → s.cnt = 0 ∧ s.mtx = some t) ∧
    (s.pc t = .pCvWait → s.cnt = s.cfg.cap ∧ s.mtx = some t) := by
  obtain ⟨hI, hA⟩ := reachA c hc s hr
  exact ⟨fun h => ⟨hA.cw t ht h, holder_of_inside hI.own ht (by rw [h]; rfl)⟩,
         fun h => ⟨hA.pw t ht h, holder_of_inside hI.own ht (by rw [h]; rfl)⟩⟩

end MgProof.C03.ABQ
