import MgProof.C02.Props
/-!
# C03 (ring-buffer part) — no lost wake-up on `muggle_ring_buffer_read`

Safety formulation over the same step model as C02 (`MgModel.C02`): a reader parked in
`futex_wait(cursor, v)` always has a reason to be asleep — either the message it waits for has
not been published, or a writer is between its publication (release store of `cursor`) and its
wake call (`pending`: pcs `wUnlock`, `wWake`) and will wake it. Hence no reachable state has
every participant asleep while a published message is waiting for a sleeping reader.

Quantification as in `MgProof/C02/Props.lean` (`WF c e`: any power-of-two capacity, any numbers
of writers/readers/messages, any start index, no-lapping throttle; `e ≤ 32`; `nW ≤ 1` under the
single-writer flag) plus, for the single-wait
mode, the user guarantee of `MUGGLE_RING_BUFFER_FLAG_SINGLE_READER` (`nR ≤ 1`: the writer wakes
only one sleeper). All schedules, all lengths. The futex semantics (compare-and-block is atomic,
wake = lowest-numbered sleepers first) are the scheduler's and are trusted.
-/
namespace MgProof.C03
open MgModel.Conc MgModel.C02 MgProof.C02

structure InvF (c : Cfg) (s : St) : Prop where
  fw : ∀ t v, s.pc t = .rFwait v → v = (c.pre + s.rk t) % c.cap
  bl : ∀ t, s.pc t = .rBlocked → s.written.length = c.pre + s.rk t ∨ 0 < cntP pending s.pc c.nT

theorem invF_init (c : Cfg) : InvF c (mkInit c) := by
  refine ⟨?_, ?_⟩
  all_goals (intros; simp only [mkInit] at *; split at * <;> simp_all)

/-- a publication makes its writer pending, and a pending writer stays so until its wake call -/
theorem reason_kept {c : Cfg} {s : St} {t n : Nat} (ht : t < c.nT) (hb : c.rm ≠ .busy)
    (hw : s.pc t ≠ .wWake) (old : s.written.length = n ∨ 0 < cntP pending s.pc c.nT) :
    (post c s t).written.length = n ∨ 0 < cntP pending (post c s t).pc c.nT := by
  have h1 := cntP_post pending c s ht
  by_cases hp : ∃ i, s.pc t = .wStCur i
  · have hn : ¬pending (s.pc t) = true := by
      obtain ⟨i, h⟩ := hp
      simp [h, pending]
    rw [if_neg hn, if_pos (pending_enter hb (Or.inl hp))] at h1
    exact Or.inr (by omega)
  · rw [post_written_of_ne (not_exists.mp hp)]
    refine old.imp_right fun h => ?_
    by_cases hq : pending (s.pc t) = true
    · have : s.pc t = .wUnlock := (pending_cases hq).resolve_right hw
      rw [if_pos hq, if_pos (pending_enter hb (Or.inr this))] at h1
      omega
    · rw [if_neg hq] at h1
      omega

theorem invF_move {c : Cfg} {e : Nat} (wf : WF c e) (hmW : c.rm = .wait ∨ c.rm = .singleWait)
    {s s' : St} {t : Nat}
    (i : InvAll c s) (f : InvF c s) (hs : Moves c s t s')
    (hwk : ∀ u, s.pc u = .rBlocked → s.pc t ≠ .wWake) : InvF c s' := by
  have hm : c.rm ≠ .once := by rcases hmW with h | h <;> simp [h]
  have hb : c.rm ≠ .busy := by rcases hmW with h | h <;> simp [h]
  have k := i.k hm
  have ht := step_tid_lt i.b hs
  obtain rfl := hs.eq
  have hrk := post_rk c s t
  refine ⟨?fw, ?bl⟩
  case fw =>
    intro u v hu
    rcases post_pc_eq hu with ⟨rfl, hf⟩ | ⟨hut, hu⟩
    · rcases hf with ⟨hp, h1, rfl⟩ | ⟨hp, _⟩
      · simp [hrk, hp, retR, ← rposOf_eq wf hm, h1]
      · have := k.noOnce u
        rw [hp] at this
        cases this
    · simpa [hrk, hut] using f.fw u v hu
  case bl =>
    intro u hu
    rcases post_pc_eq hu with ⟨rfl, v, hp, rfl⟩ | ⟨hut, hu⟩
    · -- the futex compares the cursor with the slot of the awaited position: the ring is empty
      left
      have heq := f.fw u _ hp
      rw [i.a1.cur] at heq
      have := Nat.mod_inj_of_lt_add heq.symm (k.le u) (k.lt_cap_of_isRd wf i.b (by rw [hp]; rfl))
      simp [hp, retR, post]
      omega
    · have hr : (post c s t).rk u = s.rk u := by simp [hrk, hut]
      rw [hr]
      exact reason_kept ht hb (hwk u hu) (f.bl u hu)

structure InvFo (c : Cfg) (s : St) : Prop where
  fwo : ∀ t v, s.pc t = .rFwait v → v = s.delivered.length % c.cap
  blo : ∀ t, s.pc t = .rBlocked → s.written.length = s.delivered.length ∨ 0 < cntP pending s.pc c.nT

theorem invFo_init (c : Cfg) : InvFo c (mkInit c) := by
  refine ⟨?_, ?_⟩
  all_goals (intros; simp only [mkInit] at *; split at * <;> simp_all)

theorem invFo_move {c : Cfg} {e : Nat} (wf : WF c e) (hm : c.rm = .once) {s s' : St} {t : Nat}
    (i : InvAll c s) (f : InvFo c s) (hs : Moves c s t s')
    (hwk : ∀ u, s.pc u = .rBlocked → s.pc t ≠ .wWake) : InvFo c s' := by
  have hb : c.rm ≠ .busy := by simp [hm]
  have d := (i.d hm).1
  have ht := step_tid_lt i.b hs
  obtain rfl := hs.eq
  have hfr := fun u (hut : u ≠ t) hu => (d.frame_other hut hu).1
  refine ⟨?fwo, ?blo⟩
  case fwo =>
    intro u v hu
    rcases post_pc_eq hu with ⟨rfl, hf⟩ | ⟨hut, hu⟩
    · rcases hf with ⟨hp, _⟩ | ⟨hp, h1⟩
      · exact absurd hp (d.noRd u).1
      · simp [post, hp, ← h1, d.rc]
    · rw [hfr u hut (by rw [hu]; rfl)]
      exact f.fwo u v hu
  case blo =>
    intro u hu
    rcases post_pc_eq hu with ⟨rfl, v, hp, rfl⟩ | ⟨hut, hu⟩
    · left
      have heq := f.fwo u _ hp
      rw [i.a1.cur] at heq
      have := Nat.mod_inj_of_lt_add heq.symm d.dle (d.lt_cap_of_isOR wf i.b (by rw [hp]; rfl))
      simp [hp, post]
      omega
    · rw [hfr u hut (by rw [hu]; rfl)]
      exact reason_kept ht hb (hwk u hu) (f.blo u hu)

section
variable {c : Cfg} {s : St} {pc' : Nat → Pc} (hb : ∀ u, Back c (s.pc u) (pc' u))
include hb

theorem pending_pcs : cntP pending pc' c.nT = cntP pending s.pc c.nT :=
  cntP_congr c.nT fun u _ => (hb u).cls_eq pending

theorem InvF.pcs (f : InvF c s) : InvF c { s with pc := pc' } :=
  ⟨fun u v hu => f.fw u v ((hb u).eq hu), fun u hu => pending_pcs hb ▸ f.bl u ((hb u).eq hu)⟩

theorem InvFo.pcs (f : InvFo c s) : InvFo c { s with pc := pc' } :=
  ⟨fun u v hu => f.fwo u v ((hb u).eq hu), fun u hu => pending_pcs hb ▸ f.blo u ((hb u).eq hu)⟩

end

theorem invF_step {c : Cfg} {e : Nat} (wf : WF c e) (hmW : c.rm = .wait ∨ c.rm = .singleWait)
    (hsr : c.rm = .singleWait → c.nR ≤ 1) {s s' : St} {t : Nat}
    (i : InvAll c s) (f : InvF c s) (hs : stepSt c s t = some s') : InvF c s' :=
  have hm : c.rm ≠ .once := by rcases hmW with h | h <;> simp [h]
  invF_move wf hmW (i.pcs (wake_back c s t)) (f.pcs (wake_back c s t)) (moves_of_stepSt hs)
    (woke_all i.b.parked_lt fun hw r u hr hu =>
      (i.k hm).one_reader (hsr (hmW.resolve_left hw)) i.b hr hu)

theorem invFo_step {c : Cfg} {e : Nat} (wf : WF c e) (hm : c.rm = .once) {s s' : St} {t : Nat}
    (i : InvAll c s) (f : InvFo c s) (hs : stepSt c s t = some s') : InvFo c s' :=
  -- the sleeper holds `read_mutex`: it is the only one
  invFo_move wf hm (i.pcs (wake_back c s t)) (f.pcs (wake_back c s t)) (moves_of_stepSt hs)
    (woke_all i.b.parked_lt fun _ r u hr hu => (i.d hm).1.exclM r u (by rw [hr]; rfl) (by rw [hu]; rfl))

theorem invF_spur {c : Cfg} {s s' : St} {t : Nat} (i : InvAll c s) (f : InvF c s)
    (hs : spurSt c s t = some s') : InvF c s' :=
  spur_pcs hs fun _ hb => f.pcs hb

theorem invFo_spur {c : Cfg} {s s' : St} {t : Nat} (i : InvAll c s) (f : InvFo c s)
    (hs : spurSt c s t = some s') : InvFo c s' :=
  spur_pcs hs fun _ hb => f.pcs hb

theorem invF_reach {c : Cfg} {e : Nat} (wf : WF c e) (hmW : c.rm = .wait ∨ c.rm = .singleWait)
    (hsr : c.rm = .singleWait → c.nR ≤ 1) {s : St} (hr : Reach (step c) (mkInit c) s) : InvF c s :=
  Reach.inv_of (P := InvAll c) (fun _ => inv_reach wf) (invF_init c)
    (fun _ _ _ _ i f hs => (step_cases hs).elim (invF_spur i f) (invF_step wf hmW hsr i f)) s hr

theorem invFo_reach {c : Cfg} {e : Nat} (wf : WF c e) (hm : c.rm = .once)
    {s : St} (hr : Reach (step c) (mkInit c) s) : InvFo c s :=
  Reach.inv_of (P := InvAll c) (fun _ => inv_reach wf) (invFo_init c)
    (fun _ _ _ _ i f hs => (step_cases hs).elim (invFo_spur i f) (invFo_step wf hm i f)) s hr

/-- **Blocked implies reason** (wait and single-wait readers, DESIGN C03 theorem 1): in every
reachable state a reader parked in `futex_wait(cursor, v)` either waits for a message that has
not been published (`written.length = pre + rk t`: the ring is empty for it) or some writer is
between its publication and its wake call — the wake-up is still to come, it is not lost. The
sleep is conditional on the cursor value the reader saw: `v` is the slot of the awaited position. -/
theorem blocked_reader_has_reason {c : Cfg} {e : Nat} (wf : WF c e)
    (hmW : c.rm = .wait ∨ c.rm = .singleWait) (hsr : c.rm = .singleWait → c.nR ≤ 1)
    {s : St} (hr : Reach (step c) (mkInit c) s) :
    (∀ t, s.pc t = .rBlocked →
      s.written.length = c.pre + s.rk t ∨ ∃ w, w < c.nT ∧ pending (s.pc w) = true) ∧
    (∀ t v, s.pc t = .rFwait v → v = (c.pre + s.rk t) % c.cap) := by
  have f := invF_reach wf hmW hsr hr
  refine ⟨fun t h => ?_, f.fw⟩
  rcases f.bl t h with h1 | h1
  · exact Or.inl h1
  · exact Or.inr (cntP_pos h1)

/-- **Blocked implies reason**, read-once mode: the sleeper (which holds `read_mutex`, so it is the
only one) waits at the consumption point: either everything published has been consumed, or a
writer's wake call is still to come. -/
theorem blocked_once_reader_has_reason {c : Cfg} {e : Nat} (wf : WF c e) (hm : c.rm = .once)
    {s : St} (hr : Reach (step c) (mkInit c) s) :
    (∀ t, s.pc t = .rBlocked →
      s.written.length = s.delivered.length ∨ ∃ w, w < c.nT ∧ pending (s.pc w) = true) ∧
    (∀ t u, s.pc t = .rBlocked → s.pc u = .rBlocked → t = u) := by
  have i := inv_reach wf hr
  have f := invFo_reach wf hm hr
  refine ⟨fun t h => ?_, fun t u ht hu => ((i.d hm).1).exclM t u (by simp [ht, holder]) (by simp [hu, holder])⟩
  rcases f.blo t h with h1 | h1
  · exact Or.inl h1
  · exact Or.inr (cntP_pos h1)

theorem pending_enabled {s : St} {w : Nat} (h : pending (s.pc w) = true) : s.enabled w = true := by
  unfold St.enabled
  cases hp : s.pc w <;> simp_all [pending]

/-- **No global sleep** (wait / single-wait; DESIGN C03 theorem 2): no interleaving of the documented
usage reaches a state in which no participant can take a step while a sleeping reader's message has
been published. (A state with no enabled thread is what the deterministic scheduler reports as
`deadlock`; the writers' throttle and spin loops are never disabled, so such a state has every
writer finished.) -/
theorem no_global_sleep {c : Cfg} {e : Nat} (wf : WF c e)
    (hmW : c.rm = .wait ∨ c.rm = .singleWait) (hsr : c.rm = .singleWait → c.nR ≤ 1)
    {s : St} (hr : Reach (step c) (mkInit c) s) (hall : ∀ t, s.enabled t = false) :
    ∀ t, s.pc t = .rBlocked → s.written.length = c.pre + s.rk t := by
  intro t h
  rcases (blocked_reader_has_reason wf hmW hsr hr).1 t h with h1 | ⟨w, _, hw⟩
  · exact h1
  · have := pending_enabled hw
    rw [hall w] at this
    cases this

/-- **No global sleep**, read-once mode: if no participant can take a step, the reader asleep in the
futex (the `read_mutex` holder the other readers queue behind) has consumed everything published. -/
theorem no_global_sleep_once {c : Cfg} {e : Nat} (wf : WF c e) (hm : c.rm = .once)
    {s : St} (hr : Reach (step c) (mkInit c) s) (hall : ∀ t, s.enabled t = false) :
    ∀ t, s.pc t = .rBlocked → s.written.length = s.delivered.length := by
  intro t h
  rcases (blocked_once_reader_has_reason wf hm hr).1 t h with h1 | ⟨w, _, hw⟩
  · exact h1
  · have := pending_enabled hw
    rw [hall w] at this
    cases this

/-- non-vacuity: in the example configuration of C02 the schedule below parks the reader in the
futex, lets the writer publish, and stops before the wake call: the reader is asleep although its
message exists, and the reason is the pending wake of writer 0. -/
example : ∃ s, Reach (step exCfg) (mkInit exCfg) s ∧ s.pc 1 = .rBlocked ∧
    s.written.length = exCfg.pre + s.rk 1 + 1 ∧ pending (s.pc 0) = true :=
  ⟨runSt exCfg (mkInit exCfg) [0, 1, 1, 1, 0, 0, 0, 0, 0],
   reach_runSt _ _ Reach.init _, by decide, by decide, by decide⟩

end MgProof.C03
