import MgProof.C01.HB
/-!
# C03 — channel: no lost wake-up, no deadlock

Safety formulation (no fairness assumption). `InvP` says that every parked thread has a reason and names the
thread that will remove it (the reasons are spelled out at `blocked_reader_has_reason`,
`cv_waiting_reader_has_reason`, `parked_writer_has_reason`); that this thread can run is derived in
`no_global_sleep` (`disabled_cases`).

It is inductive because parking is an atomic compare-and-block: a thread parks only if the word
still has the value it compared with (`fw`, `rfw`), and `cv-wait` releases `read_mutex` in the step
that starts the wait (`rcw`). `InvP` reads a state only through its `view`; the moves say which
changes of the view keep every parked thread its reason.
-/
namespace MgProof.C03.Channel
open MgModel.Conc MgModel.C01 MgProof.C01

/-- writers that will (re)examine / hand over the futex write lock without further help -/
def lockActive : Pc → Bool
  | .wUnlockWake _ | .wWoken | .wLock => true
  | _ => false

def isBlk : Pc → Bool
  | .wBlocked => true
  | _ => false

def isWPc : Pc → Bool
  | .wPay | .wLock | .wSpinYield | .wFwait _ | .wBlocked | .wWoken | .sLdR | .sRdW _ | .cRdW2 _ | .cWrB _ _
  | .cSt _ | .bRdW | .bRdC _ | .bLdR _ | .bWrC _ _ | .bRdC2 _ | .mLock | .mRdW | .mRdR _ | .mRdW2 _
  | .mWrB _ _ | .mWrW _ | .mUnlock _ | .wUnlock _ | .wUnlockWake _ | .wWake | .wYield | .done => true
  | _ => false

def isRPc : Pc → Bool
  | .rRdR | .rLdW _ | .rFwait _ _ | .rBlocked _ | .rWoken _ | .rRdB _ | .rStR _ _ | .rPay _ | .rmLock
  | .rmRdR | .rmRdW _ | .rmCvWait | .rmCvBlocked | .rmCvSignaled | .rmRdB _ | .rmWrR _ _ | .rmUnlock _
  | .done => true
  | _ => false

def isFw : Pc → Bool
  | .wFwait _ => true
  | _ => false

def isRWait : Pc → Bool
  | .rFwait _ _ | .rBlocked _ | .rmCvWait | .rmCvBlocked => true
  | _ => false

/-- a writer pc at which the thread is neither parked nor about to park -/
def isMove (p : Pc) : Bool := isWPc p && !isBlk p && !isFw p

theorem of_isMove {p : Pc} (h : isMove p = true) :
    isWPc p = true ∧ isBlk p = false ∧ p ≠ .wBlocked ∧ ∀ e, p ≠ .wFwait e := by
  have h' := h
  simp only [isMove, Bool.and_eq_true, Bool.not_eq_true'] at h'
  exact ⟨h'.1.1, h'.1.2, fun e => (by rw [e] at h; cases h), fun _ e => (by rw [e] at h; cases h)⟩

theorem blk_eq {p : Pc} (h : isBlk p = true) : p = .wBlocked := by
  unfold isBlk at h
  split at h
  · rfl
  · cases h

def Ex (P : Pc → Bool) (pc : Nat → Pc) (W : Nat) : Prop := ∃ t, t < W ∧ P (pc t) = true

theorem Ex.new {P : Pc → Bool} {pc : Nat → Pc} {W t0 : Nat} {p' : Pc} (h0 : t0 < W) (hp : P p' = true) :
    Ex P (upd pc t0 p') W := MgModel.Conc.Ex.new (P := (P · = true)) h0 hp

theorem Ex.keep {P : Pc → Bool} {pc : Nat → Pc} {W t0 : Nat} {p' : Pc} (h : Ex P pc W)
    (hk : P (pc t0) = true → P p' = true) : Ex P (upd pc t0 p') W :=
  MgModel.Conc.Ex.keep (P := (P · = true)) h hk

theorem Ex.back {P : Pc → Bool} {pc : Nat → Pc} {W t0 : Nat} {p' : Pc} (h : Ex P (upd pc t0 p') W)
    (hn : P p' = false) : Ex P pc W :=
  MgModel.Conc.Ex.back (P := (P · = true)) h (Bool.eq_false_iff.1 hn)

theorem Ex_upd_reader {P : Pc → Bool} {pc : Nat → Pc} {W : Nat} {p' : Pc} :
    Ex P (upd pc W p') W ↔ Ex P pc W := by
  constructor <;> rintro ⟨t, ht, hp⟩ <;> refine ⟨t, ht, ?_⟩
  · rwa [upd_other _ _ _ _ (Nat.ne_of_lt ht)] at hp
  · rwa [upd_other _ _ _ _ (Nat.ne_of_lt ht)]

structure InvP (s : St) : Prop where
  kindW : ∀ t, t < s.cfg.W → isWPc (s.pc t) = true
  kindR : isRPc (s.pc s.cfg.W) = true
  fw : ∀ t e, t < s.cfg.W → s.pc t = .wFwait e → e ≠ 0 ∧ s.cfg.wl = .sync
  blk : ∀ t, t < s.cfg.W → s.pc t = .wBlocked → s.cfg.wl = .sync
  lock1 : s.cfg.wl = .spin ∨ s.cfg.wl = .sync → s.wlock ≠ 0 → s.holder ≠ none
  park : Ex isBlk s.pc s.cfg.W → s.wlock ≠ 0 ∨ Ex lockActive s.pc s.cfg.W
  rfw : ∀ rpos wpos, s.pc s.cfg.W = .rFwait rpos wpos → wpos = rpos ∧ s.cfg.rm = .sync
  rbl : ∀ rpos, s.pc s.cfg.W = .rBlocked rpos → s.cfg.rm = .sync ∧
    (s.wc = rpos ∨ Ex published s.pc s.cfg.W)
  rcw : s.pc s.cfg.W = .rmCvWait → s.cfg.rm = .mutex ∧ s.accepted.length = s.delivered.length
  rcb : s.pc s.cfg.W = .rmCvBlocked → s.cfg.rm = .mutex ∧
    (s.accepted.length = s.delivered.length ∨ Ex published s.pc s.cfg.W)

/-! ### the moves (for the literal post-states of `WStep` / `RStep` the hypothesis on the view is `rfl`) -/

def view (s : St) : Cfg × (Nat → Pc) × Nat × Option Nat × Nat × Nat × Nat :=
  (s.cfg, s.pc, s.wlock, s.holder, s.wc, s.accepted.length, s.delivered.length)

theorem view_eq {s' : St} {c : Cfg} {pc : Nat → Pc} {w : Nat} {ho : Option Nat} {wc A D : Nat}
    (h : view s' = (c, pc, w, ho, wc, A, D)) :
    s'.cfg = c ∧ s'.pc = pc ∧ s'.wlock = w ∧ s'.holder = ho ∧ s'.wc = wc ∧ s'.accepted.length = A ∧
      s'.delivered.length = D := by
  simpa only [view, Prod.mk.injEq] using h

variable {s s' : St} {t : Nat} {p p' : Pc} {w' wc' A' D' : Nat} {ho' : Option Nat}

/-! Writer `t` goes to `p'`. `wgen`: every clause that can change is to be supplied; `wkeep`: cursors and counts unchanged;
`wmove`: lock word unchanged too and `p'` no parking pc; `wstays`: the same with the side conditions evaluated (`stays`);
`wlocked`: the lock word is non-zero afterwards; `wdone`: `t` stops being `lockActive`, somebody else is. -/

theorem InvP_wgen (hi : InvP s) (ht : t < s.cfg.W)
    (hv : view s' = (s.cfg, upd s.pc t p', w', ho', wc', A', D'))
    (c1 : isWPc p' = true) (c3 : p' = .wBlocked → s.cfg.wl = .sync)
    (c4 : ∀ e, p' = .wFwait e → e ≠ 0 ∧ s.cfg.wl = .sync)
    (hlock1 : s.cfg.wl = .spin ∨ s.cfg.wl = .sync → w' ≠ 0 → ho' ≠ none)
    (hpark : Ex isBlk (upd s.pc t p') s.cfg.W → w' ≠ 0 ∨ Ex lockActive (upd s.pc t p') s.cfg.W)
    (hrbl : ∀ rpos, s.pc s.cfg.W = .rBlocked rpos → wc' = rpos ∨ Ex published (upd s.pc t p') s.cfg.W)
    (hrcw : s.pc s.cfg.W = .rmCvWait → A' = D')
    (hrcb : s.pc s.cfg.W = .rmCvBlocked → A' = D' ∨ Ex published (upd s.pc t p') s.cfg.W) : InvP s' := by
  obtain ⟨e1, e2, e3, e4, e5, e6, e7⟩ := view_eq hv
  have hW : upd s.pc t p' s.cfg.W = s.pc s.cfg.W := upd_other _ _ _ _ (Nat.ne_of_gt ht)
  refine ⟨?_, ?_, ?_, ?_, ?_, ?_, ?_, ?_, ?_, ?_⟩
  all_goals simp only [e1, e2, e3, e4, e5, e6, e7, hW]
  · exact fun u hu => upd_intro (Q := (isWPc · = true)) (fun _ => c1) (fun _ => hi.kindW u hu)
  · exact hi.kindR
  · exact fun u e hu hp => (upd_eq_cases hp).elim (fun h => c4 e h.2)
      (fun h => hi.fw u e hu h.2)
  · exact fun u hu hp => (upd_eq_cases hp).elim (fun h => c3 h.2)
      (fun h => hi.blk u hu h.2)
  · exact hlock1
  · exact hpark
  · exact hi.rfw
  · exact fun rpos hp => ⟨(hi.rbl rpos hp).1, hrbl rpos hp⟩
  · exact fun hp => ⟨(hi.rcw hp).1, hrcw hp⟩
  · exact fun hp => ⟨(hi.rcb hp).1, hrcb hp⟩

def rAwake (s : St) : Prop := (∀ r, s.pc s.cfg.W ≠ .rBlocked r) ∧ s.pc s.cfg.W ≠ .rmCvBlocked

theorem busy_not_blocked (hi : InvP s) (hbz : s.cfg.rm = .busy) : rAwake s :=
  ⟨fun r hp => (by have := (hi.rbl r hp).1; rw [hbz] at this; cases this),
   fun hp => (by have := (hi.rcb hp).1; rw [hbz] at this; cases this)⟩

theorem InvP_wkeep (hi : InvP s) (ht : t < s.cfg.W)
    (hv : view s' = (s.cfg, upd s.pc t p', w', ho', s.wc, s.accepted.length, s.delivered.length))
    (c1 : isWPc p' = true) (c3 : p' = .wBlocked → s.cfg.wl = .sync)
    (c4 : ∀ e, p' = .wFwait e → e ≠ 0 ∧ s.cfg.wl = .sync)
    (hlock1 : s.cfg.wl = .spin ∨ s.cfg.wl = .sync → w' ≠ 0 → ho' ≠ none)
    (hpark : Ex isBlk (upd s.pc t p') s.cfg.W → w' ≠ 0 ∨ Ex lockActive (upd s.pc t p') s.cfg.W)
    (hpub : published (s.pc t) = true → published p' = true ∨ rAwake s) : InvP s' :=
  InvP_wgen hi ht hv c1 c3 c4 hlock1 hpark
    (fun rpos hp => (hi.rbl rpos hp).2.imp_right fun h => h.keep fun hx =>
      (hpub hx).elim id fun h => absurd hp (h.1 rpos))
    (fun hp => (hi.rcw hp).2)
    (fun hp => (hi.rcb hp).2.imp_right fun h => h.keep fun hx =>
      (hpub hx).elim id fun h => absurd hp h.2)

theorem published_or_awake (hi : InvP s) {p p' : Pc}
    (c6 : s.cfg.rm ≠ .busy → published p = true → published p' = true) (hx : published p = true) :
    published p' = true ∨ rAwake s :=
  if hb : s.cfg.rm = .busy then .inr (busy_not_blocked hi hb) else .inl (c6 hb hx)

theorem InvP_wmove (hi : InvP s) (ht : t < s.cfg.W)
    (hv : view s' = (s.cfg, upd s.pc t p', s.wlock, ho', s.wc, s.accepted.length, s.delivered.length))
    (hh : s.cfg.wl = .spin ∨ s.cfg.wl = .sync → ho' = s.holder) (cm : isMove p' = true)
    (c5 : lockActive (s.pc t) = true → lockActive p' = true)
    (c6 : s.cfg.rm ≠ .busy → published (s.pc t) = true → published p' = true) : InvP s' := by
  obtain ⟨c1, c2, c3, c4⟩ := of_isMove cm
  exact InvP_wkeep hi ht hv c1 (fun h => absurd h c3) (fun e h => absurd h (c4 e))
    (fun hx h0 => hh hx ▸ hi.lock1 hx h0)
    (fun hb => (hi.park (hb.back c2)).imp_right fun h => h.keep c5) (published_or_awake hi c6)

/-- the side conditions of `InvP_wmove`, to be evaluated -/
def stays (p p' : Pc) : Bool :=
  isMove p' && (!lockActive p || lockActive p') && (!published p || published p')

theorem InvP_wstays (hi : InvP s) (ht : t < s.cfg.W)
    (hv : view s' = (s.cfg, upd s.pc t p', s.wlock, s.holder, s.wc, s.accepted.length, s.delivered.length))
    (hpc : s.pc t = p) (ok : stays p p' = true) : InvP s' := by
  subst hpc
  simp only [stays, Bool.and_eq_true, Bool.or_eq_true, Bool.not_eq_eq_eq_not, Bool.not_true] at ok
  refine InvP_wmove hi ht hv (fun _ => rfl) ok.1.1 (fun h => ?_) (fun _ h => ?_)
  · rcases ok.1.2 with h' | h'
    · rw [h] at h'; cases h'
    · exact h'
  · rcases ok.2 with h' | h'
    · rw [h] at h'; cases h'
    · exact h'

theorem InvP_wlocked (hi : InvP s) (ht : t < s.cfg.W)
    (hv : view s' = (s.cfg, upd s.pc t p', w', ho', s.wc, s.accepted.length, s.delivered.length))
    (hw : s.cfg.wl = .sync → w' ≠ 0) (hl : s.cfg.wl = .spin ∨ s.cfg.wl = .sync → w' ≠ 0 → ho' ≠ none)
    (c1 : isWPc p' = true) (c3 : p' = .wBlocked → s.cfg.wl = .sync)
    (c4 : ∀ e, p' = .wFwait e → e ≠ 0 ∧ s.cfg.wl = .sync) (hpc : s.pc t = p)
    (c6 : published p = false) : InvP s' := by
  refine InvP_wkeep hi ht hv c1 c3 c4 hl ?_ (by rw [hpc, c6]; nofun)
  rintro ⟨u, hu, hp⟩
  exact .inl (hw ((upd_eq_cases (blk_eq hp)).elim (fun h => c3 h.2)
    (fun h => hi.blk u hu h.2)))

theorem InvP_publish (hi : InvP s) (ht : t < s.cfg.W)
    (hv : view s' = (s.cfg, upd s.pc t p', s.wlock, ho', wc', A', s.delivered.length))
    (hh : s.cfg.wl = .spin ∨ s.cfg.wl = .sync → ho' = s.holder) (cm : isMove p' = true)
    (hpc : s.pc t = p) (c5 : lockActive p = false) (hp : s.cfg.rm ≠ .busy → published p' = true)
    (hcw : s.pc s.cfg.W ≠ .rmCvWait) : InvP s' := by
  obtain ⟨c1, c2, c3, c4⟩ := of_isMove cm
  refine InvP_wgen hi ht hv c1 (fun h => absurd h c3) (fun e h => absurd h (c4 e)) ?_ ?_ ?_ ?_ ?_
  · exact fun hx h0 => hh hx ▸ hi.lock1 hx h0
  · exact fun hb => (hi.park (hb.back c2)).imp_right fun h => h.keep (by rw [hpc, c5]; nofun)
  · exact fun rpos h => .inr (Ex.new ht (hp (by rw [(hi.rbl rpos h).1]; nofun)))
  · exact fun h => absurd h hcw
  · exact fun h => .inr (Ex.new ht (hp (by rw [(hi.rcb h).1]; nofun)))

theorem InvP_unlock (hi : InvP s) (ht : t < s.cfg.W)
    (hv : view s' = (s.cfg, upd s.pc t p', w', none, s.wc, s.accepted.length, s.delivered.length))
    (hw : w' = 0 ∨ s.cfg.wl = .mutex) (cm : isMove p' = true)
    (c5 : s.cfg.wl = .sync → lockActive p' = true)
    (c6 : s.cfg.rm ≠ .busy → published (s.pc t) = true → published p' = true) : InvP s' := by
  obtain ⟨c1, c2, c3, c4⟩ := of_isMove cm
  refine InvP_wkeep hi ht hv c1 (fun h => absurd h c3) (fun e h => absurd h (c4 e)) ?_ ?_ (published_or_awake hi c6)
  · rintro hx h0
    rcases hw with hw | hw
    · exact absurd hw h0
    · rw [hw] at hx; rcases hx with hx | hx <;> cases hx
  · intro hb
    obtain ⟨u, hu, hp⟩ := hb.back c2
    exact .inr (Ex.new ht (c5 (hi.blk u hu (blk_eq hp))))

theorem InvP_wdone (hi : InvP s) (ht : t < s.cfg.W)
    (hv : view s' = (s.cfg, upd s.pc t p', s.wlock, s.holder, s.wc, s.accepted.length, s.delivered.length))
    (cm : isMove p' = true)
    (hpark : Ex isBlk s.pc s.cfg.W → s.wlock ≠ 0 ∨ ∃ w, w < s.cfg.W ∧ w ≠ t ∧ lockActive (s.pc w) = true)
    (hpub : published (s.pc t) = true → published p' = true ∨ rAwake s) : InvP s' := by
  obtain ⟨c1, c2, c3, c4⟩ := of_isMove cm
  exact InvP_wkeep hi ht hv c1 (fun h => absurd h c3) (fun e h => absurd h (c4 e)) hi.lock1
    (fun hb => (hpark (hb.back c2)).imp_right fun ⟨w, hw, hne, ha⟩ =>
      ⟨w, hw, by rw [upd_other _ _ _ _ hne]; exact ha⟩) hpub

theorem InvP_rstep (hi : InvP s)
    (hv : view s' = (s.cfg, upd s.pc s.cfg.W p', s.wlock, s.holder, wc', A', D')) (c1 : isRPc p' = true)
    (c2 : ∀ a b, p' = .rFwait a b → b = a ∧ s.cfg.rm = .sync)
    (c3 : ∀ a, p' = .rBlocked a → s.cfg.rm = .sync ∧ wc' = a)
    (c4 : p' = .rmCvWait → s.cfg.rm = .mutex ∧ A' = D')
    (c5 : p' = .rmCvBlocked → s.cfg.rm = .mutex ∧ A' = D') : InvP s' := by
  obtain ⟨e1, e2, e3, e4, e5, e6, e7⟩ := view_eq hv
  have hne : ∀ u, u < s.cfg.W → upd s.pc s.cfg.W p' u = s.pc u :=
    fun u hu => upd_other _ _ _ _ (Nat.ne_of_lt hu)
  refine ⟨?_, ?_, ?_, ?_, ?_, ?_, ?_, ?_, ?_, ?_⟩
  all_goals simp only [e1, e2, e3, e4, e5, e6, e7, upd_same, Ex_upd_reader]
  · exact fun u hu => hne u hu ▸ hi.kindW u hu
  · exact c1
  · exact fun u e hu hp => hi.fw u e hu (hne u hu ▸ hp)
  · exact fun u hu hp => hi.blk u hu (hne u hu ▸ hp)
  · exact hi.lock1
  · exact hi.park
  · exact c2
  · exact fun a hp => ⟨(c3 a hp).1, .inl (c3 a hp).2⟩
  · exact c4
  · exact fun hp => ⟨(c5 hp).1, .inl (c5 hp).2⟩

theorem InvP_rmove (hi : InvP s)
    (hv : view s' = (s.cfg, upd s.pc s.cfg.W p', s.wlock, s.holder, wc', A', D')) (c1 : isRPc p' = true)
    (c2 : isRWait p' = false) : InvP s' :=
  InvP_rstep hi hv c1 (fun _ _ h => by rw [h] at c2; cases c2) (fun _ h => by rw [h] at c2; cases c2)
    (fun h => by rw [h] at c2; cases c2) (fun h => by rw [h] at c2; cases c2)

theorem view_enterCall (s : St) (t : Nat) :
    view (enterCall s t) = (s.cfg, upd s.pc t (if s.cfg.wl = .single then entryFn s.cfg.rm else .wLock),
      s.wlock, if s.cfg.wl = .single then some t else s.holder, s.wc, s.accepted.length,
      s.delivered.length) := by
  rw [enterCall_eq]; rfl

theorem view_leaveFn (s : St) (t : Nat) (r : Ret) :
    view (leaveFn s t r).1 = (s.cfg, upd s.pc t (lfPc s t r), s.wlock,
      if s.cfg.wl = .single then none else s.holder, s.wc, s.accepted.length, s.delivered.length) := by
  rw [leaveFn_eq]; rfl

theorem view_afterUnlock (s : St) (t : Nat) (r : Ret) :
    view (afterUnlock s t r).1 = (s.cfg, upd s.pc t (auPc s t r), s.wlock, s.holder, s.wc,
      s.accepted.length, s.delivered.length) := by
  rw [afterUnlock_eq]; rfl

theorem view_finishCall (s : St) (t : Nat) (r : Ret) :
    view (finishCall s t r).1 = (s.cfg, upd s.pc t (fcPc s t r), s.wlock, s.holder, s.wc,
      s.accepted.length, s.delivered.length) := by
  rw [finishCall_eq]; rfl

theorem view_readReturned (s : St) (t : Nat) (d : Option Msg) :
    view (readReturned s t d).1 = (s.cfg, upd s.pc t (rrPc s t d), s.wlock, s.holder, s.wc,
      s.accepted.length, s.delivered.length) := by
  rw [readReturned_eq]; rfl

theorem isMove_entryFn (rm : RMode) : isMove (entryFn rm) = true := by cases rm <;> rfl

theorem isMove_fcPc (s : St) (t : Nat) (r : Ret) : isMove (fcPc s t r) = true := by
  rcases fcPc_cases s t r with h | h | ⟨h, -⟩ <;> rw [h] <;> rfl

theorem isMove_auPc (s : St) (t : Nat) (r : Ret) : isMove (auPc s t r) = true := by
  rcases auPc_cases s t r with ⟨h, -⟩ | h | h | ⟨h, -⟩ <;> rw [h] <;> rfl

theorem isMove_lfPc (s : St) (t : Nat) (r : Ret) : isMove (lfPc s t r) = true := by
  rcases lfPc_cases s t r with ⟨-, h⟩ | ⟨-, ⟨h, -⟩ | h | h | ⟨h, -⟩⟩ <;> rw [h] <;> rfl

theorem ok_of_published {p : Pc} {r : Ret} (h : p = .mUnlock r ∨ p = .wUnlock r ∨ p = .wUnlockWake r)
    (hp : published p = true) : r = .ok := by
  rcases h with rfl | rfl | rfl <;> cases r <;> first | rfl | cases hp

theorem auPc_pub (s : St) (t : Nat) (r : Ret) (hb : s.cfg.rm ≠ .busy) (hp : r = .ok) :
    published (auPc s t r) = true := by
  subst hp; rw [auPc_ok_wake s t hb]; rfl

theorem ite_single {α : Type} {wl : WLock} (hx : wl = .spin ∨ wl = .sync) (a b : α) :
    (if wl = .single then a else b) = b :=
  if_neg (by rcases hx with hx | hx <;> rw [hx] <;> nofun)

theorem InvP_enter {s1 : St} (hi : InvP s) (ht : t < s.cfg.W) (hv : view s1 = view s)
    (hpc : s.pc t = p) (ha : lockActive p = false) (hp : published p = false) :
    InvP (enterCall s1 t) := by
  obtain ⟨e1, e2, e3, e4, e5, e6, e7⟩ := view_eq hv
  refine InvP_wmove (p' := if s.cfg.wl = .single then entryFn s.cfg.rm else .wLock)
    (ho' := if s.cfg.wl = .single then some t else s.holder) hi ht
    (by rw [view_enterCall, e1, e2, e3, e4, e5, e6, e7]) (fun hx => ite_single hx _ _) ?_
    (by rw [hpc, ha]; nofun) (by rw [hpc, hp]; nofun)
  · split
    · exact isMove_entryFn _
    · rfl

theorem InvP_leave {s1 : St} {r : Ret} (hi : InvP s) (ht : t < s.cfg.W) (hv : view s1 = view s)
    (hpc : s.pc t = p) (ha : lockActive p = false) (hp : published p = true → r = .ok) :
    InvP (leaveFn s1 t r).1 := by
  obtain ⟨e1, e2, e3, e4, e5, e6, e7⟩ := view_eq hv
  refine InvP_wmove (p' := lfPc s1 t r) (ho' := if s.cfg.wl = .single then none else s.holder) hi ht
    (by rw [view_leaveFn, e1, e2, e3, e4, e5, e6, e7]) (fun hx => ite_single hx _ _)
    (isMove_lfPc s1 t r) (by rw [hpc, ha]; nofun) (fun hb h => ?_)
  rw [hp (hpc ▸ h)]; exact lfPc_ok_pub s1 t (by rw [e1]; exact hb)

theorem rNext_not_waiting (s : St) (t : Nat) : isRPc (rNext s t) = true ∧ isRWait (rNext s t) = false := by
  rcases rNext_cases s t with ⟨h, -⟩ | ⟨h, -⟩ | h <;> rw [h] <;> exact ⟨rfl, rfl⟩

theorem rrPc_not_waiting (s : St) (t : Nat) (d : Option Msg) :
    isRPc (rrPc s t d) = true ∧ isRWait (rrPc s t d) = false := by
  cases d with
  | none => rw [rrPc_none]; exact rNext_not_waiting s t
  | some m => rw [rrPc_some]; exact ⟨rfl, rfl⟩

theorem park_other (hi : InvP s) (hna : lockActive (s.pc t) = false) (hb : Ex isBlk s.pc s.cfg.W) :
    s.wlock ≠ 0 ∨ ∃ w, w < s.cfg.W ∧ w ≠ t ∧ lockActive (s.pc w) = true :=
  (hi.park hb).imp_right fun ⟨w, hw, ha⟩ => ⟨w, hw, fun e => (by rw [e, hna] at ha; cases ha), ha⟩

/-- `fn_wake` found nobody to wake: the reader is not parked -/
theorem InvP_woken (hi : InvP s) (ht : t < s.cfg.W) (hpc : s.pc t = .wWake)
    (hnb : rAwake s) : InvP (finishCall s t .ok).1 :=
  InvP_wdone hi ht (view_finishCall s t .ok) (isMove_fcPc s t .ok) (park_other hi (by rw [hpc]; rfl))
    (fun _ => .inr hnb)

/-- `fn_wake` woke the reader, which goes to `p'` -/
theorem InvP_woke (hi : InvP s) (ht : t < s.cfg.W) (hpc : s.pc t = .wWake) (c1 : isRPc p' = true)
    (c2 : isRWait p' = false) : InvP (finishCall { s with pc := upd s.pc s.cfg.W p' } t .ok).1 := by
  refine InvP_woken (InvP_rmove hi rfl c1 c2) ht ?_ ?_
  · show upd s.pc s.cfg.W p' t = .wWake
    rw [upd_other _ _ _ _ (Nat.ne_of_lt ht), hpc]
  · show (∀ a, upd s.pc s.cfg.W p' s.cfg.W ≠ .rBlocked a) ∧ upd s.pc s.cfg.W p' s.cfg.W ≠ .rmCvBlocked
    rw [upd_same]
    exact ⟨fun a h => (by rw [h] at c2; cases c2), fun h => (by rw [h] at c2; cases c2)⟩

theorem InvP_acquire (hi : InvP s) (ht : t < s.cfg.W)
    (hv : view s' = (s.cfg, upd s.pc t (entryFn s.cfg.rm), w', some t, s.wc, s.accepted.length,
      s.delivered.length))
    (hw : s.cfg.wl = .sync → w' ≠ 0) (hpc : s.pc t = p) (c6 : published p = false) : InvP s' :=
  have ⟨c1, _, c3, c4⟩ := of_isMove (isMove_entryFn s.cfg.rm)
  InvP_wlocked hi ht hv hw (fun _ _ => nofun) c1 (fun h => absurd h c3) (fun e h => absurd h (c4 e)) hpc c6

theorem stays_of_probe {p p' : Pc} (h : Probe s p p') : stays p p' = true := by cases h <;> rfl

theorem WStep.invP (ht : t < s.cfg.W) (hI : Inv s) (hi : InvP s) (h : WStep s t s') : InvP s' := by
  cases h with
  | spin hp hl =>
    -- a writer that gives up on the lock saw the word set; one that parks saw it still set
    cases hl with
    | spinYield | woken | eagain _ => exact InvP_wstays hi ht rfl hp rfl
    | park he =>
      have hf := hi.fw t _ ht hp
      exact InvP_wlocked hi ht rfl (fun _ => he ▸ hf.1) (fun hx => hi.lock1 hx) rfl (fun _ => hf.2) nofun hp rfl
    | spinBusy _ hne => exact InvP_wlocked hi ht rfl (fun _ => hne) (fun hx _ => hi.lock1 hx hne) rfl nofun nofun hp rfl
    | syncBusy hwl hne =>
      exact InvP_wlocked hi ht rfl (fun _ => hne) (fun hx _ => hi.lock1 hx hne) rfl nofun
        (fun e he => by cases he; exact ⟨hne, hwl⟩) hp rfl
  | probe hp hl => exact InvP_wstays hi ht rfl hp (stays_of_probe hl)
  | ldR hp | ldRB hp => exact InvP_wstays hi ht rfl hp rfl
  | pay hp => exact InvP_enter hi ht rfl hp rfl rfl
  | yield hp => exact InvP_enter hi ht rfl hp rfl rfl
  | acquire hp hq =>
    rcases hq with ⟨-, -, rfl⟩ | ⟨hwl, rfl⟩
    · exact InvP_acquire hi ht rfl (fun _ => Nat.one_ne_zero) hp rfl
    · exact InvP_acquire hi ht rfl (fun hx => by rw [hwl] at hx; cases hx) hp rfl
  | slot hp | slotM hp => exact InvP_wstays hi ht rfl hp rfl
  | cache hp => exact InvP_wstays hi ht rfl hp rfl
  | full hp | fullB hp => exact InvP_leave hi ht rfl hp rfl nofun
  | fullM hp => exact InvP_wstays hi ht rfl hp rfl
  | publish hp =>
    -- the holder of the write lock is at `cSt` only if the reader mode is not `mutex`
    have hw := hI.wloc_at ht hp rfl
    exact InvP_publish hi ht (view_leaveFn _ t .ok) (fun hx => ite_single hx _ _) (isMove_lfPc _ t .ok)
      hp rfl (fun hb => lfPc_ok_pub _ t hb) (fun h => hw.2.2.2.2 (hi.rcw h).1)
  | publishM hp =>
    -- `t` owns `read_mutex`, so the reader is not about to wait on the condition variable
    have hr := hI.owns (Nat.le_of_lt ht) hp rfl
    refine InvP_publish hi ht rfl (fun _ => rfl) rfl hp rfl (fun _ => rfl) fun hp' => ?_
    have := hI.owns (Nat.le_refl _) hp' rfl
    rw [hr] at this; cases this; exact Nat.lt_irrefl _ ht
  | rmLock hp => exact InvP_wstays hi ht rfl hp rfl
  | rmUnlock hp => exact InvP_leave hi ht rfl hp rfl (ok_of_published (.inl rfl))
  | @unlock r _ hp hq =>
    have hr : ∀ s1 : St, s1.cfg.rm ≠ .busy → published (s.pc t) = true → published (auPc s1 t r) = true :=
      fun s1 hb hp' => auPc_pub s1 t r hb (ok_of_published (.inr (.inl hp)) hp')
    exact InvP_unlock hi ht (view_afterUnlock _ t r) (hq.imp And.right And.left) (isMove_auPc _ t r)
      (fun hx => by rcases hq with ⟨h, -⟩ | ⟨h, -⟩ <;> rw [h] at hx <;> cases hx) (fun hb hp' => hr _ hb hp')
  | @unlockSync r hp _ =>
    exact InvP_unlock hi ht rfl (.inl rfl) rfl (fun _ => rfl) (fun _ => by rw [hp]; cases r <;> exact id)
  | @handOver r w hp hlt hne hb =>
    have hr : published (s.pc t) = true → r = .ok := ok_of_published (.inr (.inr hp))
    have hi1 : InvP { s with pc := upd s.pc w .wWoken } := InvP_wstays hi hlt rfl hb rfl
    refine InvP_wdone hi1 ht (view_afterUnlock _ t r) (isMove_auPc _ t r)
      (fun _ => .inr ⟨w, hlt, hne, ?_⟩)
      (fun hp' => published_or_awake hi1 (fun hb _ => auPc_pub _ t r hb (hr ?_)) hp')
    · show lockActive (upd s.pc w .wWoken w) = true
      rw [upd_same]; rfl
    · rwa [show s.pc t = upd s.pc w .wWoken t from (upd_other _ _ _ _ (Ne.symm hne)).symm]
  | @noWaiter r hp hnone =>
    have hr : published (s.pc t) = true → r = .ok := ok_of_published (.inr (.inr hp))
    exact InvP_wdone hi ht (view_afterUnlock s t r) (isMove_auPc s t r)
      (fun ⟨u, hu, hp'⟩ => absurd (blk_eq hp') (hnone u hu))
      (fun hp' => published_or_awake hi (fun hb _ => auPc_pub s t r hb (hr hp')) hp')
  | wake hp hq => obtain ⟨_, ⟨-, -, rfl⟩ | ⟨-, -, rfl⟩⟩ := hq <;> exact InvP_woke hi ht hp rfl rfl
  | noSleeper hp hq =>
    -- the reader sleeps on the futex only in sync mode, on the condition variable only in mutex mode
    refine InvP_woken hi ht hp ?_
    rcases hq with ⟨hrm, hnb⟩ | ⟨hrm, hnb⟩
    · exact ⟨hnb, fun h => by have := (hi.rcb h).1; rw [hrm] at this; cases this⟩
    · exact ⟨fun a h => (by have := (hi.rbl a h).1; rw [hrm] at this; cases this), hnb⟩

theorem RStep.invP (hI : Inv s) (hB : InvHB s) (hi : InvP s) (h : RStep s s.cfg.W s') : InvP s' := by
  cases h with
  | look hp hl =>
    cases hl with
    | pos | eagain _ | woken | slot | mPos | mSome _ | mSlot => exact InvP_rmove hi rfl rfl rfl
    | park he =>
      have hf := hi.rfw _ _ hp
      exact InvP_rstep hi rfl rfl nofun (fun a h => by cases h; exact ⟨hf.2, he.trans hf.1⟩) nofun nofun
    | @mEmpty rpos he =>
      -- `InvHB` serves as the table from the reader's pc to the reader mode, here and at `ldW`
      have hl : rpos = s.delivered.length % s.cfg.cap := hI.rloc_at hp
      exact InvP_rstep hi rfl rfl nofun nofun (fun _ => ⟨hB.rd_at hp, hI.empty_iff.1 (he.symm.trans hl)⟩) nofun
  | ldW hp hq =>
    have hm : s.cfg.rm ≠ .mutex := hB.rd_at hp
    rcases hq with ⟨-, rfl⟩ | ⟨heq, ⟨-, rfl⟩ | ⟨hnb, rfl⟩⟩
    · exact InvP_rmove hi rfl rfl rfl
    · exact InvP_rmove hi rfl rfl rfl
    · refine InvP_rstep hi rfl rfl (fun a b he => ?_) nofun nofun nofun
      cases he
      refine ⟨heq, ?_⟩
      cases hrm : s.cfg.rm with
      | sync => rfl
      | mutex => exact absurd hrm hm
      | busy => exact absurd hrm hnb
  | consume _ | rmUnlock _ =>
    exact InvP_rmove hi (view_readReturned _ _ _) (rrPc_not_waiting _ _ _).1 (rrPc_not_waiting _ _ _).2
  | pay _ =>
    exact InvP_rmove hi rfl (rNext_not_waiting _ _).1 (rNext_not_waiting _ _).2
  | rmLock _ _ | consumeM _ => exact InvP_rmove hi rfl rfl rfl
  | cvWait hp => exact InvP_rstep hi rfl rfl nofun nofun nofun (fun _ => hi.rcw hp)

/-- the interrupted futex wait (EINTR) preserves blocked-implies-reason: a reader that leaves the
futex re-loads `write_cursor`; a writer that leaves it retries the lock (it is `lockActive`, so every
writer still parked keeps its reason) -/
theorem spur_invP {s : St} {t : Nat} {q : Pc} (hle : t ≤ s.cfg.W) (hi : InvP s)
    (hq : (∃ rpos, s.pc t = .rBlocked rpos ∧ q = .rLdW rpos) ∨ (s.pc t = .wBlocked ∧ q = .wLock)) :
    InvP { s with pc := upd s.pc t q } := by
  rcases Nat.lt_or_eq_of_le hle with hlt | rfl
  · -- a writer: `wBlocked → wLock` is an ordinary move
    have hk := hi.kindW t hlt
    rcases hq with ⟨rpos, hp, rfl⟩ | ⟨hp, rfl⟩
    · rw [hp] at hk; cases hk
    · exact InvP_wstays hi hlt rfl hp rfl
  · have hk := hi.kindR
    rcases hq with ⟨rpos, hp, rfl⟩ | ⟨hp, rfl⟩
    · exact InvP_rmove hi rfl rfl rfl
    · rw [hp] at hk; cases hk

theorem Step.invP {s s' : St} (hI : Inv s) (hB : InvHB s) (hi : InvP s) (h : Step s s') : InvP s' := by
  cases h with
  | spur hle hq => exact spur_invP hle hi hq
  | w ht _ h => exact WStep.invP ht hI hi h
  | r _ h => exact RStep.invP hI hB hi h

theorem step_invP {s s' : St} {tok : Tok} {ev : List String} (hI : Inv s) (hB : InvHB s) (hi : InvP s)
    (h : step s tok = some (s', ev)) : InvP s' :=
  Step.invP hI hB hi (step_sound h)

theorem init_invP (c : Cfg) : InvP (mkInit c) := by
  have hw := (init_pc c).1
  have hr : isRPc ((mkInit c).pc c.W) = true ∧ isRWait ((mkInit c).pc c.W) = false := by
    rcases (init_pc c).2 with h | ⟨h, -⟩ | ⟨h, -⟩ <;> rw [h] <;> exact ⟨rfl, rfl⟩
  have nw : ∀ {t p}, t < c.W → (mkInit c).pc t = p → p ≠ .done → p ≠ .wPay → False :=
    fun ht hp h1 h2 => (hw _ ht).elim (fun h => h1 (hp ▸ h)) (fun h => h2 (hp ▸ h))
  have nr : ∀ {p}, (mkInit c).pc c.W = p → isRWait p = true → False :=
    fun hp h => by rw [← hp, hr.2] at h; cases h
  exact ⟨fun t ht => (hw t ht).elim (fun h => h ▸ rfl) (fun h => h ▸ rfl), hr.1,
    fun t e ht hp => (nw ht hp nofun nofun).elim, fun t ht hp => (nw ht hp nofun nofun).elim,
    fun _ h => absurd rfl h, fun ⟨t, ht, hp⟩ => (nw ht (blk_eq hp) nofun nofun).elim,
    fun a b hp => (nr hp rfl).elim, fun a hp => (nr hp rfl).elim, fun hp => (nr hp rfl).elim,
    fun hp => (nr hp rfl).elim⟩

/-- `step_invP` needs `Inv` and `InvHB` of the same state: those of `reach_all` -/
theorem reach_invP (c : Cfg) (hv : Valid c) (s : St) (hr : Reach step (mkInit c) s) :
    Inv s ∧ InvHB s ∧ InvP s :=
  have h := reach_all c hv s hr
  ⟨h.1, h.2.2, Reach.inv_of (reach_all c hv) (init_invP c) (fun _ _ _ _ hP hQ h => step_invP hP.1 hP.2.2 hQ h) s hr⟩

/-- why a thread can be disabled (for an ordinary, non-spurious schedule token) -/
theorem disabled_cases {s : St} {t : Nat} (ht : t ≤ s.cfg.W) (h : s.enabled ⟨t, .none⟩ = false) :
    s.pc t = .done ∨ s.pc t = .wBlocked ∨ (∃ r, s.pc t = .rBlocked r) ∨ s.pc t = .rmCvBlocked ∨
    (s.pc t = .wLock ∧ s.cfg.wl = .mutex ∧ s.holder ≠ none) ∨ (s.pc t = .mLock ∧ s.rmtx ≠ none) ∨
    (s.pc t = .rmLock ∧ s.rmtx ≠ none) ∨ (s.pc t = .rmCvSignaled ∧ s.rmtx ≠ none) := by
  have hn : ∀ {o : Option Nat}, (o.isNone && (Flag.none != Flag.wake)) = false → o ≠ none :=
    fun h e => by rw [e] at h; cases h
  unfold St.enabled at h
  simp only [decide_eq_true ht, Bool.true_and] at h
  split at h
  · exact .inl ‹_›
  · exact .inr (.inl ‹_›)
  · exact .inr (.inr (.inl ⟨_, ‹_›⟩))
  · split at h
    · exact .inr (.inr (.inr (.inr (.inl ⟨‹_›, ‹_›, hn h⟩))))
    · cases h
  · exact .inr (.inr (.inr (.inr (.inr (.inl ⟨‹_›, hn h⟩)))))
  · exact .inr (.inr (.inr (.inr (.inr (.inr (.inl ⟨‹_›, hn h⟩))))))
  · exact .inr (.inr (.inr (.inr (.inr (.inr (.inr ⟨‹_›, hn h⟩))))))
  · exact .inr (.inr (.inr (.inl ‹_›)))
  · cases h

/-- **no global sleep**: if no thread can take an (ordinary) step, then every writer has
finished its program and the reader has either finished or is waiting on an *empty* channel
(it was asked to read more than was ever written): nobody sleeps while a writer still has a
message to write or the reader still wants one that was accepted — for every lock kind, reader
mode, capacity, thread count, workload and schedule. -/
theorem no_global_sleep {c : Cfg} {s : St} (hv : Valid c) (hr : Reach step (mkInit c) s)
    (hdis : ∀ t, s.enabled ⟨t, .none⟩ = false) :
    (∀ t, t < s.cfg.W → s.pc t = .done) ∧
    (s.pc s.cfg.W = .done ∨ s.accepted.length = s.delivered.length) := by
  obtain ⟨hI, -, hP⟩ := reach_invP c hv s hr
  -- nobody owns read_mutex
  have hrm : s.rmtx = none := free_of_outside hI.rmo fun x hx => by
    rcases disabled_cases hx (hdis x) with h | h | ⟨r, h⟩ | h | ⟨h, -⟩ | ⟨h, -⟩ | ⟨h, -⟩ | ⟨h, -⟩ <;> rw [h] <;> rfl
  -- nobody owns the write lock
  have hho : s.holder = none := free_of_outside hI.hold fun x hx => by
    rcases disabled_cases (Nat.le_of_lt hx) (hdis x) with h | h | ⟨r, h⟩ | h | ⟨h, -⟩ | ⟨-, hr'⟩ | ⟨h, -⟩ | ⟨h, -⟩
    · rw [h]; rfl
    · rw [h]; rfl
    · rw [h]; rfl
    · rw [h]; rfl
    · rw [h]; rfl
    · -- the owner may be disabled at `mLock`, inside its critical section — but `read_mutex` is free
      exact absurd hrm hr'
    · rw [h]; rfl
    · rw [h]; rfl
  have hpk : ∀ x, x ≤ s.cfg.W → s.pc x = .done ∨ s.pc x = .wBlocked ∨ (∃ r, s.pc x = .rBlocked r) ∨
      s.pc x = .rmCvBlocked := by
    intro x hx
    rcases disabled_cases hx (hdis x) with h | h | h | h | ⟨-, -, hh⟩ | ⟨-, hr'⟩ | ⟨-, hr'⟩ | ⟨-, hr'⟩
    · exact .inl h
    · exact .inr (.inl h)
    · exact .inr (.inr (.inl h))
    · exact .inr (.inr (.inr h))
    · exact absurd hho hh
    all_goals exact absurd hrm hr'
  have hwl0 : s.cfg.wl = .spin ∨ s.cfg.wl = .sync → s.wlock = 0 := fun hx =>
    Decidable.byContradiction fun h => hP.lock1 hx h hho
  -- no writer is active on the lock, so none is parked on it
  have hnoact : ¬ Ex lockActive s.pc s.cfg.W := by
    rintro ⟨x, hx, ha⟩
    rcases hpk x (Nat.le_of_lt hx) with h | h | ⟨r, h⟩ | h <;> rw [h] at ha <;> cases ha
  have hwdone : ∀ x, x < s.cfg.W → s.pc x = .done := by
    intro x hx
    have hk := hP.kindW x hx
    rcases hpk x (Nat.le_of_lt hx) with h | h | ⟨r, h⟩ | h
    · exact h
    · rcases hP.park ⟨x, hx, by rw [h]; rfl⟩ with h' | h'
      · exact absurd (hwl0 (.inr (hP.blk x hx h))) h'
      · exact absurd h' hnoact
    · rw [h] at hk; cases hk
    · rw [h] at hk; cases hk
  have hnopub : ¬ Ex published s.pc s.cfg.W := by
    rintro ⟨x, hx, hp⟩
    rw [hwdone x hx] at hp; cases hp
  refine ⟨hwdone, ?_⟩
  have hk := hP.kindR
  rcases hpk _ (Nat.le_refl _) with h | h | ⟨r, h⟩ | h
  · exact .inl h
  · rw [h] at hk; cases hk
  · have hl : r = s.delivered.length % s.cfg.cap := hI.rloc_at h
    exact .inr (hI.empty_iff.1 (((hP.rbl r h).2.resolve_right hnopub).trans hl))
  · exact .inr ((hP.rcb h).2.resolve_right hnopub)

/-- **blocked implies reason** (sync reader): a reader parked in `futex_wait(write_cursor, v)`
either still sees `write_cursor = v` (nothing new: the sleep is legitimate), or some writer is
between its publication and its `FUTEX_WAKE` — the wake-up is pending, not lost. -/
theorem blocked_reader_has_reason {c : Cfg} {s : St} (hv : Valid c) (hr : Reach step (mkInit c) s) (rpos : Nat)
    (hp : s.pc s.cfg.W = .rBlocked rpos) :
    s.wc = rpos ∨ ∃ t, t < s.cfg.W ∧ published (s.pc t) = true :=
  ((reach_invP c hv s hr).2.2.rbl rpos hp).2

/-- the same for the mutex reader waiting on `read_cv`: the channel is empty or a writer is
between its publication under `read_mutex` and its `notify_one` -/
theorem cv_waiting_reader_has_reason {c : Cfg} {s : St} (hv : Valid c) (hr : Reach step (mkInit c) s)
    (hp : s.pc s.cfg.W = .rmCvBlocked) :
    s.accepted.length = s.delivered.length ∨ ∃ t, t < s.cfg.W ∧ published (s.pc t) = true :=
  ((reach_invP c hv s hr).2.2.rcb hp).2

/-- a writer parked on the futex write lock: the lock word is set (and there is an owner), or
another writer is about to wake it / was just woken / is about to take the lock -/
theorem parked_writer_has_reason {c : Cfg} {s : St} (hv : Valid c) (hr : Reach step (mkInit c) s) (t : Nat)
    (ht : t < s.cfg.W) (hp : s.pc t = .wBlocked) :
    (s.wlock ≠ 0 ∧ s.holder ≠ none) ∨ ∃ t', t' < s.cfg.W ∧ lockActive (s.pc t') = true := by
  obtain ⟨-, -, hP⟩ := reach_invP c hv s hr
  rcases hP.park ⟨t, ht, by simp [hp, isBlk]⟩ with h | h
  · exact Or.inl ⟨h, hP.lock1 (Or.inr (hP.blk t ht hp)) h⟩
  · exact Or.inr h

/-- the futex word cannot come back to the value the reader slept on while messages are unread
(no ABA on `write_cursor`): at most `cap - 2 < cap` messages separate the cursors -/
theorem no_aba_on_write_cursor {c : Cfg} {s : St} (hv : Valid c) (hr : Reach step (mkInit c) s)
    (h : s.wc = s.delivered.length % s.cfg.cap) : s.accepted.length = s.delivered.length :=
  (reach_invP c hv s hr).1.empty_iff.1 h

/-! non-vacuity: a run in which the reader parks and is woken -/
private def cfg0 : Cfg := { wl := .sync, rm := .sync, capLog := 2, tries := 0, reads := 1, ns := [1] }
example : ((runSched step (mkInit cfg0) ([1, 1, 1].map fun t => { tid := t })).1.pc 1) = .rBlocked 0 := by decide
example : (runSched step (mkInit cfg0)
    ([1, 1, 1, 0, 0, 0, 0, 0, 0, 0, 0, 0, 0, 1, 1, 1, 1, 1].map fun t => { tid := t })).2.2 = true := by decide

end MgProof.C03.Channel
