import MgProof.C01.DBufInv
import MgProof.C03.Due
/-!
# C03 — double buffer: no lost wake-up, no deadlock (mutex + two condition variables)

`InvQ`: what a thread between check and wait found (`Found`), and for each condition variable the wake-ups
due (`Acc`); hence `waiting_consumer_has_reason`, `waiting_producer_has_reason`, `no_global_sleep`.
-/
namespace MgProof.C03.DBuf
open MgModel.Conc MgModel.C01.DBuf MgProof.C01.DBuf
open MgModel.C01 (Msg)

/-- wake-ups due on `cv_not_empty` -/
def dueR : Pc → Nat
  | .rCvSignaled | .dSignal => 1
  | _ => 0

def dueD : Pc → Nat
  | .dCvSignaled | .rSignal => 1
  | _ => 0

/-- what a thread between its check and its `cond_wait` found; a full buffer is non-empty, which is all `dn` needs -/
def Found (back : List Msg) (p : Pc) : Prop := (p = .dCvWait → back ≠ []) ∧ (p = .rCvWait → back = [])

structure InvQ (s : St) : Prop where
  capPos : 0 < s.cfg.cap
  found : ∀ t, t ≤ s.cfg.W → Found s.back (s.pc t)
  /-- while the consumer is parked every item of the back buffer is matched by a `notify_one` to come -/
  rn : Acc .rCvBlocked dueR s.back.length 0 s.pc (s.cfg.W + 1)
  /-- while a producer is parked the back buffer holds an item (the next `read` swaps and notifies) or a wake-up is due -/
  dn : Acc .dCvBlocked dueD 1 s.back.length s.pc (s.cfg.W + 1)

variable {s s' : St} {tok : Tok} {ev : List String} {t : Nat}

theorem dueR_pos {p : Pc} (h : 0 < dueR p) : p = .dSignal ∨ p = .rCvSignaled := by
  cases p
  case dSignal => exact .inl rfl
  case rCvSignaled => exact .inr rfl
  all_goals cases h

theorem dueD_pos {p : Pc} (h : 0 < dueD p) : p = .rSignal ∨ p = .dCvSignaled := by
  cases p
  case rSignal => exact .inl rfl
  case dCvSignaled => exact .inr rfl
  all_goals cases h

theorem look_quiet (s : St) (i k : Nat) : dueR (look s i k) = 0 ∧ dueD (look s i k) = 0 := by
  rcases look_cases s i k with ⟨_, e⟩ | ⟨_, e | e⟩ <;> rw [e] <;> exact ⟨rfl, rfl⟩

theorem _root_.MgProof.C01.DBuf.WantsD.dueR {p : Pc} (h : WantsD p) : dueR p = 0 := by
  rcases h with e | e | e <;> rw [e] <;> rfl

theorem _root_.MgProof.C01.DBuf.WantsR.dueD {p : Pc} (h : WantsR p) : dueD p = 0 := by
  rcases h with e | e | e <;> rw [e] <;> rfl

theorem InvQ.step (hq : InvQ s) (hi : Inv s) (ht : t ≤ s.cfg.W) (h : Step s t s') : InvQ s' := by
  obtain ⟨q0, fd, rn, dn⟩ := hq
  have ht' : t < s.cfg.W + 1 := Nat.lt_succ_of_le ht
  have full_pos : s.back.length = s.cfg.cap → 1 ≤ s.back.length := fun e => e ▸ q0
  have hfd : ∀ u, u ≤ s.cfg.W → Found s'.back (s'.pc u) := by
    refine C01.Monitor.inside_step (P := Found) (x' := s'.back) (pc' := s'.pc) hi.own fd
      (fun p hp => ⟨fun e => (by rw [e] at hp; cases hp), fun e => (by rw [e] at hp; cases hp)⟩)
      (fun u hu => Framed.inside (h.frame hu)) h.back_eq ?_
    cases h <;> simp only [upd_same]
    case dFull _ _ hc _ => exact ⟨fun _ => List.ne_nil_of_length_pos (full_pos hc), nofun⟩
    case rEmpty _ _ hc => exact ⟨nofun, fun _ => List.eq_nil_of_length_eq_zero hc⟩
    case dNext => rcases nextW_cases s t with e | e <;> rw [e] <;> exact ⟨nofun, nofun⟩
    case rUnlock | rItem =>
      exact ⟨fun e => absurd e (look_ne nofun nofun nofun), fun e => absurd e (look_ne nofun nofun nofun)⟩
    all_goals exact ⟨nofun, nofun⟩
  suffices hacc : Acc .rCvBlocked dueR s'.back.length 0 s'.pc (s.cfg.W + 1) ∧
      Acc .dCvBlocked dueD 1 s'.back.length s'.pc (s.cfg.W + 1) by
    rw [← h.cfg_eq] at q0 hfd hacc; exact ⟨q0, hfd, hacc.1, hacc.2⟩
  cases h
  case dPay hpc | dYield hpc | dRetry hpc _ =>
    exact ⟨rn.same ht' nofun (by rw [hpc]; rfl), dn.same ht' nofun (by rw [hpc]; rfl)⟩
  case dNext _ hpc _ =>
    rcases nextW_cases s t with e | e <;> rw [e] <;>
      exact ⟨rn.same ht' nofun (by rw [hpc]; rfl), dn.same ht' nofun (by rw [hpc]; rfl)⟩
  case rUnlock hpc | rItem _ hpc _ _ =>
    obtain ⟨r, d⟩ := look_quiet s _ _
    exact ⟨rn.same ht' (look_ne nofun nofun nofun) (by rw [hpc, r]; rfl),
      dn.same ht' (look_ne nofun nofun nofun) (by rw [hpc, d]; rfl)⟩
  -- the loop condition holds: the thread will wait (or give up)
  case dRefuse hpc _ hc _ | dFull hpc _ hc _ =>
    exact ⟨rn.same ht' nofun hpc.dueR, Acc.outright (full_pos hc)⟩
  case rEmpty hpc _ hc =>
    exact ⟨Acc.outright (Nat.le_of_eq hc), dn.same ht' nofun hpc.dueD⟩
  case dWait hpc =>
    exact ⟨rn.same ht' nofun (by rw [hpc]; rfl), Acc.outright (List.length_pos_iff.2 ((fd t ht).1 hpc))⟩
  case rWait hpc =>
    exact ⟨Acc.outright (by rw [(fd t ht).2 hpc]; exact Nat.le_refl _), dn.same ht' nofun (by rw [hpc]; rfl)⟩
  -- append / swap: the thread owes the matching `notify_one`
  case dWrite hpc _ _ =>
    refine ⟨rn.pays ht' nofun ?_, Acc.outright (by rw [List.length_append]; exact Nat.le_add_left _ _)⟩
    rw [hpc.dueR, List.length_append]; exact Nat.le_refl _
  case rSwap => exact ⟨Acc.outright (Nat.le_refl _), Acc.owes ht' (Nat.le_refl _)⟩
  -- `notify_one`: the debt passes to the woken thread
  case dWake hpc hw =>
    have hne : t ≠ s.cfg.W := fun e => by rw [e, hw] at hpc; cases hpc
    exact ⟨rn.wake ht' (Nat.lt_succ_self _) hne nofun nofun (by rw [hpc, hw]; exact Nat.le_refl _),
      dn.wake ht' (Nat.lt_succ_self _) hne nofun nofun (by rw [hpc, hw]; exact Nat.le_refl _)⟩
  case rWake hpc w hwW hw =>
    have hne : t ≠ w := fun e => by rw [e, hw] at hpc; cases hpc
    exact ⟨rn.wake ht' (Nat.lt_succ_of_lt hwW) hne nofun nofun (by rw [hpc, hw]; exact Nat.le_refl _),
      dn.wake ht' (Nat.lt_succ_of_lt hwW) hne nofun nofun (by rw [hpc, hw]; exact Nat.le_refl _)⟩
  case dNoWake hpc hnr =>
    refine ⟨Acc.nobody nofun fun ⟨u, hu, e⟩ => hnr ?_, dn.same ht' nofun (by rw [hpc]; rfl)⟩
    rw [← hi.reader_of_isR (Nat.le_of_lt_succ hu) (by rw [e]; rfl)]; exact e
  case rNoWake hpc hno =>
    exact ⟨rn.same ht' nofun (by rw [hpc]; rfl), Acc.nobody nofun fun ⟨u, hu, e⟩ =>
      hno u (hi.lt_of_isW (Nat.le_of_lt_succ hu) (by rw [e]; rfl)) e⟩

theorem stepQ (hi : Inv s) (hq : InvQ s) (h : step s tok = some (s', ev)) : InvQ s' :=
  hq.step hi (step_sound h).1 (step_sound h).2

theorem initQ (c : Cfg) (hc : 0 < c.cap) : InvQ (mkInit c) := by
  have start : ∀ p : Pc, p ≠ .dPay → p ≠ .rLock → p ≠ .done → ∀ t, (mkInit c).pc t ≠ p := by
    intro p h1 h2 h3 t e
    rcases mkInit_pc c t with ⟨_, e' | e'⟩ | ⟨_, e' | e'⟩ | e' <;> rw [e'] at e
    · exact h1 e.symm
    · exact h3 e.symm
    · exact h2 e.symm
    · exact h3 e.symm
    · exact h3 e.symm
  exact ⟨hc, fun t _ => ⟨fun e => absurd e (start .dCvWait nofun nofun nofun t),
      fun e => absurd e (start .rCvWait nofun nofun nofun t)⟩,
    fun ⟨t, _, h⟩ => absurd h (start .rCvBlocked nofun nofun nofun t),
    fun ⟨t, _, h⟩ => absurd h (start .dCvBlocked nofun nofun nofun t)⟩

theorem reachQ (c : Cfg) (hc : 0 < c.cap) (s : St) (hr : Reach step (mkInit c) s) : Inv s ∧ InvQ s :=
  Reach.inv (fun s => Inv s ∧ InvQ s) ⟨init_inv c, initQ c hc⟩
    (fun _ _ _ _ hi h => ⟨step_inv hi.1 h, stepQ hi.1 hi.2 h⟩) s hr

theorem disabled_cases {s : St} {t : Nat} (ht : t ≤ s.cfg.W) (h : s.enabled ⟨t, .none⟩ = false) :
    s.pc t = .done ∨ s.pc t = .dCvBlocked ∨ s.pc t = .rCvBlocked ∨
    ((s.pc t = .dLock ∨ s.pc t = .rLock ∨ s.pc t = .dCvSignaled ∨ s.pc t = .rCvSignaled) ∧ s.mtx ≠ none) := by
  cases hpc : s.pc t <;> simp [St.enabled, hpc, ht] at h ⊢
  all_goals (intro e; rw [e] at h; simp at h)

/-- **blocked implies reason** (consumer): waiting on `cv_not_empty` only with an empty back
buffer, or while some producer is between its append and its `notify_one` -/
theorem waiting_consumer_has_reason {c : Cfg} {s : St} (hc : 0 < c.cap) (hr : Reach step (mkInit c) s)
    (hp : s.pc s.cfg.W = .rCvBlocked) : s.back = [] ∨ ∃ t, t < s.cfg.W ∧ s.pc t = .dSignal := by
  obtain ⟨hI, hQ⟩ := reachQ c hc s hr
  by_cases hb : s.back = []
  · exact .inl hb
  obtain ⟨t, ht, hw⟩ := hQ.rn.reason ⟨_, Nat.lt_succ_self _, hp⟩ (List.length_pos_iff.2 hb)
  rcases dueR_pos hw with e | e
  · exact .inr ⟨t, hI.lt_of_isW (Nat.le_of_lt_succ ht) (by rw [e]; rfl), e⟩
  · rw [hI.reader_of_isR (Nat.le_of_lt_succ ht) (by rw [e]; rfl), hp] at e; cases e

/-- **blocked implies reason** (producers): if some producer waits on `cv_not_full`, the back
buffer is non-empty (the next `read` will swap and notify), or the consumer is about to
notify, or a notified producer only waits for the mutex -/
theorem waiting_producer_has_reason {c : Cfg} {s : St} (hc : 0 < c.cap) (hr : Reach step (mkInit c) s) (t : Nat)
    (ht : t < s.cfg.W) (hp : s.pc t = .dCvBlocked) :
    s.back ≠ [] ∨ s.pc s.cfg.W = .rSignal ∨ ∃ t', t' < s.cfg.W ∧ s.pc t' = .dCvSignaled := by
  obtain ⟨hI, hQ⟩ := reachQ c hc s hr
  by_cases hb : s.back = []
  case neg => exact .inl hb
  obtain ⟨u, hu, hw⟩ := hQ.dn.reason ⟨t, Nat.lt_succ_of_lt ht, hp⟩ (by rw [hb]; exact Nat.one_pos)
  rcases dueD_pos hw with e | e
  · exact .inr (.inl (hI.reader_of_isR (Nat.le_of_lt_succ hu) (by rw [e]; rfl) ▸ e))
  · exact .inr (.inr ⟨u, hI.lt_of_isW (Nat.le_of_lt_succ hu) (by rw [e]; rfl), e⟩)

/-- **no global sleep**: if no thread can take an (ordinary) step, then the consumer has
finished (it stopped consuming), or every producer has finished and the back buffer is empty.
So no state is globally stuck with the consumer still reading — also when several producers wait
and each `read` notifies only one. -/
theorem no_global_sleep {c : Cfg} {s : St} (hc : 0 < c.cap) (hr : Reach step (mkInit c) s)
    (hdis : ∀ t, s.enabled ⟨t, .none⟩ = false) :
    s.pc s.cfg.W = .done ∨ ((∀ t, t < s.cfg.W → s.pc t = .done) ∧ s.back = []) := by
  obtain ⟨hI, hQ⟩ := reachQ c hc s hr
  have hm : s.mtx = none := free_of_outside hI.own fun x hx => by
    rcases disabled_cases hx (hdis x) with h | h | h | ⟨h | h | h | h, -⟩ <;> rw [h] <;> rfl
  have asleep : ∀ t, t < s.cfg.W + 1 → s.pc t = .done ∨ s.pc t = .dCvBlocked ∨ s.pc t = .rCvBlocked := fun t ht => by
    rcases disabled_cases (Nat.le_of_lt_succ ht) (hdis t) with h | h | h | ⟨-, hmm⟩
    · exact .inl h
    · exact .inr (.inl h)
    · exact .inr (.inr h)
    · exact absurd hm hmm
  -- nothing is due, so a parked thread has its predicate false: not both kinds at once
  have zR : ∀ t, t < s.cfg.W + 1 → dueR (s.pc t) = 0 := fun t ht => by
    rcases asleep t ht with h | h | h <;> rw [h] <;> rfl
  have zD : ∀ t, t < s.cfg.W + 1 → dueD (s.pc t) = 0 := fun t ht => by
    rcases asleep t ht with h | h | h <;> rw [h] <;> rfl
  rcases asleep _ (Nat.lt_succ_self _) with h | h | h
  · exact .inl h
  · have := hI.rdr; rw [h] at this; cases this
  · have hb : s.back.length ≤ 0 := hQ.rn.asleep ⟨_, Nat.lt_succ_self _, h⟩ zR
    refine .inr ⟨fun t ht => ?_, List.eq_nil_of_length_eq_zero (Nat.le_zero.1 hb)⟩
    rcases asleep t (Nat.lt_succ_of_lt ht) with h' | h' | h'
    · exact h'
    · have := hQ.dn.asleep ⟨t, Nat.lt_succ_of_lt ht, h'⟩ zD; omega
    · rw [hI.reader_of_isR (Nat.le_of_lt ht) (by rw [h']; rfl)] at ht; exact absurd ht (Nat.lt_irrefl _)

end MgProof.C03.DBuf
