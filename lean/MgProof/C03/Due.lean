import MgProof.Conc
/-!
# C03 — no lost wake-up under a monitor: the wake-ups due

One condition variable, over variables. Threads park at pc `b` while a quantity `x` of the guarded object falls
short of `lo`. `Acc`: the shortfall is covered by the wake-ups due, a weight `w` on pcs that counts the threads that
still owe a `notify_one` and the threads already notified. The moves of a monitor keep it; where nothing is due nobody
is parked without reason. The sum over the threads is `ABQ.sumTo`, under the name by which the queue's workload
(`wantPuts`, `wantTakes`) knows it.
-/
namespace MgProof.C03
open MgModel.Conc

namespace ABQ

def sumTo (g : Nat → Nat) : Nat → Nat
  | 0 => 0
  | n + 1 => sumTo g n + g n

theorem sumTo_isSum (g : Nat → Nat) : IsSum (sumTo g) g := ⟨rfl, fun _ => rfl⟩

theorem sumTo_congr {g g' : Nat → Nat} (n : Nat) (h : ∀ i, i < n → g' i = g i) : sumTo g' n = sumTo g n :=
  (sumTo_isSum g).congr (sumTo_isSum g') n h

theorem sumTo_zero {g : Nat → Nat} (n : Nat) (h : ∀ i, i < n → g i = 0) : sumTo g n = 0 :=
  (sumTo_isSum g).zero n h

theorem sumTo_upd1 {g g' : Nat → Nat} (n t : Nat) (ht : t < n) (h : ∀ i, i < n → i ≠ t → g' i = g i) :
    sumTo g' n + g t = sumTo g n + g' t :=
  (sumTo_isSum g).upd1 (sumTo_isSum g') ht h

theorem sumTo_le {g g' : Nat → Nat} (n : Nat) (h : ∀ i, i < n → g i ≤ g' i) : sumTo g n ≤ sumTo g' n :=
  (sumTo_isSum g).le (sumTo_isSum g') n h

theorem le_sumTo {g : Nat → Nat} (n t : Nat) (ht : t < n) : g t ≤ sumTo g n :=
  (sumTo_isSum g).term_le ht

theorem sumTo_lt {g g' : Nat → Nat} (n t : Nat) (ht : t < n) (h : ∀ i, i < n → g i ≤ g' i) (hs : g t < g' t) :
    sumTo g n < sumTo g' n :=
  (sumTo_isSum g).lt (sumTo_isSum g') ht h hs

end ABQ

open ABQ (sumTo sumTo_zero le_sumTo)

variable {α : Type} {b q qu : α} {w : α → Nat} {lo x lo' x' n t u : Nat} {pc : Nat → α}

def total (w : α → Nat) (pc : Nat → α) (n : Nat) : Nat := sumTo (fun i => w (pc i)) n

theorem total_upd (w : α → Nat) (pc : Nat → α) (ht : t < n) (q : α) :
    total w (upd pc t q) n + w (pc t) = total w pc n + w q :=
  (ABQ.sumTo_isSum _).upd (ABQ.sumTo_isSum _) ht

theorem total_zero (h : ∀ t, t < n → w (pc t) = 0) : total w pc n = 0 :=
  sumTo_zero n h

theorem total_pos (h : 0 < total w pc n) : ∃ t, t < n ∧ 0 < w (pc t) :=
  (ABQ.sumTo_isSum _).pos h

abbrev ExP (p : α) (pc : Nat → α) (n : Nat) : Prop := Ex (· = p) pc n

/-- while a thread is parked at `b`, the wake-ups due make up for `lo - x` -/
def Acc (b : α) (w : α → Nat) (lo x : Nat) (pc : Nat → α) (n : Nat) : Prop :=
  ExP b pc n → lo ≤ x + total w pc n

theorem Acc.outright (h : lo ≤ x) : Acc b w lo x pc n :=
  fun _ => Nat.le_trans h (Nat.le_add_right _ _)

theorem Acc.nobody (hq : q ≠ b) (h : ¬ ExP b pc n) : Acc b w lo x (upd pc t q) n :=
  fun hp => absurd (hp.back hq) h

/-- what the shortfall grows by is covered by what the stepping thread's weight grows by -/
theorem Acc.pays (ha : Acc b w lo x pc n) (ht : t < n) (hq : q ≠ b)
    (h : lo' + x + w (pc t) ≤ lo + x' + w q) : Acc b w lo' x' (upd pc t q) n := by
  intro hp
  have e := total_upd w pc ht q
  have := ha (hp.back hq)
  omega

theorem Acc.same (ha : Acc b w lo x pc n) (ht : t < n) (hq : q ≠ b) (hw : w (pc t) = w q) :
    Acc b w lo x (upd pc t q) n :=
  ha.pays ht hq (by rw [hw]; exact Nat.le_refl _)

/-- the stepping thread itself owes the whole shortfall -/
theorem Acc.owes (ht : t < n) (h : lo ≤ x + w q) : Acc b w lo x (upd pc t q) n := by
  intro _
  have := le_sumTo (g := fun i => w (upd pc t q i)) n t ht
  simp only [upd_same] at this
  exact Nat.le_trans h (Nat.add_le_add_left this x)

theorem Acc.wake (ha : Acc b w lo x pc n) (ht : t < n) (hu : u < n) (hne : t ≠ u) (hq : q ≠ b) (hqu : qu ≠ b)
    (h : w (pc t) + w (pc u) ≤ w q + w qu) : Acc b w lo x (upd (upd pc u qu) t q) n := by
  intro hp
  have e1 := total_upd w pc hu qu
  have e2 := total_upd w (upd pc u qu) ht q
  rw [upd_other _ _ _ _ hne] at e2
  have := ha ((hp.back hq).back hqu)
  omega

theorem Acc.reason (ha : Acc b w lo x pc n) (hp : ExP b pc n) (h : x < lo) : ∃ t, t < n ∧ 0 < w (pc t) :=
  total_pos (by have := ha hp; omega)

theorem Acc.asleep (ha : Acc b w lo x pc n) (hp : ExP b pc n) (h : ∀ t, t < n → w (pc t) = 0) : lo ≤ x := by
  have := ha hp
  rw [total_zero h] at this
  exact this

end MgProof.C03
