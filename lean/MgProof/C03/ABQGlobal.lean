import MgProof.C03.ABQ
import MgProof.C03.Due
/-!
# C03 — array blocking queue: no lost wake-up, globally (notification accounting)

For **any number of producers and consumers** with `notify_one`, every capacity ≥ 1 and every schedule
(a parked thread is enabled only by a token flagged as a spurious wake-up, so `Asleep` means nobody
will ever run again). `InvN`: while some consumer is parked on `cv_not_empty`,

    cnt ≤ #consumers already signalled (not yet resumed) + #producers between enqueue and notify

and the mirror image (`capacity − cnt`, roles exchanged) while some producer is parked on
`cv_not_full`; hence `asleep_has_reason`. With the work accounting `InvWork` (puts and takes per
thread) the only way to end asleep is an unbalanced workload: `asleep_workload`, `no_global_sleep`.
-/
namespace MgProof.C03.ABQ
open MgModel.Conc MgModel.C01.ABQ MgProof.C01.ABQ

/-- wake-ups due on `cv_not_empty` -/
def dueC : Pc → Nat
  | .cCvSignaled | .pSignal => 1
  | _ => 0

def dueP : Pc → Nat
  | .pCvSignaled | .cSignal _ => 1
  | _ => 0

theorem _root_.MgProof.C01.ABQ.WantsP.due {p : Pc} (h : WantsP p) : dueC p = 0 ∧ dueP p ≤ 1 := by
  rcases h with e | e | e <;> rw [e] <;> exact ⟨rfl, by decide⟩

theorem _root_.MgProof.C01.ABQ.WantsC.due {p : Pc} (h : WantsC p) : dueP p = 0 ∧ dueC p ≤ 1 := by
  rcases h with e | e | e <;> rw [e] <;> exact ⟨rfl, by decide⟩

structure InvN (s : St) : Prop where
  cn : Acc .cCvBlocked dueC s.cnt 0 s.pc (s.cfg.P + s.cfg.C)
  pn : Acc .pCvBlocked dueP s.cfg.cap s.cnt s.pc (s.cfg.P + s.cfg.C)

variable {s s' : St} {tok : Tok} {ev : List String}

theorem InvN.step {t : Nat} (hn : InvN s) (ha : InvA s) (ht : t < s.cfg.P + s.cfg.C)
    (h : Step s t s') :
    InvN s' := by
  obtain ⟨cn, pn⟩ := hn
  have idle : ∀ {q : Pc}, Idle q → (q ≠ .cCvBlocked ∧ dueC q = 0) ∧ (q ≠ .pCvBlocked ∧ dueP q = 0) := by
    rintro _ (e | e | e) <;> rw [e] <;> exact ⟨⟨nofun, rfl⟩, nofun, rfl⟩
  cases h
  case pPay hpc | cUnlock _ hpc =>
    exact ⟨cn.same ht nofun (by rw [hpc]; rfl), pn.same ht nofun (by rw [hpc]; rfl)⟩
  case pUnlock hpc =>
    obtain ⟨⟨c1, c2⟩, p1, p2⟩ := idle (nextP_idle s t)
    exact ⟨cn.same ht c1 (by rw [hpc, c2]; rfl), pn.same ht p1 (by rw [hpc, p2]; rfl)⟩
  case cUnlockBad hpc | cPay _ hpc =>
    obtain ⟨⟨c1, c2⟩, p1, p2⟩ := idle (nextC_idle s t)
    exact ⟨cn.same ht c1 (by rw [hpc, c2]; rfl), pn.same ht p1 (by rw [hpc, p2]; rfl)⟩
  -- the loop condition holds: the thread will wait
  case pFull hpc _ hc =>
    exact ⟨cn.same ht nofun hpc.due.1, Acc.outright (Nat.le_of_eq hc.symm)⟩
  case cEmpty hpc _ hc =>
    exact ⟨Acc.outright (Nat.le_of_eq hc), pn.same ht nofun hpc.due.1⟩
  case pWait hpc =>
    exact ⟨cn.same ht nofun (by rw [hpc]; rfl), Acc.outright (Nat.le_of_eq (ha.pw t ht hpc).symm)⟩
  case cWait hpc =>
    exact ⟨Acc.outright (Nat.le_of_eq (ha.cw t ht hpc)), pn.same ht nofun (by rw [hpc]; rfl)⟩
  -- enqueue: the producer owes a `notify_one` on `cv_not_empty` for the new element; a notified producer uses up the
  -- wake-up it was owed, one slot less is free in exchange. Dequeue: the mirror image (`hc`: `cnt ≠ 0`).
  case pPut hpc _ _ =>
    obtain ⟨d1, d2⟩ := hpc.due
    have e1 : dueC .pSignal = 1 := rfl
    have e2 : dueP .pSignal = 0 := rfl
    exact ⟨cn.pays ht nofun (by dsimp only; omega), pn.pays ht nofun (by dsimp only; omega)⟩
  case cTake hpc _ hc =>
    obtain ⟨d1, d2⟩ := hpc.due
    have e1 : dueC (.cSignal (s.datas s.takeIdx)) = 0 := rfl
    have e2 : dueP (.cSignal (s.datas s.takeIdx)) = 1 := rfl
    exact ⟨cn.pays ht nofun (by dsimp only; omega), pn.pays ht nofun (by dsimp only; omega)⟩
  -- `notify_one`: the debt passes to the woken thread
  case pWake hpc u hu hupc | cWake _ hpc u hu hupc =>
    have hne : t ≠ u := fun e => by rw [e, hupc] at hpc; cases hpc
    exact ⟨cn.wake ht hu hne nofun nofun (by rw [hpc, hupc]; exact Nat.le_refl _),
      pn.wake ht hu hne nofun nofun (by rw [hpc, hupc]; exact Nat.le_refl _)⟩
  case pNoWake hpc hno =>
    exact ⟨Acc.nobody nofun fun ⟨u, hu, e⟩ => hno u hu e, pn.same ht nofun (by rw [hpc]; rfl)⟩
  case cNoWake _ hpc hno =>
    exact ⟨cn.same ht nofun (by rw [hpc]; rfl), Acc.nobody nofun fun ⟨u, hu, e⟩ => hno u hu e⟩

theorem stepN (ha : InvA s) (hn : InvN s) (h : step s tok = some (s', ev)) : InvN s' :=
  hn.step ha (step_sound h).1 (step_sound h).2

theorem initN (c : Cfg) : InvN (mkInit c) := by
  have none : ∀ b, b ≠ .pPay → b ≠ .cLock → b ≠ .done → ¬ ExP b (mkInit c).pc (c.P + c.C) := by
    intro b h1 h2 h3 ⟨u, _, e⟩
    rcases mkInit_idle c u with e' | e' | e' <;> rw [e'] at e
    · exact h1 e.symm
    · exact h2 e.symm
    · exact h3 e.symm
  exact ⟨fun h => absurd h (none _ nofun nofun nofun), fun h => absurd h (none _ nofun nofun nofun)⟩

theorem reachN (c : Cfg) (hc : 0 < c.cap) : ∀ s, Reach step (mkInit c) s → InvN s :=
  Reach.inv_of (reachA c hc) (initN c) fun _ _ _ _ hp hn h => stepN hp.2 hn h

/-- every thread is finished or parked on a condition variable: nobody will run again unless a
wake-up arrives from outside (a spurious wake-up is not counted as a way out) -/
def Asleep (s : St) : Prop :=
  ∀ t, t < s.cfg.P + s.cfg.C → s.pc t = .done ∨ s.pc t = .pCvBlocked ∨ s.pc t = .cCvBlocked

/-- **No lost wake-up** (array blocking queue, any number of producers and consumers,
`notify_one`): if every thread is finished or parked, then a parked consumer means the queue is
empty and no producer is parked; a parked producer means the queue is full and no consumer is
parked. -/
theorem asleep_has_reason {c : Cfg} {s : St} (hc : 0 < c.cap) (hr : Reach step (mkInit c) s)
    (hall : Asleep s) :
    ((∃ t, t < s.cfg.P + s.cfg.C ∧ s.pc t = .cCvBlocked) →
        s.cnt = 0 ∧ ∀ u, u < s.cfg.P + s.cfg.C → s.pc u ≠ .pCvBlocked) ∧
    ((∃ t, t < s.cfg.P + s.cfg.C ∧ s.pc t = .pCvBlocked) →
        s.cnt = s.cfg.cap ∧ ∀ u, u < s.cfg.P + s.cfg.C → s.pc u ≠ .cCvBlocked) := by
  have hI := reach_inv c hc s hr
  have hN := reachN c hc s hr
  have zC : ∀ w, w < s.cfg.P + s.cfg.C → dueC (s.pc w) = 0 := fun w hw => by
    rcases hall w hw with h | h | h <;> rw [h] <;> rfl
  have zP : ∀ w, w < s.cfg.P + s.cfg.C → dueP (s.pc w) = 0 := fun w hw => by
    rcases hall w hw with h | h | h <;> rw [h] <;> rfl
  have cE : (∃ t, t < s.cfg.P + s.cfg.C ∧ s.pc t = .cCvBlocked) → s.cnt = 0 := fun h =>
    Nat.le_zero.1 (hN.cn.asleep h zC)
  have pF : (∃ t, t < s.cfg.P + s.cfg.C ∧ s.pc t = .pCvBlocked) → s.cnt = s.cfg.cap := fun h =>
    Nat.le_antisymm hI.bound (hN.pn.asleep h zP)
  have hcap := hI.capPos
  refine ⟨fun h => ⟨cE h, ?_⟩, fun h => ⟨pF h, ?_⟩⟩
  · intro u hu hp
    have := cE h; have := pF ⟨u, hu, hp⟩; omega
  · intro u hu hp
    have := pF h; have := cE ⟨u, hu, hp⟩; omega

/-- the premise is satisfiable: a consumer parks on an empty queue -/
example : ∃ s, Reach step (mkInit { cap := 2, ns := [], ks := [1] }) s ∧ Asleep s ∧ s.pc 0 = .cCvBlocked := by
  refine ⟨_, reach_runSched step _ _ Reach.init [{ tid := 0 }, { tid := 0 }], fun t ht => ?_, by decide⟩
  have ht : t < 1 := ht
  obtain rfl : t = 0 := by omega
  exact .inr (.inr (by decide))

inductive Role where
  | prod | cons | done

def role : Pc → Role
  | .pPay | .pLock | .pCvWait | .pCvBlocked | .pCvSignaled | .pSignal | .pUnlock => .prod
  | .cLock | .cCvWait | .cCvBlocked | .cCvSignaled | .cSignal _ | .cUnlock _ | .cPay _ => .cons
  | .done => .done

/-- thread `t`, with `k` puts (takes) behind it, is at a pc that fits its place and workload -/
def Work (c : Cfg) (t k : Nat) (p : Pc) : Prop :=
  match role p with
  | .prod => t < c.P ∧ k < c.n t
  | .cons => c.P ≤ t ∧ k < c.kk t
  | .done => k = if t < c.P then c.n t else c.kk t

/-- 1 while the current message is enqueued (dequeued) and `k` not yet advanced -/
def half : Pc → Nat
  | .pSignal | .pUnlock | .cSignal _ | .cUnlock _ | .cPay _ => 1
  | _ => 0

theorem _root_.MgProof.C01.ABQ.WantsP.half {p : Pc} (h : WantsP p) : half p = 0 := by
  rcases h with e | e | e <;> rw [e] <;> rfl

theorem _root_.MgProof.C01.ABQ.WantsC.half {p : Pc} (h : WantsC p) : half p = 0 := by
  rcases h with e | e | e <;> rw [e] <;> rfl

theorem work_wantsP {c : Cfg} {t k : Nat} {p : Pc} (h : WantsP p) (hw : Work c t k p) : t < c.P ∧ k < c.n t := by
  rcases h with e | e | e <;> rw [e] at hw <;> exact hw

theorem work_wantsC {c : Cfg} {t k : Nat} {p : Pc} (h : WantsC p) (hw : Work c t k p) : c.P ≤ t ∧ k < c.kk t := by
  rcases h with e | e | e <;> rw [e] at hw <;> exact hw

theorem half_idle {q : Pc} (h : Idle q) : half q = 0 := by
  rcases h with e | e | e <;> rw [e] <;> rfl

/-- messages thread `t` has enqueued (producers only) -/
def gp (s : St) (t : Nat) : Nat := if t < s.cfg.P then s.k t + half (s.pc t) else 0
def gc (s : St) (t : Nat) : Nat := if s.cfg.P ≤ t then s.k t + half (s.pc t) else 0

structure InvWork (s : St) : Prop where
  work : ∀ t, t < s.cfg.P + s.cfg.C → Work s.cfg t (s.k t) (s.pc t)
  sumP : s.puts.length = sumTo (gp s) (s.cfg.P + s.cfg.C)
  sumC : s.taken.length = sumTo (gc s) (s.cfg.P + s.cfg.C)

theorem work_nextP {t : Nat} (htP : t < s.cfg.P) (hlt : s.k t < s.cfg.n t) :
    Work s.cfg t (s.k t + 1) (nextP s t) := by
  unfold nextP
  split
  next h => exact ⟨htP, h⟩
  next h => show _ = if _ then _ else _; rw [if_pos htP]; omega

theorem work_nextC {t : Nat} (htP : s.cfg.P ≤ t) (hlt : s.k t < s.cfg.kk t) :
    Work s.cfg t (s.k t + 1) (nextC s t) := by
  unfold nextC
  split
  next h => exact ⟨htP, h⟩
  next h => show _ = if _ then _ else _; rw [if_neg (Nat.not_lt.2 htP)]; omega

/-- `k + half` of the stepping thread counts its enqueues (dequeues): only `pPut` and `cTake` raise it, with `puts`
resp. `taken`; the step that ends the operation (`pUnlock`, `cUnlockBad`, `cPay`) moves the half into `k` -/
theorem _root_.MgProof.C01.ABQ.Step.ops {t : Nat} (h : Step s t s') :
    (s'.puts = s.puts ∧ s'.taken = s.taken ∧ s'.k t + half (s'.pc t) = s.k t + half (s.pc t)) ∨
    (WantsP (s.pc t) ∧ s'.puts.length = s.puts.length + 1 ∧ s'.taken = s.taken ∧
      s'.k t + half (s'.pc t) = s.k t + half (s.pc t) + 1) ∨
    (WantsC (s.pc t) ∧ s'.puts = s.puts ∧ s'.taken.length = s.taken.length + 1 ∧
      s'.k t + half (s'.pc t) = s.k t + half (s.pc t) + 1) := by
  cases h
  case pPut hpc _ _ =>
    exact .inr (.inl ⟨hpc, List.length_append, rfl, by simp only [upd_same]; rw [hpc.half]; rfl⟩)
  case cTake hpc _ _ =>
    exact .inr (.inr ⟨hpc, rfl, List.length_append, by simp only [upd_same]; rw [hpc.half]; rfl⟩)
  case pFull hpc _ _ | cEmpty hpc _ _ => exact .inl ⟨rfl, rfl, by simp only [upd_same]; rw [hpc.half]; rfl⟩
  case pUnlock hpc =>
    exact .inl ⟨rfl, rfl, by simp only [upd_same]; rw [hpc, half_idle (nextP_idle s t)]; rfl⟩
  case cUnlockBad hpc | cPay _ hpc =>
    exact .inl ⟨rfl, rfl, by simp only [upd_same]; rw [hpc, half_idle (nextC_idle s t)]; rfl⟩
  case pPay hpc | pWait hpc | pWake hpc _ _ _ | pNoWake hpc _ | cWait hpc | cWake _ hpc _ _ _ | cNoWake _ hpc _
      | cUnlock _ hpc =>
    exact .inl ⟨rfl, rfl, by simp only [upd_same]; rw [hpc]; rfl⟩

theorem _root_.MgProof.C01.ABQ.Step.work {t : Nat} (hw : Work s.cfg t (s.k t) (s.pc t)) (h : Step s t s') :
    Work s.cfg t (s'.k t) (s'.pc t) := by
  cases h <;> simp only [upd_same]
  case pUnlock hpc => rw [hpc] at hw; exact work_nextP hw.1 hw.2
  case cUnlockBad hpc | cPay _ hpc => rw [hpc] at hw; exact work_nextC hw.1 hw.2
  case pFull hpc _ _ | pPut hpc _ _ => exact work_wantsP hpc hw
  case cEmpty hpc _ _ | cTake hpc _ _ => exact work_wantsC hpc hw
  case pPay hpc | pWait hpc | pWake hpc _ _ _ | pNoWake hpc _ | cWait hpc | cWake _ hpc _ _ _ | cNoWake _ hpc _
      | cUnlock _ hpc =>
    rw [hpc] at hw; exact hw

theorem InvWork.step {t : Nat} (hk : InvWork s) (ht : t < s.cfg.P + s.cfg.C) (h : Step s t s') : InvWork s' := by
  have hw := hk.work t ht
  have hcfg := h.cfg_eq
  have others : ∀ i, i ≠ t → s'.k i = s.k i ∧ role (s'.pc i) = role (s.pc i) ∧ half (s'.pc i) = half (s.pc i) := by
    intro i hi
    obtain ⟨f1, -, f3 | ⟨f3, f4⟩ | ⟨f3, f4⟩⟩ := h.frame hi
    · rw [f3]; exact ⟨f1, rfl, rfl⟩
    · rw [f3, f4]; exact ⟨f1, rfl, rfl⟩
    · rw [f3, f4]; exact ⟨f1, rfl, rfl⟩
  have eP := sumTo_upd1 (g := gp s) (g' := gp s') _ t ht fun i _ hi => by
    obtain ⟨f1, -, f3⟩ := others i hi; simp only [gp, hcfg, f1, f3]
  have eC := sumTo_upd1 (g := gc s) (g' := gc s') _ t ht fun i _ hi => by
    obtain ⟨f1, -, f3⟩ := others i hi; simp only [gc, hcfg, f1, f3]
  have sP := hk.sumP
  have sC := hk.sumC
  simp only [gp, gc, hcfg] at eP eC
  -- the thread's count enters the sum of its own side only
  have sums : s'.puts.length = sumTo (gp s') (s.cfg.P + s.cfg.C) ∧
      s'.taken.length = sumTo (gc s') (s.cfg.P + s.cfg.C) := by
    rcases Nat.lt_or_ge t s.cfg.P with htP | htP
    · rw [if_pos htP, if_pos htP] at eP
      rw [if_neg (Nat.not_le.2 htP), if_neg (Nat.not_le.2 htP)] at eC
      rcases h.ops with ⟨e1, e2, e3⟩ | ⟨_, e1, e2, e3⟩ | ⟨hc, _⟩
      · rw [e1, e2]; omega
      · rw [e2]; omega
      · exact absurd (work_wantsC hc hw).1 (Nat.not_le.2 htP)
    · rw [if_neg (Nat.not_lt.2 htP), if_neg (Nat.not_lt.2 htP)] at eP
      rw [if_pos htP, if_pos htP] at eC
      rcases h.ops with ⟨e1, e2, e3⟩ | ⟨hp, _⟩ | ⟨_, e1, e2, e3⟩
      · rw [e1, e2]; omega
      · exact absurd (work_wantsP hp hw).1 (Nat.not_lt.2 htP)
      · rw [e1]; omega
  refine ⟨fun i hi => ?_, ?_, ?_⟩ <;> rw [hcfg]
  · by_cases e : i = t
    · rw [e]; exact h.work hw
    · obtain ⟨f1, f2, -⟩ := others i e
      have := hk.work i (hcfg ▸ hi)
      unfold Work at this ⊢
      rw [f1, f2]; exact this
  · exact sums.1
  · exact sums.2

theorem stepWork (hk : InvWork s) (h : step s tok = some (s', ev)) : InvWork s' :=
  hk.step (step_sound h).1 (step_sound h).2

theorem initWork (c : Cfg) : InvWork (mkInit c) := by
  have z : ∀ i, (mkInit c).k i + half ((mkInit c).pc i) = 0 := fun i => by
    rw [half_idle (mkInit_idle c i)]; rfl
  refine ⟨fun t (ht : t < c.P + c.C) => ?_, (sumTo_zero _ fun i _ => ?_).symm, (sumTo_zero _ fun i _ => ?_).symm⟩
  · show Work c t 0 ((mkInit c).pc t)
    by_cases h : t < c.P
    · rw [show (mkInit c).pc t = if c.n t = 0 then .done else .pPay from if_pos h]
      split
      next h0 => show 0 = if _ then _ else _; rw [if_pos h, h0]
      next h0 => exact ⟨h, Nat.pos_of_ne_zero h0⟩
    · rw [show (mkInit c).pc t = if c.kk t = 0 then .done else .cLock from (if_neg h).trans (if_pos ht)]
      split
      next h0 => show 0 = if _ then _ else _; rw [if_neg h, h0]
      next h0 => exact ⟨Nat.le_of_not_lt h, Nat.pos_of_ne_zero h0⟩
  · show (if _ then _ else 0) = 0
    rw [z]; split <;> rfl
  · show (if _ then _ else 0) = 0
    rw [z]; split <;> rfl

theorem reachWork (c : Cfg) (s : St) (hr : Reach step (mkInit c) s) : InvWork s ∧ s.cfg = c :=
  Reach.inv (fun s => InvWork s ∧ s.cfg = c) ⟨initWork c, rfl⟩
    (fun _ _ _ _ hi h => ⟨stepWork hi.1 h, by rw [(step_sound h).2.cfg_eq]; exact hi.2⟩) s hr

def wantPuts (c : Cfg) : Nat := sumTo (fun t => if t < c.P then c.n t else 0) (c.P + c.C)
def wantTakes (c : Cfg) : Nat := sumTo (fun t => if c.P ≤ t then c.kk t else 0) (c.P + c.C)

/-- a finished or parked thread has done at most what was asked: exactly that unless parked as a producer (consumer), a
parked consumer strictly less (for a parked producer the full queue does that job in `asleep_workload`) -/
theorem asleep_progress {i : Nat} (hw : Work s.cfg i (s.k i) (s.pc i))
    (h : s.pc i = .done ∨ s.pc i = .pCvBlocked ∨ s.pc i = .cCvBlocked) :
    (gp s i ≤ (if i < s.cfg.P then s.cfg.n i else 0) ∧ gc s i ≤ (if s.cfg.P ≤ i then s.cfg.kk i else 0)) ∧
    (s.pc i ≠ .pCvBlocked → gp s i = if i < s.cfg.P then s.cfg.n i else 0) ∧
    (s.pc i ≠ .cCvBlocked → gc s i = if s.cfg.P ≤ i then s.cfg.kk i else 0) ∧
    (s.pc i = .cCvBlocked → gc s i < if s.cfg.P ≤ i then s.cfg.kk i else 0) := by
  unfold gp gc
  rcases h with h | h | h <;> rw [h] at hw ⊢
  · have hw : s.k i = if i < s.cfg.P then s.cfg.n i else s.cfg.kk i := hw
    by_cases hi : i < s.cfg.P <;> simp [hi, Nat.not_le.2, Nat.le_of_not_lt, half] at hw ⊢ <;> omega
  · obtain ⟨hi, hlt⟩ : i < s.cfg.P ∧ s.k i < s.cfg.n i := hw
    simp [hi, Nat.not_le.2 hi, half]; omega
  · obtain ⟨hi, hlt⟩ : s.cfg.P ≤ i ∧ s.k i < s.cfg.kk i := hw
    simp [hi, Nat.not_lt.2 hi, half]; omega

theorem asleep_workload {c : Cfg} {s : St} (hc : 0 < c.cap) (hr : Reach step (mkInit c) s) (hall : Asleep s) :
    ((∃ t, t < s.cfg.P + s.cfg.C ∧ s.pc t = .pCvBlocked) → wantTakes c + c.cap ≤ wantPuts c) ∧
    ((∃ t, t < s.cfg.P + s.cfg.C ∧ s.pc t = .cCvBlocked) → wantPuts c < wantTakes c) := by
  have hI := reach_inv c hc s hr
  obtain ⟨hK, hcfg⟩ := reachWork c s hr
  obtain ⟨hcons, hprod⟩ := asleep_has_reason hc hr hall
  have hcount := hI.count
  have prog := fun i hi => asleep_progress (hK.work i hi) (hall i hi)
  -- nobody has done more than asked
  have leP := sumTo_le _ fun i hi => (prog i hi).1.1
  have sP := hK.sumP
  have sC := hK.sumC
  simp only [wantPuts, wantTakes]
  rw [hcfg] at leP sP sC
  constructor
  · -- the queue is full and every consumer has finished
    intro h
    obtain ⟨hfull, hnoc⟩ := hprod h
    have eqC := sumTo_congr (s.cfg.P + s.cfg.C) fun i hi => (prog i hi).2.2.1 (hnoc i hi)
    rw [hcfg] at eqC hfull
    omega
  · -- the queue is empty and every producer has finished
    intro ⟨t, ht, h⟩
    obtain ⟨hempty, hnop⟩ := hcons ⟨t, ht, h⟩
    have eqP := sumTo_congr (s.cfg.P + s.cfg.C) fun i hi => (prog i hi).2.1 (hnop i hi)
    have ltC := sumTo_lt _ t ht (fun i hi => (prog i hi).1.2) ((prog t ht).2.2.2 h)
    rw [hcfg] at eqP ltC
    omega

/-- **No lost wake-up, no deadlock** (array blocking queue, full statement). For every capacity
≥ 1, any number of producers and consumers, every schedule: if the workload is completable —
the consumers together ask for exactly as many messages as the producers put — then a state in
which every thread is finished or parked on a condition variable is a state in which every thread
is **finished**. -/
theorem no_global_sleep {c : Cfg} {s : St} (hc : 0 < c.cap) (hbal : wantPuts c = wantTakes c)
    (hr : Reach step (mkInit c) s) (hall : Asleep s) :
    ∀ t, t < s.cfg.P + s.cfg.C → s.pc t = .done := by
  obtain ⟨hprod, hcons⟩ := asleep_workload hc hr hall
  intro t ht
  rcases hall t ht with h | h | h
  · exact h
  · have := hprod ⟨t, ht, h⟩; omega
  · have := hcons ⟨t, ht, h⟩; omega

theorem sumTo_shift (g : Nat → Nat) (n : Nat) : sumTo g (n + 1) = g 0 + sumTo (fun i => g (i + 1)) n := by
  induction n with
  | zero => simp [sumTo]
  | succ n ih =>
    have e : sumTo g (n + 1 + 1) = sumTo g (n + 1) + g (n + 1) := rfl
    have e2 : sumTo (fun i => g (i + 1)) (n + 1) = sumTo (fun i => g (i + 1)) n + g (n + 1) := rfl
    rw [e, ih, e2]; omega

theorem sumTo_getD (l : List Nat) : sumTo (fun i => l.getD i 0) l.length = l.sum := by
  induction l with
  | nil => rfl
  | cons a l ih =>
    rw [List.length_cons, sumTo_shift]
    simp only [List.getD_cons_zero, List.getD_cons_succ, List.sum_cons]
    rw [ih]

theorem sumTo_add (g : Nat → Nat) (a b : Nat) : sumTo g (a + b) = sumTo g a + sumTo (fun i => g (a + i)) b := by
  induction b with
  | zero => simp [sumTo]
  | succ b ih =>
    have e : sumTo g (a + (b + 1)) = sumTo g (a + b) + g (a + b) := rfl
    have e2 : sumTo (fun i => g (a + i)) (b + 1) = sumTo (fun i => g (a + i)) b + g (a + b) := rfl
    rw [e, ih, e2]; omega

theorem wantPuts_eq (c : Cfg) : wantPuts c = c.ns.sum := by
  unfold wantPuts
  rw [sumTo_add]
  have h1 : sumTo (fun t => if t < c.P then c.n t else 0) c.P = sumTo (fun i => c.ns.getD i 0) c.ns.length := by
    apply sumTo_congr
    intro i hi
    have : i < c.P := hi
    simp [this, Cfg.n]
  have h2 : sumTo (fun i => (fun t => if t < c.P then c.n t else 0) (c.P + i)) c.C = 0 := by
    apply sumTo_zero
    intro i _
    have : ¬ c.P + i < c.P := by omega
    simp [this]
  rw [h1, h2, sumTo_getD]; rfl

theorem wantTakes_eq (c : Cfg) : wantTakes c = c.ks.sum := by
  unfold wantTakes
  rw [sumTo_add]
  have h1 : sumTo (fun t => if c.P ≤ t then c.kk t else 0) c.P = 0 := by
    apply sumTo_zero
    intro i hi
    have : ¬ c.P ≤ i := by omega
    simp [this]
  have h2 : sumTo (fun i => (fun t => if c.P ≤ t then c.kk t else 0) (c.P + i)) c.C =
      sumTo (fun i => c.ks.getD i 0) c.ks.length := by
    apply sumTo_congr
    intro i _
    simp [Cfg.kk]
  rw [h1, h2, sumTo_getD]; simp

/-- `no_global_sleep` with the workload stated on the configuration lists: the per-producer put
counts `ns` and the per-consumer take counts `ks` have the same sum -/
theorem no_global_sleep_balanced {c : Cfg} {s : St} (hc : 0 < c.cap) (hbal : c.ns.sum = c.ks.sum)
    (hr : Reach step (mkInit c) s) (hall : Asleep s) :
    ∀ t, t < s.cfg.P + s.cfg.C → s.pc t = .done :=
  no_global_sleep hc (by rw [wantPuts_eq, wantTakes_eq]; exact hbal) hr hall

/-- the hypotheses are satisfiable and the conclusion is not vacuous: 2 producers x 1 message,
1 consumer x 2 messages, capacity 1, a complete run ends with every thread finished -/
example : (([1, 1] : List Nat).sum = ([2] : List Nat).sum) ∧
    ∃ s, Reach step (mkInit { cap := 1, ns := [1, 1], ks := [2] }) s ∧ Asleep s := by
  refine ⟨rfl, _, reach_runSched step _ _ Reach.init
    ([0, 0, 0, 0, 2, 2, 2, 2, 1, 1, 1, 1, 2, 2, 2, 2].map fun t => { tid := t }), fun t ht => ?_⟩
  have ht : t < 3 := ht
  have : t = 0 ∨ t = 1 ∨ t = 2 := by omega
  rcases this with rfl | rfl | rfl <;> exact .inl (by decide)

end MgProof.C03.ABQ
