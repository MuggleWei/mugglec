import MgProof.C02.Arith
/-! `stepSt` gives, for each pc of the stepping thread, the whole next state. The invariants read the
state by field, and most fields change at one or two pcs: `post c s t` is the next state by field, `nextPc`
the control flow alone, `cameFrom` the control flow read backwards. The futex wake and the spurious return of
`futex_wait` only move readers along `Back`, which no invariant sees; a step is the wake followed by `post`. -/
namespace MgProof.C02
open MgModel.Conc MgModel.C02

theorem wm_ne_lock {w : WMode} : w ≠ .lock ↔ w = .single := by cases w <;> simp

/-- a step from this pc returns from `muggle_ring_buffer_write` -/
def retW (c : Cfg) : Pc → Bool
  | .wWake => true
  | .wUnlock => c.rm = .busy
  | .wStCur _ => c.wm = .single ∧ c.rm = .busy
  | _ => false

def retR : Pc → Bool
  | .rSlot | .oUnlock _ => true
  | _ => false

/-- a step from this pc lands at the top of the writer's loop -/
def headW (c : Cfg) (t : Nat) (p : Pc) : Bool :=
  retW c p || p = .thr || (p = .start ∧ t < c.nW)

def wkPost (c : Cfg) (s : St) (t : Nat) : Nat := s.wk t + if retW c (s.pc t) then 1 else 0

/-- the step passes the throttle and enters `muggle_ring_buffer_write` -/
def begins (c : Cfg) (s : St) (t : Nat) : Bool :=
  headW c t (s.pc t) && decide (wkPost c s t < c.nw) && canWrite c s

theorem begins_spec {c : Cfg} {s : St} {t : Nat} (h : begins c s t = true) :
    headW c t (s.pc t) = true ∧ wkPost c s t < c.nw ∧ canWrite c s = true := by
  simpa [begins, and_assoc] using h

theorem firstWritePc_eq (c : Cfg) : firstWritePc c = if c.wm = .lock then .wSpin else .wRdCur1 := by
  unfold firstWritePc; split <;> simp_all

theorem firstReadPc_eq (c : Cfg) : firstReadPc c = if c.rm = .once then .oLock else .rLdCur := by
  unfold firstReadPc; split <;> simp_all

theorem afterFutex_eq (c : Cfg) : afterFutex c = if c.rm = .once then .oLdCur else .rLdCur := by
  unfold afterFutex; split <;> simp_all

def wHead (c : Cfg) (w : Bool) (k : Nat) : Pc :=
  if c.nw ≤ k then .done else if w then firstWritePc c else .thr

def rHead (c : Cfg) (k : Nat) : Pc := if c.nr ≤ k then .done else firstReadPc c

/-- no step starts at `done` or `rBlocked`: the values there are not used -/
def nextPc (c : Cfg) (s : St) (t : Nat) : Pc → Pc
  | .start => if t < c.nW then wHead c (canWrite c s) (s.wk t) else rHead c (s.rk t)
  | .thr => wHead c (canWrite c s) (s.wk t)
  | .wSpin => if s.spin = 0 then .wRdCur1 else .wYield
  | .wYield => .wSpin
  | .wRdCur1 => .wSlot s.cursor
  | .wSlot _ => .wRdCur2
  | .wRdCur2 => .wStCur s.cursor
  | .wStCur _ =>
    if c.wm = .lock then .wUnlock
    else if c.rm = .busy then wHead c (canWrite c s) (s.wk t + 1) else .wWake
  | .wUnlock => if c.rm = .busy then wHead c (canWrite c s) (s.wk t + 1) else .wWake
  | .wWake => wHead c (canWrite c s) (s.wk t + 1)
  | .rLdCur =>
    if s.cursor ≠ rposOf c s t then .rSlot else if c.rm = .busy then .rLdCur else .rFwait s.cursor
  | .rSlot => rHead c (s.rk t + 1)
  | .rFwait v => if s.cursor = v then .rBlocked else afterFutex c
  | .rBlocked => afterFutex c
  | .rWoken => afterFutex c
  | .oLock => .oLdCur
  | .oLdCur => .oRc1 s.cursor
  | .oRc1 v => if s.readCursor ≠ v then .oRc2 else .rFwait v
  | .oRc2 => .oSlot s.readCursor
  | .oSlot i => .oRc3 (if i < c.cap then s.blocks i else 0)
  | .oRc3 m => .oWrRc m s.readCursor
  | .oWrRc m _ => .oUnlock m
  | .oUnlock _ => rHead c (s.rk t + 1)
  | .done => .done

/-- the control flow read backwards: what a step from `p` to the given pc says about `p` -/
def cameFrom (c : Cfg) (s : St) (t : Nat) (p : Pc) : Pc → Prop
  | .start | .rWoken => False
  | .thr => headW c t p = true ∧ (s.wk t + if retW c p then 1 else 0) < c.nw
  | .wSpin => p = .wYield ∨ (c.wm = .lock ∧ headW c t p = true)
  | .wYield => p = .wSpin ∧ s.spin ≠ 0
  | .wRdCur1 => (p = .wSpin ∧ s.spin = 0) ∨ (c.wm = .single ∧ headW c t p = true)
  | .wSlot i => p = .wRdCur1 ∧ i = s.cursor
  | .wRdCur2 => ∃ i, p = .wSlot i
  | .wStCur i => p = .wRdCur2 ∧ i = s.cursor
  | .wUnlock => (∃ i, p = .wStCur i) ∧ c.wm = .lock
  | .wWake => c.rm ≠ .busy ∧ (p = .wUnlock ∨ ((∃ i, p = .wStCur i) ∧ c.wm = .single))
  | .rLdCur => c.rm ≠ .once
  | .rSlot => p = .rLdCur ∧ s.cursor ≠ rposOf c s t
  | .rFwait v => (p = .rLdCur ∧ s.cursor = rposOf c s t ∧ v = s.cursor) ∨ (p = .oRc1 v ∧ s.readCursor = v)
  | .rBlocked => ∃ v, p = .rFwait v ∧ s.cursor = v
  | .oLock => c.rm = .once
  | .oLdCur => p = .oLock ∨ (c.rm = .once ∧ (p = .rWoken ∨ p = .rBlocked ∨ ∃ v, p = .rFwait v ∧ s.cursor ≠ v))
  | .oRc1 v => p = .oLdCur ∧ v = s.cursor
  | .oRc2 => ∃ v, p = .oRc1 v ∧ s.readCursor ≠ v
  | .oSlot i => p = .oRc2 ∧ i = s.readCursor
  | .oRc3 m => ∃ i, p = .oSlot i ∧ m = if i < c.cap then s.blocks i else 0
  | .oWrRc m i => p = .oRc3 m ∧ i = s.readCursor
  | .oUnlock m => ∃ i, p = .oWrRc m i
  | .done => p = .done ∨ (headW c t p = true ∧ c.nw ≤ s.wk t + if retW c p then 1 else 0) ∨
      ((retR p = true ∨ (p = .start ∧ ¬t < c.nW)) ∧ c.nr ≤ s.rk t + if retR p then 1 else 0)

theorem nextPc_cameFrom {c : Cfg} {s : St} {t : Nat} {p q : Pc} (h : nextPc c s t p = q) :
    cameFrom c s t p q := by
  subst h
  cases p <;>
    simp only [nextPc, wHead, rHead, firstWritePc_eq, firstReadPc_eq, afterFutex_eq] <;>
    (repeat' split) <;> simp_all [cameFrom, headW, retW, retR, wm_ne_lock]
  -- left over: `oSlot i` with `i` out of range
  omega

/-- the cases of `p`, with the control flow unfolded in `h` and `f` pushed through its `if`s -/
macro "flow_cases " p:ident " at " h:ident " with " f:ident : tactic => `(tactic|
  (cases $p:ident <;>
    simp only [nextPc, wHead, rHead, firstWritePc_eq, firstReadPc_eq, afterFutex_eq,
      apply_ite $f:ident] at $h:ident))

def wake (c : Cfg) (s : St) (t : Nat) : Nat → Pc :=
  if s.pc t ≠ .wWake then s.pc
  else if c.rm = .wait then wakeAll s.pc
  else match firstBlocked s.pc c.nT 0 with
    | some r => upd s.pc r .rWoken
    | none => s.pc

theorem wake_cases (c : Cfg) (s : St) (t u : Nat) :
    wake c s t u = s.pc u ∨ (s.pc t = .wWake ∧ s.pc u = .rBlocked ∧ wake c s t u = .rWoken) := by
  unfold wake
  split
  · exact Or.inl rfl
  · split
    · simp only [wakeAll]; split <;> simp_all
    · cases hr : firstBlocked s.pc c.nT 0 with
      | none => exact Or.inl rfl
      | some r =>
        have := firstBlocked_blocked hr
        simp only [upd]; split <;> simp_all

theorem wake_self (c : Cfg) (s : St) (t : Nat) : wake c s t t = s.pc t := by
  rcases wake_cases c s t t with h | ⟨h1, h2, _⟩
  · exact h
  · rw [h1] at h2; cases h2

/-- a thread stays where it is, or comes back from `futex_wait`: woken by a writer, or to the head
of its loop by a spurious return -/
inductive Back (c : Cfg) : Pc → Pc → Prop
  | same (p : Pc) : Back c p p
  | woken : Back c .rBlocked .rWoken
  | retry : c.rm ≠ .once → Back c .rBlocked .rLdCur
  | retryO : c.rm = .once → Back c .rBlocked .oLdCur

section
variable {c : Cfg} {p q : Pc} (h : Back c p q)
include h

theorem Back.cls_eq (f : Pc → Bool) (hw : f .rWoken = f .rBlocked := by rfl)
    (hl : c.rm ≠ .once → f .rLdCur = f .rBlocked := by exact fun _ => rfl)
    (ho : c.rm = .once → f .oLdCur = f .rBlocked := by exact fun _ => rfl) : f q = f p := by
  cases h with
  | same => rfl
  | woken => exact hw
  | retry hm => exact hl hm
  | retryO hm => exact ho hm

theorem Back.cls (f : Pc → Bool) (hq : f q = true) (hw : f .rWoken = f .rBlocked := by rfl)
    (hl : c.rm ≠ .once → f .rLdCur = f .rBlocked := by exact fun _ => rfl)
    (ho : c.rm = .once → f .oLdCur = f .rBlocked := by exact fun _ => rfl) : f p = true :=
  (h.cls_eq f hw hl ho).symm.trans hq

theorem Back.eq {x : Pc} (hq : q = x) (h1 : x ≠ .rWoken := by simp) (h2 : x ≠ .rLdCur := by simp)
    (h3 : x ≠ .oLdCur := by simp) : p = x := by
  cases h with
  | same => exact hq
  | woken => exact absurd hq.symm h1
  | retry => exact absurd hq.symm h2
  | retryO => exact absurd hq.symm h3

theorem Back.of_ne (hp : p ≠ .rBlocked) : q = p := by
  cases h <;> first | rfl | exact absurd rfl hp

theorem Back.rLdCur (hm : c.rm = .once) (hq : q = .rLdCur) : p = .rLdCur := by
  cases h with
  | same => exact hq
  | retry hl => exact absurd hm hl
  | woken | retryO => cases hq

end

theorem wake_back (c : Cfg) (s : St) (t : Nat) (u : Nat) : Back c (s.pc u) (wake c s t u) := by
  rcases wake_cases c s t u with h | ⟨_, h1, h2⟩
  · rw [h]; exact .same _
  · rw [h1, h2]; exact .woken

/-- the thread at `wWake` wakes all, or one and there is only one -/
theorem woke_all {c : Cfg} {s : St} {t : Nat} (hlt : ∀ u, s.pc u = .rBlocked → u < c.nT)
    (uniq : c.rm ≠ .wait → ∀ r u, s.pc r = .rBlocked → s.pc u = .rBlocked → r = u) (u : Nat)
    (hu : wake c s t u = .rBlocked) : wake c s t t ≠ .wWake := by
  rw [wake_self]
  intro hp
  have hu' : s.pc u = .rBlocked := (wake_back c s t u).eq hu
  simp only [wake, hp, ne_eq, not_true_eq_false, if_false] at hu
  split at hu
  · simp only [wakeAll, hu', if_true] at hu
    cases hu
  · rename_i hm
    cases hr : firstBlocked s.pc c.nT 0 with
    | none => exact firstBlocked_none hr u (Nat.zero_le u) (by have := hlt u hu'; omega) hu'
    | some r =>
      rw [hr, uniq hm r u (firstBlocked_blocked hr) hu'] at hu
      simp only [upd_same] at hu
      cases hu

def slotMsg (c : Cfg) (s : St) (t : Nat) : Nat :=
  if rposOf c s t < c.cap then s.blocks (rposOf c s t) else 0

def post (c : Cfg) (s : St) (t : Nat) : St where
  spin := match s.pc t with
    | .wSpin => if s.spin = 0 then 1 else s.spin
    | .wUnlock => 0
    | _ => s.spin
  cursor := match s.pc t with
    | .wStCur i => ringIdx (i + 1) c.cap
    | _ => s.cursor
  readCursor := match s.pc t with
    | .oWrRc _ i => ringIdx (i + 1) c.cap
    | _ => s.readCursor
  rmtx := match s.pc t with
    | .oLock => 1
    | .oUnlock _ => 0
    | _ => s.rmtx
  blocks := match s.pc t with
    | .wSlot i => if i < c.cap then upd s.blocks i (msgId t (s.wk t)) else s.blocks
    | _ => s.blocks
  pc := upd s.pc t (nextPc c s t (s.pc t))
  wk := upd s.wk t (wkPost c s t)
  rk := upd s.rk t (s.rk t + if retR (s.pc t) then 1 else 0)
  started := s.started + if begins c s t then 1 else 0
  totalDone := s.totalDone + if retR (s.pc t) then 1 else 0
  written := match s.pc t with
    | .wStCur _ => s.written ++ [msgId t (s.wk t)]
    | _ => s.written
  got := upd s.got t (match s.pc t with
    | .rSlot => s.got t ++ [slotMsg c s t]
    | .oWrRc m _ => s.got t ++ [m]
    | _ => s.got t)
  delivered := match s.pc t with
    | .oWrRc m _ => s.delivered ++ [(m, t)]
    | _ => s.delivered
  know := upd s.know t (
    if begins c s t then msgId t (wkPost c s t) :: s.know t
    else match s.pc t with
      | .wSpin => if s.spin = 0 then join (s.know t) s.relSpin else s.know t
      | .rLdCur | .oLdCur => join (s.know t) s.relCursor
      | .oLock => join (s.know t) s.relMtx
      | _ => s.know t)
  relCursor := match s.pc t with
    | .wStCur _ => s.know t
    | _ => s.relCursor
  relSpin := match s.pc t with
    | .wUnlock => s.know t
    | _ => s.relSpin
  relMtx := match s.pc t with
    | .oUnlock _ => s.know t
    | _ => s.relMtx
  hbViol := match s.pc t with
    | .rSlot => s.hbViol + if slotMsg c s t ∈ s.know t then 0 else 1
    | .oUnlock m => s.hbViol + if m ∈ s.know t then 0 else 1
    | _ => s.hbViol
  oob := match s.pc t with
    | .wSlot i | .oSlot i => s.oob + if i < c.cap then 0 else 1
    | .rSlot => s.oob + if rposOf c s t < c.cap then 0 else 1
    | _ => s.oob

theorem writerNext_eq (c : Cfg) (s : St) (t : Nat) :
    writerNext c s t =
      { s with started := s.started + if decide (s.wk t < c.nw) && canWrite c s then 1 else 0,
               know := upd s.know t (if decide (s.wk t < c.nw) && canWrite c s then
                 msgId t (s.wk t) :: s.know t else s.know t),
               pc := upd s.pc t (wHead c (canWrite c s) (s.wk t)) } := by
  unfold writerNext wHead
  split
  · have : ¬ s.wk t < c.nw := by omega
    simp [this, upd_self]
  · have : s.wk t < c.nw := by omega
    split <;> simp_all [upd_self]

theorem readerNext_eq (c : Cfg) (s : St) (t : Nat) :
    readerNext c s t = { s with pc := upd s.pc t (rHead c (s.rk t)) } := by
  unfold readerNext rHead
  split <;> rfl

theorem stepSt_eq_post {c : Cfg} {s s' : St} {t : Nat} (hs : stepSt c s t = some s') :
    s.enabled t = true ∧ s' = post c { s with pc := wake c s t } t := by
  unfold stepSt at hs
  split at hs
  · cases hs
  rename_i hen
  refine ⟨by simpa using hen, ?_⟩
  clear hen
  rw [← upd_eq_self (wake_self c s t)]
  -- used by `simp [*]` below: `rposOf` does not read the pcs, and `canWrite` reads `rk`, `started`, `totalDone` only
  have hr : ∀ pc', rposOf c { s with pc := pc' } t = rposOf c s t := fun _ => rfl
  have hc : ∀ sp cu rc mx bl pc wk wr gt dl kn r1 r2 r3 hb ob,
      canWrite c ⟨sp, cu, rc, mx, bl, pc, wk, s.rk, s.started, s.totalDone, wr, gt, dl, kn, r1, r2, r3, hb, ob⟩ =
        canWrite c s := fun _ _ _ _ _ _ _ _ _ _ _ _ _ _ _ _ => rfl
  cases hp : s.pc t <;> simp only [hp] at hs
  all_goals (repeat' split at hs)
  all_goals (simp only [Option.some.injEq, reduceCtorEq] at hs)
  all_goals (try subst hs)
  -- per pc and branch both sides are records; `simp` with the fields of `post` settles them field by field
  all_goals (simp [post, nextPc, wake, retW, retR, headW, begins, wkPost, upd_self, upd_upd, slotMsg, finishWrite,
    finishRead, writerNext_eq, readerNext_eq, *])

/-- `en` is used at `oLock` (layer D), for `t < nT` (layer B, C03's F and Fo) and for `s.pc t ≠ .done` (layer H) only -/
structure Moves (c : Cfg) (s : St) (t : Nat) (s' : St) : Prop where
  eq : s' = post c s t
  en : s.enabled t = true

theorem Moves.live {c : Cfg} {s s' : St} {t : Nat} (hs : Moves c s t s') : s.pc t ≠ .done := by
  intro h
  simpa [St.enabled, h] using hs.en

theorem Moves.lock {c : Cfg} {s s' : St} {t : Nat} (hs : Moves c s t s') (h : s.pc t = .oLock) :
    s.rmtx = 0 := by
  simpa [St.enabled, h] using hs.en

theorem moves_of_stepSt {c : Cfg} {s s' : St} {t : Nat} (hs : stepSt c s t = some s') :
    Moves c { s with pc := wake c s t } t s' := by
  obtain ⟨hen, rfl⟩ := stepSt_eq_post hs
  refine ⟨rfl, ?_⟩
  simp only [St.enabled, wake_self] at hen ⊢
  exact hen

theorem post_pc_self (c : Cfg) (s : St) (t : Nat) :
    (post c s t).pc t = nextPc c s t (s.pc t) := upd_same _ _ _

theorem post_wk_self (c : Cfg) (s : St) (t : Nat) : (post c s t).wk t = wkPost c s t := upd_same _ _ _

theorem post_wk_other (c : Cfg) (s : St) {t u : Nat} (h : u ≠ t) : (post c s t).wk u = s.wk u :=
  upd_other _ _ _ _ h

theorem post_got_other (c : Cfg) (s : St) {t u : Nat} (h : u ≠ t) : (post c s t).got u = s.got u :=
  upd_other _ _ _ _ h

theorem post_pc_other (c : Cfg) (s : St) {t u : Nat} (h : u ≠ t) :
    (post c s t).pc u = s.pc u := upd_other _ _ _ _ h

theorem post_written_of_ne {c : Cfg} {s : St} {t : Nat} (h : ∀ i, s.pc t ≠ .wStCur i) :
    (post c s t).written = s.written := by
  -- `simp` settles the `match` with `h` from the context; so in the `post_*_of_ne` below
  simp only [post]

theorem post_written_wStCur {c : Cfg} {s : St} {t i : Nat} (h : s.pc t = .wStCur i) :
    (post c s t).written = s.written ++ [msgId t (s.wk t)] := by
  simp only [post, h]

theorem post_written_cases (c : Cfg) (s : St) (t : Nat) :
    (post c s t).written = s.written ∨
      ∃ i, s.pc t = .wStCur i ∧ (post c s t).written = s.written ++ [msgId t (s.wk t)] := by
  simp only [post]
  split
  · exact Or.inr ⟨_, ‹_›, rfl⟩
  · exact Or.inl rfl

theorem post_written_length_le (c : Cfg) (s : St) (t : Nat) :
    s.written.length ≤ (post c s t).written.length := by
  rcases post_written_cases c s t with h | ⟨_, _, h⟩ <;> simp [h]

theorem post_written_getElem? (c : Cfg) (s : St) (t : Nat) {i : Nat} (hi : i < s.written.length) :
    (post c s t).written[i]? = s.written[i]? := by
  rcases post_written_cases c s t with h | ⟨_, _, h⟩ <;> rw [h]
  exact List.getElem?_append_left hi

theorem mem_post_written {c : Cfg} {s : St} {t m : Nat} (h : m ∈ (post c s t).written) :
    m ∈ s.written ∨ ((∃ i, s.pc t = .wStCur i) ∧ m = msgId t (s.wk t)) := by
  rcases post_written_cases c s t with h1 | ⟨i, hp, h1⟩ <;> rw [h1] at h
  · exact Or.inl h
  · rcases List.mem_append.mp h with h | h
    · exact Or.inl h
    · exact Or.inr ⟨⟨i, hp⟩, List.mem_singleton.mp h⟩

theorem post_know_other (c : Cfg) (s : St) {t u : Nat} (h : u ≠ t) :
    (post c s t).know u = s.know u := upd_other _ _ _ _ h

theorem post_know_mono (c : Cfg) (s : St) (t : Nat) {u m : Nat} (h : m ∈ s.know u) :
    m ∈ (post c s t).know u := by
  by_cases hut : u = t
  · subst hut
    simp only [post, upd_same]
    (repeat' split) <;> simp [mem_join, h]
  · rwa [post_know_other c s hut]

theorem post_know_acq {c : Cfg} {s : St} {t m : Nat} (hp : s.pc t = .rLdCur ∨ s.pc t = .oLdCur)
    (h : m ∈ s.relCursor) : m ∈ (post c s t).know t := by
  rcases hp with hp | hp <;> simp [post, hp, begins, headW, retW, mem_join, h]

theorem post_know_spin {c : Cfg} {s : St} {t m : Nat} (hp : s.pc t = .wSpin) (h0 : s.spin = 0)
    (h : m ∈ s.relSpin) : m ∈ (post c s t).know t := by
  simp [post, hp, h0, begins, headW, retW, mem_join, h]

theorem post_got_of_ne {c : Cfg} {s : St} {t : Nat} (h1 : s.pc t ≠ .rSlot)
    (h2 : ∀ m i, s.pc t ≠ .oWrRc m i) : (post c s t).got = s.got := by
  simp only [post, upd_self]

theorem retR_cases {p : Pc} (h : retR p = true) : p = .rSlot ∨ ∃ m, p = .oUnlock m := by
  cases p <;> simp_all [retR]

theorem post_delivered_of_ne {c : Cfg} {s : St} {t : Nat} (h : ∀ m i, s.pc t ≠ .oWrRc m i) :
    (post c s t).delivered = s.delivered := by
  simp only [post]

theorem post_delivered_cases (c : Cfg) (s : St) (t : Nat) :
    (post c s t).delivered = s.delivered ∨
      ∃ m i, s.pc t = .oWrRc m i ∧ (post c s t).delivered = s.delivered ++ [(m, t)] := by
  simp only [post]
  split
  · exact Or.inr ⟨_, _, ‹_›, rfl⟩
  · exact Or.inl rfl

theorem post_rk (c : Cfg) (s : St) (t u : Nat) :
    (post c s t).rk u = s.rk u + if u = t ∧ retR (s.pc t) = true then 1 else 0 := by
  by_cases h : u = t <;> simp [post, upd, h]

theorem post_blocks_of_ne {c : Cfg} {s : St} {t : Nat} (h : ∀ i, s.pc t ≠ .wSlot i) :
    (post c s t).blocks = s.blocks := by
  simp only [post]

theorem post_blocks_wSlot {c : Cfg} {s : St} {t i : Nat} (h : s.pc t = .wSlot i) :
    (post c s t).blocks = if i < c.cap then upd s.blocks i (msgId t (s.wk t)) else s.blocks := by
  simp only [post, h]

theorem post_pc_cases (φ : Pc → Prop) {c : Cfg} {s : St} {t u : Nat} (h : φ ((post c s t).pc u)) :
    (u = t ∧ φ (nextPc c s t (s.pc t))) ∨ (u ≠ t ∧ φ (s.pc u)) :=
  upd_elim h

theorem post_pc_eq {c : Cfg} {s : St} {t u : Nat} {q : Pc} (h : (post c s t).pc u = q) :
    (u = t ∧ cameFrom c s t (s.pc t) q) ∨ (u ≠ t ∧ s.pc u = q) :=
  (post_pc_cases (· = q) h).imp_left fun ⟨e, hq⟩ => ⟨e, nextPc_cameFrom hq⟩

theorem excl_post (f : Pc → Bool) {c : Cfg} {s : St} {t : Nat}
    (hx : ∀ u v, f (s.pc u) = true → f (s.pc v) = true → u = v)
    (key : ∀ v, v ≠ t → f (nextPc c s t (s.pc t)) = true → f (s.pc v) = true → False) :
    ∀ u v, f ((post c s t).pc u) = true → f ((post c s t).pc v) = true → u = v :=
  excl_upd (fun a b _ _ => hx a b) fun hq v hv => Bool.eq_false_iff.2 (key v hv hq)

end MgProof.C02
