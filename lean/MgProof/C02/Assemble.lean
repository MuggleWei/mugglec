import MgProof.C02.LemmasC
import MgProof.C02.LemmasD
import MgProof.C02.LemmasE
/-! The combined invariant and its preservation by every step; layers C and D hand layer E what
a slot read returns (`EHyp`). -/
namespace MgProof.C02
open MgModel.Conc MgModel.C02

theorem holder_of_onceIn {p : Pc} (h : onceIn p = true) : holder p = true := by
  cases p <;> simp_all [onceIn, holder]

theorem isOnce_of_onceIn {p : Pc} (h : onceIn p = true) : isOnce p = true := by
  cases p <;> simp_all [onceIn, isOnce]

/-- read-once: what every reader was handed is its share of the consumption order -/
def GotD (s : St) : Prop :=
  ∀ t, s.got t = (s.delivered.filter (fun x => x.2 == t)).map Prod.fst

structure InvAll (c : Cfg) (s : St) : Prop where
  a1 : InvA1 c s
  a2 : InvA2 c s
  b  : InvB c s
  e  : InvE c s
  oob : s.oob = 0
  k  : c.rm ≠ .once → InvC c s
  d  : c.rm = .once → InvD c s ∧ GotD s

theorem ehyp_of_C {c : Cfg} {e : Nat} (wf : WF c e) (hm : c.rm ≠ .once) {s : St} (t : Nat)
    (a1 : InvA1 c s) (a2 : InvA2 c s) (b : InvB c s) (k : InvC c s) : EHyp c s t := by
  have hno : ∀ u, onceIn (s.pc u) = true → False := fun u h => by
    have := isOnce_of_onceIn h; rw [k.noOnce u] at this; exact absurd this (by decide)
  refine ⟨fun u v hu _ => (hno u hu).elim, ?_, ?_, ?_, ?_, ?_⟩
  · intro h; exact (hno t (by simp [h, onceIn])).elim
  · intro v h; exact (hno t (by simp [h, onceIn])).elim
  · exact k.slot_read wf hm a2 b
  · exact fun _ => k.lt_of_cursor_ne wf hm a1
  · intro i h; exact (hno t (by simp [h, onceIn])).elim

theorem ehyp_of_D {c : Cfg} {e : Nat} (wf : WF c e) {s : St} (t : Nat)
    (a2 : InvA2 c s) (b : InvB c s) (d : InvD c s) : EHyp c s t := by
  refine ⟨fun u v hu hv => d.exclM u v (holder_of_onceIn hu) (holder_of_onceIn hv), fun _ => d.dle,
    fun _ _ => d.rc, ?_, ?_, ?_⟩
  · intro h; exact absurd h (d.noRd t).2
  · intro h; exact absurd h (d.noRd t).1
  · exact fun i => d.slot_read wf a2 b

theorem oob_step {c : Cfg} {e : Nat} (wf : WF c e) {s s' : St} {t : Nat}
    (a2 : InvA2 c s) (y : EHyp c s t) (h0 : s.oob = 0) (hs : Moves c s t s') : s'.oob = 0 := by
  obtain rfl := hs.eq
  simp only [post]
  split
  · rename_i i hp
    rw [a2.locW t i hp, if_pos (Nat.mod_lt _ wf.cap_pos)]
    exact h0
  · rename_i i hp
    rw [if_pos (y.ov i hp).1]
    exact h0
  · rename_i hp
    rw [if_pos (y.rdv hp).1]
    exact h0
  · exact h0

theorem gotD_step {c : Cfg} {s s' : St} {t : Nat} (d : InvD c s) (g : GotD s)
    (hs : Moves c s t s') : GotD s' := by
  obtain rfl := hs.eq
  intro u
  by_cases hp : ∃ m i, s.pc t = .oWrRc m i
  case neg =>
    have hp : ∀ m i, s.pc t ≠ .oWrRc m i := fun m i h => hp ⟨m, i, h⟩
    have h : (post c s t).delivered = s.delivered := by simp only [post]
    rw [h, post_got_of_ne (d.noRd t).2 hp]
    exact g u
  case pos =>
    obtain ⟨m, i, hp⟩ := hp
    have h : (post c s t).delivered = s.delivered ++ [(m, t)] := by simp only [post, hp]
    rw [h, List.filter_append, List.map_append, ← g u]
    by_cases hut : u = t
    · subst hut; simp [post, hp]
    · have : t ≠ u := fun h => hut h.symm
      simp [post, upd, hut, this]

theorem inv_init {c : Cfg} {e : Nat} (wf : WF c e) : InvAll c (mkInit c) :=
  ⟨invA1_init c e wf, invA2_init c e wf, invB_init c, invE_init c, rfl, fun _ => invC_init c,
   fun hm => ⟨invD_init c hm, fun _ => rfl⟩⟩

theorem InvAll.pcs {c : Cfg} {s : St} {pc' : Nat → Pc}
    (hb : ∀ u, Back c (s.pc u) (pc' u)) (h : InvAll c s) : InvAll c { s with pc := pc' } :=
  ⟨h.a1.pcs hb, h.a2.pcs hb, h.b.pcs hb, h.e.pcs hb, h.oob, fun hm => (h.k hm).pcs hb hm,
    fun hm => ⟨(h.d hm).1.pcs hb hm, (h.d hm).2⟩⟩

theorem inv_step {c : Cfg} {e : Nat} (wf : WF c e) {s s' : St} {t : Nat} (h : InvAll c s)
    (hs : Moves c s t s') : InvAll c s' := by
  have y : EHyp c s t := by
    by_cases hm : c.rm = .once
    · exact ehyp_of_D wf t h.a2 h.b (h.d hm).1
    · exact ehyp_of_C wf hm t h.a1 h.a2 h.b (h.k hm)
  exact ⟨invA1_step wf h.a1 hs, invA2_step wf h.a1 h.a2 hs, invB_step h.b hs,
    invE_step wf h.a1 h.e y hs, oob_step wf h.a2 y h.oob hs,
    fun hm => invC_step wf hm h.a1 h.a2 h.b (h.k hm) hs,
    fun hm => ⟨invD_step wf hm h.a1 h.a2 h.b (h.d hm).1 hs, gotD_step (h.d hm).1 (h.d hm).2 hs⟩⟩

theorem InvAll.reader_of_retR {c : Cfg} {s : St} (i : InvAll c s) {t : Nat}
    (h : retR (s.pc t) = true) : c.nW ≤ t ∧ s.rk t < c.nr := by
  by_cases hm : c.rm = .once
  · have d := (i.d hm).1
    obtain ⟨m, h⟩ := d.retR h
    exact ⟨d.roleO t (by rw [h]; rfl), d.actO t (by rw [h]; rfl)⟩
  · have k := i.k hm
    have h := k.retR h
    exact ⟨k.roleR t (by rw [h]; rfl), k.act t (by rw [h]; rfl)⟩

theorem inv_stepSt {c : Cfg} {e : Nat} (wf : WF c e) {s s' : St} {t : Nat} (h : InvAll c s)
    (hs : stepSt c s t = some s') : InvAll c s' :=
  inv_step wf (h.pcs (wake_back c s t)) (moves_of_stepSt hs)

end MgProof.C02
