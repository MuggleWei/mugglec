import MgProof.C02.LemmasG
import MgProof.C02.Assemble
/-! Layer H: a thread that has finished has performed all its calls. -/
namespace MgProof.C02
open MgModel.C02

structure InvH (c : Cfg) (s : St) : Prop where
  fin : ∀ t, s.pc t = .done → t < c.nT → (t < c.nW → s.wk t = c.nw) ∧ (c.nW ≤ t → s.rk t = c.nr)
  st  : ∀ t, s.pc t = .start → s.wk t = 0 ∧ s.rk t = 0

theorem invH_init (c : Cfg) : InvH c (mkInit c) := by
  refine ⟨?_, ?_⟩
  · intro t h ht; simp only [mkInit] at h; split at h <;> simp_all
  · intro t _; simp [mkInit]

theorem InvH.pcs {c : Cfg} {s : St} {pc' : Nat → Pc}
    (hb : ∀ u, Back c (s.pc u) (pc' u)) (h : InvH c s) : InvH c { s with pc := pc' } :=
  ⟨fun u hu => h.fin u ((hb u).eq hu), fun u hu => h.st u ((hb u).eq hu)⟩

theorem invH_step {c : Cfg} {s s' : St} {t : Nat} (i : InvAll c s) (g : InvG c s)
    (h : InvH c s) (hs : Moves c s t s') : InvH c s' := by
  have hlive := hs.live
  obtain rfl := hs.eq
  have hrk := post_rk c s t
  refine ⟨?fin, ?st⟩
  case fin =>
    intro u hu hlt
    rcases post_pc_eq hu with ⟨rfl, hf⟩ | ⟨hut, hu⟩
    · rw [post_wk_self, hrk]
      rcases hf with hp | ⟨h1, h2⟩ | ⟨h1, h2⟩
      · exact absurd hp hlive
      · -- a writer: the loop bound at `done` says that it has completed at most `nw` calls
        have h3 : u < c.nW := by
          rcases headW_isW h1 with h3 | ⟨_, h3⟩
          · exact i.a1.role u h3
          · exact h3
        have h4 := wle_next (g.wle u)
        simp only [wkPost] at h4 ⊢
        exact ⟨fun _ => by omega, fun _ => by omega⟩
      · rcases h1 with h1 | ⟨h1, h3⟩
        · obtain ⟨h3, h4⟩ := i.reader_of_retR h1
          simp only [h1, and_self, if_true] at h2 ⊢
          exact ⟨fun _ => by omega, fun _ => by omega⟩
        · have h4 := (h.st u h1).2
          have h5 : retR (s.pc u) = false := by rw [h1]; rfl
          simp only [h5, and_false, Bool.false_eq_true, if_false] at h2 ⊢
          exact ⟨fun _ => by omega, fun _ => by omega⟩
    · simpa [post_wk_other c s hut, hrk, hut] using h.fin u hu hlt
  case st =>
    intro u hu
    rcases post_pc_eq hu with ⟨rfl, hf⟩ | ⟨hut, hu⟩
    · exact (hf).elim
    · simpa [post_wk_other c s hut, hrk, hut] using h.st u hu

theorem invH_stepSt {c : Cfg} {s s' : St} {t : Nat} (i : InvAll c s) (g : InvG c s) (h : InvH c s)
    (hs : stepSt c s t = some s') : InvH c s' :=
  invH_step (i.pcs (wake_back c s t)) (g.pcs (wake_back c s t)) (h.pcs (wake_back c s t))
    (moves_of_stepSt hs)

end MgProof.C02
