import MgProof.C02.LemmasB
/-! Layer G: the write order contains every published message exactly once — no write is lost,
none is duplicated, and nothing else gets in. Messages are identified by the harness's naming
scheme (`msgId t k = (t+1)*100 + k`, prefilled messages `1..pre`), which is injective for at most
100 messages per writer and fewer than 100 prefilled messages (`IdsOK`; the harness enforces
`nw ≤ 99`, `cap ≤ 64`). -/
namespace MgProof.C03
open MgModel.C02

/-- a writer between its publication and its wake call -/
@[grind] def pending : Pc → Bool
  | .wUnlock | .wWake => true
  | .start | .thr | .wSpin | .wYield | .wRdCur1 | .wSlot _ | .wRdCur2 | .wStCur _
  | .rLdCur | .rSlot | .rFwait _ | .rBlocked | .rWoken
  | .oLock | .oLdCur | .oRc1 _ | .oRc2 | .oSlot _ | .oRc3 _ | .oWrRc _ _ | .oUnlock _ | .done => false

end MgProof.C03
namespace MgProof.C02
open MgModel.C02 MgProof.C03

/-- number of messages writer `t` has published -/
def pub (s : St) (t : Nat) : Nat := s.wk t + (if pending (s.pc t) = true then 1 else 0)

structure IdsOK (c : Cfg) : Prop where
  hnw  : c.nw ≤ 100
  hpre : c.pre < 100

structure InvG (c : Cfg) (s : St) : Prop where
  /-- the calls a writer has completed, and the one it is in or waits to begin, are among its `nw` -/
  wle  : ∀ t, s.wk t + (if isW (s.pc t) = true then 1 else 0) ≤ c.nw
  nd   : s.written.Nodup
  dec  : ∀ m, m ∈ s.written → (1 ≤ m ∧ m ≤ c.pre) ∨
           (100 ≤ m ∧ m / 100 - 1 < c.nW ∧ m % 100 < pub s (m / 100 - 1))
  cmp  : ∀ t k, k < pub s t → msgId t k ∈ s.written
  pre  : ∀ m, 1 ≤ m → m ≤ c.pre → m ∈ s.written

theorem InvG.wklt {c : Cfg} {s : St} (g : InvG c s) (t : Nat)
    (h : inflight (s.pc t) = true ∨ pending (s.pc t) = true) : s.wk t < c.nw := by
  have hw : isW (s.pc t) = true := by
    generalize s.pc t = p at h
    cases p <;> simp_all [inflight, pending, isW]
  have := g.wle t
  rw [if_pos hw] at this
  omega

theorem preMsgs_mem (p m : Nat) : m ∈ preMsgs p ↔ 1 ≤ m ∧ m ≤ p := by
  simp only [preMsgs, List.mem_map, List.mem_range]
  constructor
  · rintro ⟨a, ha, rfl⟩; omega
  · intro h; exact ⟨m - 1, by omega, by omega⟩

theorem preMsgs_nodup (p : Nat) : (preMsgs p).Nodup := by
  have h : (preMsgs p).Pairwise (· < ·) := by
    unfold preMsgs
    rw [List.pairwise_map]
    exact List.pairwise_lt_range.imp (by intro a b h; omega)
  exact h.imp (by intro a b h; omega)

theorem invG_init (c : Cfg) : InvG c (mkInit c) := by
  refine ⟨?_, preMsgs_nodup _, ?_, ?_, ?_⟩
  · intro t; simp only [mkInit]; split <;> simp [isW]
  · intro m hm
    simp only [mkInit] at hm
    exact Or.inl ((preMsgs_mem _ _).mp hm)
  · intro t k hk
    simp only [pub, mkInit] at hk
    split at hk <;> simp [pending] at hk
  · intro m h1 h2
    simp only [mkInit]
    exact (preMsgs_mem _ _).mpr ⟨h1, h2⟩

theorem InvG.pcs {c : Cfg} {s : St} {pc' : Nat → Pc}
    (hb : ∀ u, Back c (s.pc u) (pc' u)) (g : InvG c s) : InvG c { s with pc := pc' } :=
  have hp : ∀ u, pub { s with pc := pc' } u = pub s u := fun u => by simp only [pub, (hb u).cls_eq pending]
  ⟨fun u => (hb u).cls_eq isW ▸ g.wle u,
    g.nd, fun m hm => (g.dec m hm).imp id fun ⟨h1, h2, h3⟩ => ⟨h1, h2, (hp _).symm ▸ h3⟩,
    fun u k hk => g.cmp u k (hp u ▸ hk), g.pre⟩

theorem pub_post (c : Cfg) (s : St) (t : Nat) :
    ((∃ i, s.pc t = .wStCur i) ∧ pub (post c s t) t = pub s t + 1) ∨
      ((∀ i, s.pc t ≠ .wStCur i) ∧ pub (post c s t) t = pub s t) := by
  simp only [pub, post_pc_self, post_wk_self]
  cases hp : s.pc t <;>
    simp only [nextPc, wHead, rHead, firstWritePc_eq, firstReadPc_eq, afterFutex_eq, apply_ite pending,
      wkPost, hp, retW] <;>
    simp [pending] <;> (cases hwm : c.wm <;> grind)

theorem pub_post_other (c : Cfg) (s : St) {t u : Nat} (h : u ≠ t) : pub (post c s t) u = pub s u := by
  rw [pub, pub, post_pc_other c s h, post_wk_other c s h]

theorem pending_enter {c : Cfg} {s : St} {t : Nat} {p : Pc} (hm : c.rm ≠ .busy)
    (hp : (∃ i, p = .wStCur i) ∨ p = .wUnlock) : pending (nextPc c s t p) = true := by
  rcases hp with ⟨i, rfl⟩ | rfl <;> simp only [nextPc, hm, if_false]
  · split <;> rfl
  · rfl

theorem pending_cases {p : Pc} (h : pending p = true) : p = .wUnlock ∨ p = .wWake := by
  cases p <;> simp_all [pending]

theorem invG_step {c : Cfg} (ok : IdsOK c) {s s' : St} {t : Nat} (a1 : InvA1 c s) (g : InvG c s)
    (hs : Moves c s t s') : InvG c s' := by
  obtain rfl := hs.eq
  have hw := post_written_cases c s t
  have hsub : ∀ m, m ∈ s.written → m ∈ (post c s t).written := by
    intro m hm
    rcases hw with h | ⟨_, _, h⟩ <;> rw [h]
    · exact hm
    · exact List.mem_append_left _ hm
  have hpub : ∀ u, pub s u ≤ pub (post c s t) u := by
    intro u
    by_cases hut : u = t
    · subst hut; rcases pub_post c s u with ⟨_, h⟩ | ⟨_, h⟩ <;> omega
    · rw [pub_post_other c s hut]; omega
  have hnew : ∀ i, s.pc t = .wStCur i → s.wk t < 100 ∧ pub s t = s.wk t ∧
      msgId t (s.wk t) / 100 - 1 = t ∧ msgId t (s.wk t) % 100 = s.wk t := by
    intro i hp
    have h1 := g.wklt t (Or.inl (by rw [hp]; rfl))
    have h2 := ok.hnw
    simp [pub, msgId, hp, pending]
    omega
  refine ⟨?wle, ?nd, ?decode, ?cmp, fun m h1 h2 => hsub m (g.pre m h1 h2)⟩
  case wle =>
    intro u
    by_cases hut : u = t
    · subst hut
      rw [post_wk_self, post_pc_self]
      exact wle_next (g.wle u)
    · rw [post_wk_other c s hut, post_pc_other c s hut]
      exact g.wle u
  case nd =>
    rcases hw with h | ⟨i, hp, h⟩ <;> rw [h]
    · exact g.nd
    · obtain ⟨h1, h2, h3, h4⟩ := hnew i hp
      refine List.nodup_append.mpr ⟨g.nd, by simp, ?_⟩
      intro a ha b hb
      rw [List.mem_singleton.mp hb]
      rintro rfl
      rcases g.dec _ ha with h | ⟨_, _, h⟩
      · have := ok.hpre; simp only [msgId] at h; omega
      · rw [h3, h4, h2] at h; omega
  case decode =>
    intro m hm
    rcases mem_post_written hm with h | ⟨⟨i, hp⟩, rfl⟩
    · rcases g.dec m h with h | ⟨h1, h2, h3⟩
      · exact Or.inl h
      · exact Or.inr ⟨h1, h2, Nat.lt_of_lt_of_le h3 (hpub _)⟩
    · obtain ⟨h1, h2, h3, h4⟩ := hnew i hp
      refine Or.inr ⟨by simp only [msgId]; omega, ?_, ?_⟩
      · rw [h3]; exact a1.role t (by rw [hp]; rfl)
      · rcases pub_post c s t with ⟨_, h⟩ | ⟨h, _⟩
        · rw [h3, h4, h]; omega
        · exact absurd hp (h i)
  case cmp =>
    intro u k hk
    by_cases hut : u = t
    · subst hut
      rcases pub_post c s u with ⟨⟨i, hp⟩, h⟩ | ⟨_, h⟩ <;> rw [h] at hk
      · obtain ⟨_, h2, _, _⟩ := hnew i hp
        by_cases hk' : k < pub s u
        · exact hsub _ (g.cmp u k hk')
        · have : k = s.wk u := by omega
          rw [this, post_written_wStCur hp]
          simp
      · exact hsub _ (g.cmp u k hk)
    · rw [pub_post_other c s hut] at hk
      exact hsub _ (g.cmp u k hk)

theorem invG_stepSt {c : Cfg} (ok : IdsOK c) {s s' : St} {t : Nat} (a1 : InvA1 c s) (g : InvG c s)
    (hs : stepSt c s t = some s') : InvG c s' :=
  invG_step ok (a1.pcs (wake_back c s t)) (g.pcs (wake_back c s t)) (moves_of_stepSt hs)

end MgProof.C02
