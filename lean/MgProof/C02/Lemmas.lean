import MgProof.C02.Step
/-! Invariants of the ring-buffer model and their preservation by every step, layer A:
the writers' side (cursor = number of published messages modulo capacity, mutual exclusion of
the writers on the write position, slot contents). -/
namespace MgProof.C02
open MgModel.Conc MgModel.C02

/-- pcs at which a writer owns the write position (from entering the critical section to
leaving it) -/
@[grind] def inW : Pc → Bool
  | .wRdCur1 | .wSlot _ | .wRdCur2 | .wStCur _ | .wUnlock => true
  | .start | .thr | .wSpin | .wYield | .wWake | .rLdCur | .rSlot | .rFwait _ | .rBlocked | .rWoken
  | .oLock | .oLdCur | .oRc1 _ | .oRc2 | .oSlot _ | .oRc3 _ | .oWrRc _ _ | .oUnlock _ | .done => false

/-- pcs of writer threads (after the start step) -/
@[grind] def isW : Pc → Bool
  | .thr | .wSpin | .wYield | .wRdCur1 | .wSlot _ | .wRdCur2 | .wStCur _ | .wUnlock | .wWake => true
  | .start | .rLdCur | .rSlot | .rFwait _ | .rBlocked | .rWoken
  | .oLock | .oLdCur | .oRc1 _ | .oRc2 | .oSlot _ | .oRc3 _ | .oWrRc _ _ | .oUnlock _ | .done => false

/-- a write call has started and its message is not yet published -/
@[grind] def inflight : Pc → Bool
  | .wSpin | .wYield | .wRdCur1 | .wSlot _ | .wRdCur2 | .wStCur _ => true
  | .start | .thr | .wUnlock | .wWake | .rLdCur | .rSlot | .rFwait _ | .rBlocked | .rWoken
  | .oLock | .oLdCur | .oRc1 _ | .oRc2 | .oSlot _ | .oRc3 _ | .oWrRc _ _ | .oUnlock _ | .done => false

theorem isW_of_inW {p : Pc} (h : inW p = true) : isW p = true := by
  cases p <;> simp_all [inW, isW]

/-- well-formed configurations: power-of-two capacity (what `muggle_ring_buffer_init` produces),
the documented no-lapping precondition as enforced by the harness's throttle, and the user
guarantee that comes with `MUGGLE_RING_BUFFER_FLAG_SINGLE_WRITER` -/
structure WF (c : Cfg) (e : Nat) : Prop where
  he   : e ≤ 32
  hcap : c.cap = 2 ^ e
  hlim : c.lim + 1 ≤ c.cap
  hsw  : c.wm = .single → c.nW ≤ 1

theorem WF.cap_pos {c : Cfg} {e : Nat} (wf : WF c e) : 0 < c.cap := by
  rw [wf.hcap]; exact Nat.pow_pos (by decide)

theorem WF.ringIdx {c : Cfg} {e : Nat} (wf : WF c e) (x : Nat) : ringIdx x c.cap = x % c.cap := by
  rw [wf.hcap, ringIdx_pow2]

structure InvA1 (c : Cfg) (s : St) : Prop where
  cur   : s.cursor = s.written.length % c.cap
  role  : ∀ t, isW (s.pc t) = true → t < c.nW
  excl  : ∀ t u, inW (s.pc t) = true → inW (s.pc u) = true → t = u
  spin1 : c.wm = .lock → ∀ t, inW (s.pc t) = true → s.spin = 1
  modeS : ∀ t, s.pc t = .wSpin ∨ s.pc t = .wYield → c.wm = .lock
  locS  : ∀ t i, s.pc t = .wStCur i → i = s.written.length % c.cap

theorem invA1_init (c : Cfg) (e : Nat) (wf : WF c e) : InvA1 c (mkInit c) := by
  refine ⟨?_, ?_, ?_, ?_, ?_, ?_⟩
  · simp only [mkInit, preMsgs, List.length_map, List.length_range, wf.ringIdx]
  all_goals (intros; simp only [mkInit] at *; split at * <;> simp_all [isW, inW])

/-- a step stays among the writer pcs without returning, or passes the head of the loop with calls left -/
theorem isW_next {c : Cfg} {s : St} {t : Nat} {p : Pc} (h : isW (nextPc c s t p) = true) :
    (isW p = true ∧ retW c p = false) ∨
      (headW c t p = true ∧ s.wk t + (if retW c p = true then 1 else 0) < c.nw) := by
  flow_cases p at h with isW <;> simp_all [isW, headW, retW]
  case wStCur => cases hw : c.wm <;> by_cases hb : c.rm = .busy <;> simp_all
  case wUnlock => by_cases hb : c.rm = .busy <;> simp_all

theorem isW_of_retW {c : Cfg} {p : Pc} (h : retW c p = true) : isW p = true := by
  cases p <;> simp_all [retW, isW]

theorem inW_next {c : Cfg} {s : St} {t : Nat} {p : Pc} (h : inW (nextPc c s t p) = true) :
    (inW p = true ∧ p ≠ .wUnlock) ∨ (p = .wSpin ∧ s.spin = 0) ∨
      (c.wm = .single ∧ headW c t p = true) := by
  flow_cases p at h with inW <;> simp_all [inW, headW, retW, wm_ne_lock]

theorem headW_isW {c : Cfg} {t : Nat} {p : Pc} (h : headW c t p = true) :
    isW p = true ∨ (p = .start ∧ t < c.nW) := by
  cases p <;> simp_all [headW, retW, isW]

/-- the writer's loop bound (the calls completed, and the one a writer is in or waits to begin, are among its `nw`)
passes from a pc to the next -/
theorem wle_next {c : Cfg} {s : St} {t : Nat}
    (h : s.wk t + (if isW (s.pc t) = true then 1 else 0) ≤ c.nw) :
    wkPost c s t + (if isW (nextPc c s t (s.pc t)) = true then 1 else 0) ≤ c.nw := by
  simp only [wkPost]
  by_cases hq : isW (nextPc c s t (s.pc t)) = true
  · rcases isW_next hq with ⟨h1, h2⟩ | ⟨_, h2⟩
    · simpa [hq, h1, h2] using h
    · simp only [hq, if_true]; omega
  · -- a return is from a writer pc
    rw [if_neg hq]
    split
    · rw [if_pos (isW_of_retW ‹_›)] at h; omega
    · omega

theorem InvA1.pcs {c : Cfg} {s : St} {pc' : Nat → Pc}
    (hb : ∀ u, Back c (s.pc u) (pc' u)) (h : InvA1 c s) : InvA1 c { s with pc := pc' } :=
  have hW := fun u => (hb u).cls inW
  ⟨h.cur, fun u hu => h.role u ((hb u).cls isW hu),
    fun u v hu hv => h.excl u v (hW u hu) (hW v hv), fun hl u hu => h.spin1 hl u (hW u hu),
    fun u hu => h.modeS u (hu.imp (hb u).eq (hb u).eq), fun u i hu => h.locS u i ((hb u).eq hu)⟩

theorem InvA1.frame_of_inW {c : Cfg} {s : St} (h : InvA1 c s) {t u : Nat} (hut : u ≠ t)
    (hu : inW (s.pc u) = true) :
    (post c s t).written = s.written ∧ (post c s t).blocks = s.blocks := by
  have hp : inW (s.pc t) = false := by
    cases hp : inW (s.pc t)
    · rfl
    · exact absurd (h.excl u t hu hp) hut
  simp only [post]
  constructor <;> split <;> simp_all [inW]

/-- the cursor value a writer holds inside the critical section stays the write position -/
theorem InvA1.held_post {c : Cfg} {s : St} (h : InvA1 c s) {t u i : Nat} {q : Pc}
    (hq : q = .wSlot i ∨ q = .wStCur i) (hu : (post c s t).pc u = q)
    (old : s.pc u = q → i = s.written.length % c.cap) : i = (post c s t).written.length % c.cap := by
  rcases post_pc_eq hu with ⟨-, hf⟩ | ⟨hut, hu⟩
  · have hp : (s.pc t = .wRdCur1 ∨ s.pc t = .wRdCur2) ∧ i = s.cursor := by
      rcases hq with rfl | rfl
      · exact ⟨Or.inl hf.1, hf.2⟩
      · exact ⟨Or.inr hf.1, hf.2⟩
    rw [hp.2, post_written_of_ne (by rcases hp.1 with e | e <;> simp [e]), h.cur]
  · have hin : inW (s.pc u) = true := by rcases hq with rfl | rfl <;> rw [hu] <;> rfl
    rw [(h.frame_of_inW hut hin).1]
    exact old hu

theorem invA1_step {c : Cfg} {e : Nat} (wf : WF c e) {s s' : St} {t : Nat} (h : InvA1 c s)
    (hs : Moves c s t s') : InvA1 c s' := by
  obtain rfl := hs.eq
  -- entering takes the free spinlock (`spin1`) or being the only writer (`hsw`)
  have key : ∀ v, v ≠ t → inW (nextPc c s t (s.pc t)) = true → inW (s.pc v) = true → False := by
    intro v hvt hq hv
    rcases inW_next hq with ⟨h1, _⟩ | ⟨h1, h2⟩ | ⟨h1, h2⟩
    · exact hvt (h.excl v t hv h1)
    · have := h.spin1 (h.modeS t (Or.inl h1)) v hv
      omega
    · have h3 := wf.hsw h1
      have h4 := h.role v (isW_of_inW hv)
      have h5 : t < c.nW := by
        rcases headW_isW h2 with h5 | ⟨_, h5⟩
        · exact h.role t h5
        · exact h5
      omega
  refine ⟨?cur, ?role, excl_post inW h.excl key, ?spin1, ?modeS,
    fun u i hu => h.held_post (.inr rfl) hu (h.locS u i)⟩
  case cur =>
    simp only [post]
    split
    · rename_i i hp
      rw [h.locS t i hp, wf.ringIdx, Nat.mod_add_mod, List.length_append, List.length_singleton]
    · exact h.cur
  case role =>
    intro u hu
    rcases post_pc_cases (isW · = true) hu with ⟨rfl, hu⟩ | ⟨-, hu⟩
    · rcases isW_next hu with ⟨h1, _⟩ | ⟨h1, _⟩
      · exact h.role u h1
      · rcases headW_isW h1 with h2 | ⟨_, h2⟩
        · exact h.role u h2
        · exact h2
    · exact h.role u hu
  case spin1 =>
    intro hl u hu
    have h1 : (s.spin = 1 ∧ s.pc t ≠ .wUnlock) ∨ (s.pc t = .wSpin ∧ s.spin = 0) := by
      rcases post_pc_cases (inW · = true) hu with ⟨-, hu⟩ | ⟨hut, hu⟩
      · rcases inW_next hu with ⟨h4, h5⟩ | h4 | ⟨h4, _⟩
        · exact Or.inl ⟨h.spin1 hl t h4, h5⟩
        · exact Or.inr h4
        · rw [hl] at h4; cases h4
      · exact Or.inl ⟨h.spin1 hl u hu, fun hp => hut (h.excl u t hu (by rw [hp]; rfl))⟩
    simp only [post]
    split
    · rcases h1 with ⟨h1, _⟩ | ⟨_, h1⟩ <;> simp [h1]
    · rcases h1 with ⟨_, h1⟩ | ⟨h1, _⟩
      · exact absurd ‹_› h1
      · simp_all
    · rcases h1 with ⟨h1, _⟩ | ⟨h1, _⟩
      · exact h1
      · exact absurd h1 ‹_›
  case modeS =>
    intro u hu
    rcases hu with hu | hu <;> rcases post_pc_eq hu with ⟨rfl, hf⟩ | ⟨-, hu⟩
    · rcases hf with hp | ⟨hl, _⟩
      · exact h.modeS u (Or.inr hp)
      · exact hl
    · exact h.modeS u (Or.inl hu)
    · exact h.modeS u (Or.inl hf.1)
    · exact h.modeS u (Or.inr hu)

structure InvA2 (c : Cfg) (s : St) : Prop where
  locW : ∀ t i, s.pc t = .wSlot i → i = s.written.length % c.cap
  slot : ∀ t, (s.pc t = .wRdCur2 ∨ ∃ i, s.pc t = .wStCur i) →
           s.blocks (s.written.length % c.cap) = msgId t (s.wk t)
  blk  : ∀ i, i < s.written.length → s.written.length < i + c.cap →
           s.written[i]? = some (s.blocks (i % c.cap))

theorem invA2_init (c : Cfg) (e : Nat) (wf : WF c e) : InvA2 c (mkInit c) := by
  have hp : c.pre < c.cap ∨ c.pre = 0 := by
    unfold Cfg.pre; split
    · exact Or.inr rfl
    · exact Or.inl (Nat.mod_lt _ wf.cap_pos)
  refine ⟨?_, ?_, ?_⟩
  · intro t i h; simp only [mkInit] at h; split at h <;> simp at h
  · intro t h; simp only [mkInit] at h; split at h <;> simp at h
  · intro i hi _
    simp only [mkInit, preMsgs, List.length_map, List.length_range] at hi ⊢
    have : i % c.cap = i := Nat.mod_eq_of_lt (by omega)
    simp [this, hi]

theorem InvA2.pcs {c : Cfg} {s : St} {pc' : Nat → Pc}
    (hb : ∀ u, Back c (s.pc u) (pc' u)) (h : InvA2 c s) : InvA2 c { s with pc := pc' } :=
  ⟨fun u i hu => h.locW u i ((hb u).eq hu),
    fun u hu => h.slot u (hu.imp (hb u).eq fun ⟨i, hi⟩ => ⟨i, (hb u).eq hi⟩), h.blk⟩

theorem invA2_step {c : Cfg} {e : Nat} (wf : WF c e) {s s' : St} {t : Nat} (h : InvA1 c s)
    (g : InvA2 c s) (hs : Moves c s t s') : InvA2 c s' := by
  obtain rfl := hs.eq
  have hml : s.written.length % c.cap < c.cap := Nat.mod_lt _ wf.cap_pos
  refine ⟨?locW, ?slot, ?blk⟩
  case locW => exact fun u i hu => h.held_post (.inl rfl) hu (g.locW u i)
  case slot =>
    intro u hu
    rcases post_pc_cases (fun p => p = .wRdCur2 ∨ ∃ i, p = .wStCur i) hu with ⟨rfl, hu⟩ | ⟨hut, hu⟩
    · rcases hu with hu | ⟨i, hu⟩
      · obtain ⟨i, hp⟩ := nextPc_cameFrom hu
        have hi := g.locW u i hp
        subst hi
        simp [post, hp, hml, wkPost, retW]
      · have hp := (nextPc_cameFrom hu).1
        simpa [post, hp, wkPost, retW] using g.slot u (Or.inl hp)
    · have hin : inW (s.pc u) = true := by
        rcases hu with hu | ⟨i, hu⟩ <;> rw [hu] <;> rfl
      obtain ⟨h1, h2⟩ := h.frame_of_inW hut hin
      rw [h1, h2]
      rw [post_wk_other c s hut]
      exact g.slot u hu
  case blk =>
    -- the slot after the last published message is shared by no position less than a capacity back
    intro i hi hc
    by_cases hp : ∃ j, s.pc t = .wStCur j
    · obtain ⟨j, hp⟩ := hp
      have hm := g.slot t (Or.inr ⟨j, hp⟩)
      rw [post_written_wStCur hp] at hi hc ⊢
      rw [post_blocks_of_ne (by simp [hp])]
      simp only [List.length_append, List.length_singleton] at hi hc
      by_cases hlt : i < s.written.length
      · rw [List.getElem?_append_left hlt]; exact g.blk i hlt (by omega)
      · have : i = s.written.length := by omega
        subst this
        simp [hm]
    · rw [post_written_of_ne (not_exists.mp hp)] at hi hc ⊢
      rw [g.blk i hi hc]
      by_cases hq : ∃ j, s.pc t = .wSlot j
      · obtain ⟨j, hq⟩ := hq
        have hj := g.locW t j hq
        have hne : i % c.cap ≠ j := by
          intro h3
          have := Nat.mod_inj_of_lt_add (h3.trans hj) (by omega) (by omega)
          omega
        rw [post_blocks_wSlot hq]
        split <;> simp [upd, hne]
      · rw [post_blocks_of_ne (not_exists.mp hq)]

end MgProof.C02
