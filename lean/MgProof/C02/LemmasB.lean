import MgProof.C02.Lemmas
/-! Layer B: the harness's throttle counter `started` equals the number of published messages
plus the number of write calls in flight; threads beyond `nT` never run. -/
namespace MgProof.C03
open MgModel.C02

/-- number of threads below `n` whose pc satisfies `f`; in `MgProof.C03` because C03's statements (`InvF.bl`) name it -/
def cntP (f : Pc → Bool) (pc : Nat → Pc) : Nat → Nat
  | 0 => 0
  | n + 1 => cntP f pc n + (if f (pc n) = true then 1 else 0)

end MgProof.C03
namespace MgProof.C02
open MgModel.Conc MgModel.C02 MgProof.C03

theorem cntP_isSum (f : Pc → Bool) (pc : Nat → Pc) :
    IsSum (cntP f pc) fun i => if f (pc i) = true then 1 else 0 := ⟨rfl, fun _ => rfl⟩

theorem cntP_congr {f : Pc → Bool} {pc pc' : Nat → Pc} (n : Nat)
    (h : ∀ i, i < n → f (pc' i) = f (pc i)) : cntP f pc' n = cntP f pc n :=
  (cntP_isSum f pc).congr (cntP_isSum f pc') n fun i hi => by rw [h i hi]

theorem cntP_upd (f : Pc → Bool) (pc : Nat → Pc) (n t : Nat) (q : Pc) (h : t < n) :
    cntP f (upd pc t q) n + (if f (pc t) = true then 1 else 0) =
      cntP f pc n + (if f q = true then 1 else 0) :=
  (cntP_isSum f pc).upd (w := fun p => if f p = true then 1 else 0) (cntP_isSum f (upd pc t q)) h

theorem cntP_post (f : Pc → Bool) (c : Cfg) (s : St) {t n : Nat} (ht : t < n) :
    cntP f (post c s t).pc n + (if f (s.pc t) = true then 1 else 0) =
      cntP f s.pc n + (if f (nextPc c s t (s.pc t)) = true then 1 else 0) :=
  cntP_upd f s.pc n t (nextPc c s t (s.pc t)) ht

theorem cntP_pos {f : Pc → Bool} {pc : Nat → Pc} {n : Nat} (h : 0 < cntP f pc n) :
    ∃ w, w < n ∧ f (pc w) = true :=
  let ⟨w, hw, hp⟩ := (cntP_isSum f pc).pos h
  ⟨w, hw, Decidable.byContradiction fun hf => by rw [if_neg hf] at hp; exact Nat.lt_irrefl 0 hp⟩

/-- number of threads below `n` whose write call is in flight -/
def cnt (pc : Nat → Pc) : Nat → Nat
  | 0 => 0
  | n + 1 => cnt pc n + (if inflight (pc n) = true then 1 else 0)

theorem cnt_eq_cntP (pc : Nat → Pc) (n : Nat) : cnt pc n = cntP inflight pc n :=
  (cntP_isSum inflight pc).congr ⟨rfl, fun _ => rfl⟩ n fun _ _ => rfl

structure InvB (c : Cfg) (s : St) : Prop where
  dn  : ∀ t, c.nT ≤ t → s.pc t = .done
  cntS : s.started = s.written.length + cnt s.pc c.nT

theorem cnt_init (c : Cfg) (n : Nat) : cnt (fun t => if t < c.nT then Pc.start else Pc.done) n = 0 :=
  IsSum.zero ⟨rfl, fun _ => rfl⟩ n fun i _ =>
    if_neg <| by rw [show inflight (if i < c.nT then Pc.start else Pc.done) = false by split <;> rfl]; nofun

theorem invB_init (c : Cfg) : InvB c (mkInit c) := by
  refine ⟨?_, ?_⟩
  · intro t ht; simp only [mkInit]; split
    · omega
    · rfl
  · simp only [mkInit, cnt_init, preMsgs, List.length_map, List.length_range, Nat.add_zero]

theorem InvB.pcs {c : Cfg} {s : St} {pc' : Nat → Pc}
    (hb : ∀ u, Back c (s.pc u) (pc' u)) (h : InvB c s) : InvB c { s with pc := pc' } := by
  refine ⟨fun u hu => ?_, ?_⟩
  · exact ((hb u).of_ne (by rw [h.dn u hu]; simp)).trans (h.dn u hu)
  · have := h.cntS
    rw [cnt_eq_cntP] at this ⊢
    rwa [cntP_congr c.nT fun u _ => (hb u).cls_eq inflight]

theorem InvB.lt_nT {c : Cfg} {s : St} (b : InvB c s) {u : Nat} (h : s.pc u ≠ .done) : u < c.nT :=
  Nat.lt_of_not_le fun h1 => h (b.dn u h1)

theorem InvB.parked_lt {c : Cfg} {s : St} (b : InvB c s) (u : Nat) (h : s.pc u = .rBlocked) : u < c.nT :=
  b.lt_nT (by rw [h]; simp)

theorem step_tid_lt {c : Cfg} {s s' : St} {t : Nat} (b : InvB c s) (hs : Moves c s t s') :
    t < c.nT :=
  b.lt_nT hs.live

/-- the per-step balance of `cntS`, with sums on both sides so that nothing is subtracted -/
theorem inflight_count (c : Cfg) (s : St) (t : Nat) :
    (if inflight (nextPc c s t (s.pc t)) = true then 1 else 0) + (post c s t).written.length =
      (if inflight (s.pc t) = true then 1 else 0) + s.written.length +
        (if begins c s t = true then 1 else 0) := by
  cases hp : s.pc t <;>
    simp only [nextPc, wHead, rHead, firstWritePc_eq, firstReadPc_eq, afterFutex_eq, apply_ite inflight,
      post, begins, headW, retW, wkPost, hp] <;>
    simp [inflight, wm_ne_lock] <;> grind

theorem inflight_cases {c : Cfg} {s : St} {t : Nat} (h : inflight (nextPc c s t (s.pc t)) = true) :
    (inflight (s.pc t) = true ∧ retW c (s.pc t) = false) ∨ begins c s t = true := by
  cases hp : s.pc t <;> rw [hp] at h <;>
    simp only [nextPc, wHead, rHead, firstWritePc_eq, firstReadPc_eq, afterFutex_eq, apply_ite inflight] at h <;>
    simp_all [inflight, retW, begins, headW, wkPost, wm_ne_lock]

theorem invB_step {c : Cfg} {s s' : St} {t : Nat} (b : InvB c s)
    (hs : Moves c s t s') : InvB c s' := by
  have ht := step_tid_lt b hs
  obtain rfl := hs.eq
  refine ⟨?dn, ?cntS⟩
  case dn =>
    intro u hu
    have hut : u ≠ t := by omega
    rw [post_pc_other c s hut]
    exact b.dn u hu
  case cntS =>
    have h1 := cntP_post inflight c s ht
    have h3 := inflight_count c s t
    have h4 := b.cntS
    rw [cnt_eq_cntP] at h4 ⊢
    simp only [post] at h1 h3 ⊢
    omega

theorem mem_readers {c : Cfg} {u : Nat} (h1 : c.nW ≤ u) (h2 : u < c.nT) :
    u ∈ (List.range c.nT).filter (isReader c) := by
  simp [isReader, h1, h2]

theorem canWrite_spec {c : Cfg} {s : St} (hm : c.rm ≠ .once) (h : canWrite c s = true) :
    ∀ u, c.nW ≤ u → u < c.nT → s.rk u < c.nr → s.started < c.pre + s.rk u + c.lim := by
  intro u h1 h2 h3
  have hu := mem_readers h1 h2
  unfold canWrite at h
  simp only [] at h
  -- the second `if` of `canWrite` is settled by `hm`, which `split` finds in the context
  split at h
  · rename_i hall
    have := List.all_eq_true.mp hall u hu
    simp at this; omega
  · have := List.all_eq_true.mp h u hu
    simp at this; omega

theorem canWrite_spec_once {c : Cfg} {s : St} (hm : c.rm = .once) (h : canWrite c s = true) :
    (∃ u, c.nW ≤ u ∧ u < c.nT ∧ s.rk u < c.nr) → s.started < s.totalDone + c.lim := by
  rintro ⟨u, h1, h2, h3⟩
  have hu := mem_readers h1 h2
  unfold canWrite at h
  simp only [] at h
  split at h
  · rename_i hall
    have := List.all_eq_true.mp hall u hu
    simp at this; omega
  · simpa [hm] using h

/-- `f` is the class of pcs inside a read call: a step into it stays inside without returning, or passes the
head of the reader's loop (from a return or from `start`) with reads left -/
def ReaderFlow (f : Pc → Bool) (c : Cfg) (s : St) (t : Nat) : Prop :=
  f (nextPc c s t (s.pc t)) = true →
    (f (s.pc t) = true ∧ retR (s.pc t) = false) ∨
      ((f (s.pc t) = true ∨ ¬t < c.nW) ∧ s.rk t + (if retR (s.pc t) = true then 1 else 0) < c.nr)

/-- the threads inside a read call are readers and have reads left -/
theorem reader_post {f : Pc → Bool} {c : Cfg} {s : St} {t : Nat} (next : ReaderFlow f c s t)
    (role : ∀ u, f (s.pc u) = true → c.nW ≤ u) (act : ∀ u, f (s.pc u) = true → s.rk u < c.nr) :
    (∀ u, f ((post c s t).pc u) = true → c.nW ≤ u) ∧
      (∀ u, f ((post c s t).pc u) = true → (post c s t).rk u < c.nr) := by
  have hrk := post_rk c s t
  constructor
  · intro u hu
    rcases post_pc_cases (f · = true) hu with ⟨rfl, hu⟩ | ⟨-, hu⟩
    · rcases next hu with ⟨h1, _⟩ | ⟨h1 | h1, _⟩
      · exact role u h1
      · exact role u h1
      · omega
    · exact role u hu
  · intro u hu
    rcases post_pc_cases (f · = true) hu with ⟨rfl, hu⟩ | ⟨hut, hu⟩
    · rcases next hu with ⟨h1, h2⟩ | ⟨_, h1⟩
      · simpa [hrk, h2] using act u h1
      · simpa [hrk] using h1
    · simpa [hrk, hut] using act u hu

end MgProof.C02
