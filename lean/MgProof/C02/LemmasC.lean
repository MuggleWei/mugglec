import MgProof.C02.LemmasB
/-! Layer C: readers in the wait / single-wait / busy-loop modes. The throttle keeps the
writers less than a capacity ahead of every unfinished reader (no lapping), a reader never
runs ahead of the writers, and what it was handed is the segment of the write order it
asked for. -/
namespace MgProof.C02
open MgModel.Conc MgModel.C02

/-- pcs of reader threads in the wait / busy modes -/
def isRd : Pc → Bool
  | .rLdCur | .rSlot | .rFwait _ | .rBlocked | .rWoken => true
  | .start | .thr | .wSpin | .wYield | .wRdCur1 | .wSlot _ | .wRdCur2 | .wStCur _ | .wUnlock | .wWake
  | .oLock | .oLdCur | .oRc1 _ | .oRc2 | .oSlot _ | .oRc3 _ | .oWrRc _ _ | .oUnlock _ | .done => false

/-- pcs of reader threads in read-once mode (the futex pcs are shared) -/
def isOnce : Pc → Bool
  | .oLock | .oLdCur | .oRc1 _ | .oRc2 | .oSlot _ | .oRc3 _ | .oWrRc _ _ | .oUnlock _ => true
  | .start | .thr | .wSpin | .wYield | .wRdCur1 | .wSlot _ | .wRdCur2 | .wStCur _ | .wUnlock | .wWake
  | .rLdCur | .rSlot | .rFwait _ | .rBlocked | .rWoken | .done => false

theorem rposOf_eq {c : Cfg} {e : Nat} (wf : WF c e) (hm : c.rm ≠ .once) (s : St) (t : Nat) :
    rposOf c s t = (c.pre + s.rk t) % c.cap := by
  simp only [rposOf, Cfg.pre, hm, if_false, wf.hcap, ringIdx_pow2, Nat.mod_mod]
  exact idx_wrap c.base (s.rk t) e wf.he

structure InvC (c : Cfg) (s : St) : Prop where
  roleR : ∀ t, isRd (s.pc t) = true → c.nW ≤ t
  act   : ∀ t, isRd (s.pc t) = true → s.rk t < c.nr
  noOnce : ∀ t, isOnce (s.pc t) = false
  nolap : ∀ t, c.nW ≤ t → t < c.nT → s.rk t < c.nr → s.started ≤ c.pre + s.rk t + c.lim
  le    : ∀ t, c.pre + s.rk t ≤ s.written.length
  rsl   : ∀ t, s.pc t = .rSlot → c.pre + s.rk t < s.written.length
  got   : ∀ t, s.got t = (s.written.drop c.pre).take (s.rk t)

theorem invC_init (c : Cfg) : InvC c (mkInit c) := by
  refine ⟨?roleR, ?act, ?noOnce, ?nolap, ?le, ?rsl, ?got⟩
  all_goals (intros; simp only [mkInit, preMsgs, List.length_map, List.length_range] at *)
  case nolap | le => omega
  case got => simp
  -- about a pc: every thread is at `start` or `done`
  all_goals (split at * <;> simp_all [isRd, isOnce])

theorem InvC.pcs {c : Cfg} {s : St} {pc' : Nat → Pc}
    (hb : ∀ u, Back c (s.pc u) (pc' u)) (hm : c.rm ≠ .once) (h : InvC c s) : InvC c { s with pc := pc' } :=
  have hR := fun u => (hb u).cls isRd (ho := fun ho => absurd ho hm)
  ⟨fun u hu => h.roleR u (hR u hu), fun u hu => h.act u (hR u hu),
    fun u => ((hb u).cls_eq isOnce (ho := fun ho => absurd ho hm)).trans (h.noOnce u),
    h.nolap, h.le, fun u hu => h.rsl u ((hb u).eq hu), h.got⟩

theorem isOnce_next {c : Cfg} {s : St} {t : Nat} {p : Pc} (h : isOnce (nextPc c s t p) = true) :
    isOnce p = true ∨ c.rm = .once := by
  flow_cases p at h with isOnce <;> simp_all [isOnce]

theorem isRd_flow {c : Cfg} {s : St} {t : Nat} (ho : isOnce (s.pc t) = false) : ReaderFlow isRd c s t := by
  intro h
  generalize s.pc t = p at h ho ⊢
  flow_cases p at h with isRd <;> simp_all [isRd, isOnce, retR]

theorem InvC.retR {c : Cfg} {s : St} (k : InvC c s) {t : Nat} (h : retR (s.pc t) = true) :
    s.pc t = .rSlot := by
  rcases retR_cases h with h | ⟨m, h⟩
  · exact h
  · have := k.noOnce t
    rw [h] at this
    cases this

theorem InvC.lt_cap {c : Cfg} {e : Nat} (wf : WF c e) {s : St} (b : InvB c s) (k : InvC c s) {t : Nat}
    (h1 : c.nW ≤ t) (h2 : t < c.nT) (h3 : s.rk t < c.nr) :
    s.written.length < c.pre + s.rk t + c.cap := by
  have := k.nolap t h1 h2 h3
  have := b.cntS
  have := wf.hlim
  omega

theorem InvC.lt_cap_of_isRd {c : Cfg} {e : Nat} (wf : WF c e) {s : St} (b : InvB c s) (k : InvC c s)
    {t : Nat} (hr : isRd (s.pc t) = true) : s.written.length < c.pre + s.rk t + c.cap :=
  k.lt_cap wf b (k.roleR t hr) (b.lt_nT (fun h => by rw [h] at hr; cases hr)) (k.act t hr)

theorem InvC.slot_read {c : Cfg} {e : Nat} (wf : WF c e) (hm : c.rm ≠ .once) {s : St}
    (a2 : InvA2 c s) (b : InvB c s) (k : InvC c s) {t : Nat} (h : s.pc t = .rSlot) :
    rposOf c s t < c.cap ∧ s.written[c.pre + s.rk t]? = some (s.blocks (rposOf c s t)) := by
  rw [rposOf_eq wf hm]
  exact ⟨Nat.mod_lt _ wf.cap_pos, a2.blk _ (k.rsl t h) (k.lt_cap_of_isRd wf b (by rw [h]; rfl))⟩

theorem InvC.lt_of_cursor_ne {c : Cfg} {e : Nat} (wf : WF c e) (hm : c.rm ≠ .once) {s : St}
    (a1 : InvA1 c s) (k : InvC c s) {t : Nat} (hne : s.cursor ≠ rposOf c s t) :
    c.pre + s.rk t < s.written.length := by
  have h1 := k.le t
  rw [rposOf_eq wf hm, a1.cur] at hne
  have : c.pre + s.rk t ≠ s.written.length := fun h => hne (by rw [h])
  omega

theorem InvC.one_reader {c : Cfg} {s : St} (hsr : c.nR ≤ 1) (b : InvB c s) (k : InvC c s) {r u : Nat}
    (hr : s.pc r = .rBlocked) (hu : s.pc u = .rBlocked) : r = u := by
  have h1 := k.roleR r (by rw [hr]; rfl)
  have h2 := k.roleR u (by rw [hu]; rfl)
  have h3 := b.parked_lt r hr
  have h4 := b.parked_lt u hu
  simp only [Cfg.nT] at h3 h4
  omega

theorem invC_step {c : Cfg} {e : Nat} (wf : WF c e) (hm : c.rm ≠ .once) {s s' : St} {t : Nat}
    (a1 : InvA1 c s) (a2 : InvA2 c s) (b : InvB c s) (k : InvC c s) (hs : Moves c s t s') :
    InvC c s' := by
  obtain rfl := hs.eq
  have hrk := post_rk c s t
  have hR := k.retR (t := t)
  have hw := post_written_cases c s t
  have hlen := post_written_length_le c s t
  obtain ⟨hrole, hact⟩ := reader_post (isRd_flow (k.noOnce t)) k.roleR k.act
  refine ⟨hrole, hact, ?noOnce, ?nolap, ?le, ?rsl, ?got⟩
  case noOnce =>
    intro u
    cases hq : isOnce ((post c s t).pc u)
    · rfl
    · rcases post_pc_cases (isOnce · = true) hq with ⟨rfl, hq⟩ | ⟨-, hq⟩
      · rcases isOnce_next hq with h | h
        · rw [k.noOnce u] at h; cases h
        · exact absurd h hm
      · rw [k.noOnce u] at hq; cases hq
  case nolap =>
    intro u h1 h2 h3
    have h4 : s.rk u ≤ (post c s t).rk u := by rw [hrk]; omega
    have h5 := k.nolap u h1 h2 (by omega)
    show s.started + _ ≤ _
    split
    · have := canWrite_spec hm (begins_spec ‹_›).2.2 u h1 h2 (by omega)
      omega
    · omega
  case le =>
    intro u
    have h1 := k.le u
    have h2 := k.rsl u
    rw [hrk]
    split
    · rename_i h
      rw [h.1] at h2 ⊢
      have := h2 (hR h.2)
      omega
    · omega
  case rsl =>
    intro u hu
    rcases post_pc_eq hu with ⟨rfl, hp, hne⟩ | ⟨hut, hu⟩
    · have := k.lt_of_cursor_ne wf hm a1 hne
      simp [hrk, hp, retR]
      omega
    · have := k.rsl u hu
      simp [hrk, hut]
      omega
  case got =>
    intro u
    have h1 := k.got u
    have h2 := k.le u
    by_cases hp : u = t ∧ s.pc t = .rSlot
    · obtain ⟨rfl, hp⟩ := hp
      obtain ⟨h3, h4⟩ := k.slot_read wf hm a2 b hp
      rw [hrk, post_written_of_ne (by simp [hp])]
      simp only [post, hp, upd_same, slotMsg, h3, retR, if_true, and_self]
      rw [take_drop_succ _ _ _ _ h4, h1]
    · have hg : (post c s t).got u = s.got u := by
        by_cases hut : u = t
        · subst hut
          have h3 : ∀ m i, s.pc u ≠ .oWrRc m i := by
            intro m i h
            have := k.noOnce u
            rw [h] at this
            cases this
          have h4 : s.pc u ≠ .rSlot := fun h => hp ⟨rfl, h⟩
          rw [post_got_of_ne (c := c) h4 h3]
        · exact post_got_other c s hut
      have hr : (post c s t).rk u = s.rk u := by
        rw [hrk]
        by_cases hut : u = t
        · subst hut
          cases hq : retR (s.pc u)
          · simp
          · exact absurd ⟨rfl, hR hq⟩ hp
        · simp [hut]
      rw [hg, hr, h1]
      rcases hw with h | ⟨_, _, h⟩ <;> rw [h]
      exact (take_drop_append _ _ _ _ h2).symm

end MgProof.C02
