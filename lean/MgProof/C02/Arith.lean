import MgModel.C02.Ring
import MgProof.Conc
/-! Facts about the model's helper functions that involve no step. -/
namespace MgProof.C02
open MgModel.Conc MgModel.C02

theorem firstBlocked_blocked {pc : Nat → Pc} {k i r : Nat} (h : firstBlocked pc k i = some r) :
    pc r = .rBlocked :=
  (first_some (P := fun i => pc i = .rBlocked) (fun _ => rfl) (fun _ _ => rfl) h).1

theorem firstBlocked_none {pc : Nat → Pc} {k i : Nat} (h : firstBlocked pc k i = none) :
    ∀ u, i ≤ u → u < i + k → pc u ≠ .rBlocked :=
  first_none (P := fun i => pc i = .rBlocked) (fun _ _ => rfl) h

/-- `MUGGLE_IDX_IN_POW_OF_2_RING` is `mod` for a power-of-two capacity -/
theorem ringIdx_pow2 (x e : Nat) : ringIdx x (2 ^ e) = x % 2 ^ e := by
  simp [ringIdx, Nat.and_two_pow_sub_one_eq_mod]

/-- wrap of the 32-bit reader index is harmless: the capacity divides `2^32` -/
theorem idx_wrap (base j e : Nat) (he : e ≤ 32) :
    ((base + j) % 2 ^ 32) % 2 ^ e = (base % 2 ^ e + j) % 2 ^ e := by
  have hd : 2 ^ e ∣ 2 ^ 32 := Nat.pow_dvd_pow 2 he
  rw [Nat.mod_mod_of_dvd _ hd, Nat.mod_add_mod]

theorem mem_join {a b : List Nat} {m : Nat} : m ∈ join a b ↔ m ∈ a ∨ m ∈ b := mem_merge

theorem take_succ_of_getElem? {α : Type} {l : List α} {k : Nat} {x : α} (h : l[k]? = some x) :
    l.take (k + 1) = l.take k ++ [x] := by
  rw [List.take_add_one, h]; rfl

theorem take_drop_append {α : Type} (l : List α) (x : α) (p k : Nat) (h : p + k ≤ l.length) :
    ((l ++ [x]).drop p).take k = (l.drop p).take k := by
  rw [List.drop_append_of_le_length (by omega), List.take_append_of_le_length (by simp; omega)]

theorem take_drop_succ {α : Type} (l : List α) (x : α) (p k : Nat) (h : l[p + k]? = some x) :
    (l.drop p).take (k + 1) = (l.drop p).take k ++ [x] :=
  take_succ_of_getElem? (by rw [List.getElem?_drop]; exact h)

theorem nextPow2Aux_pow2 (x : Nat) : ∀ (fuel e : Nat), ∃ e', nextPow2Aux x fuel (2 ^ e) = 2 ^ e' ∧ e' ≤ e + fuel
  | 0, e => ⟨e, rfl, by omega⟩
  | fuel + 1, e => by
    simp only [nextPow2Aux]
    split
    · exact ⟨e, rfl, by omega⟩
    · obtain ⟨e', h1, h2⟩ := nextPow2Aux_pow2 x fuel (e + 1)
      refine ⟨e', ?_, by omega⟩
      rw [← h1, Nat.pow_succ, Nat.mul_comm]

end MgProof.C02
