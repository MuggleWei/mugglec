import MgProof.C02.LemmasB
/-! Layer E: happens-before. Release/acquire knowledge sets: the release store of `cursor`
publishes every message written so far (the writers pass their knowledge on through the
spinlock), the reader's acquire load of `cursor` joins it, so every message handed to a reader
is known to it (`hbViol = 0`). Mode-independent; the mode-specific layers provide what value a
slot read returns. -/
namespace MgProof.C02
open MgModel.C02

structure InvE (c : Cfg) (s : St) : Prop where
  wr   : ∀ m, m ∈ s.written → m ∈ s.relCursor
  lk0  : c.wm = .lock → s.spin = 0 → ∀ m, m ∈ s.written → m ∈ s.relSpin
  lkW  : c.wm = .lock → ∀ t, inW (s.pc t) = true → ∀ m, m ∈ s.written → m ∈ s.know t
  sgl  : c.wm = .single → ∀ t, t < c.nW → ∀ m, m ∈ s.written → m ∈ s.know t
  msg  : ∀ t, inflight (s.pc t) = true → msgId t (s.wk t) ∈ s.know t
  rd   : ∀ t, s.pc t = .rSlot → c.pre + s.rk t < s.written.length ∧
           ∀ m, s.written[c.pre + s.rk t]? = some m → m ∈ s.know t
  o1   : ∀ t v, s.pc t = .oRc1 v → v = s.delivered.length % c.cap ∨
           (s.delivered.length < s.written.length ∧
            ∀ m, s.written[s.delivered.length]? = some m → m ∈ s.know t)
  o2   : ∀ t, (s.pc t = .oRc2 ∨ ∃ i, s.pc t = .oSlot i) →
           s.delivered.length < s.written.length ∧
           ∀ m, s.written[s.delivered.length]? = some m → m ∈ s.know t
  o3   : ∀ t m, (s.pc t = .oRc3 m ∨ (∃ i, s.pc t = .oWrRc m i) ∨ s.pc t = .oUnlock m) → m ∈ s.know t
  hb   : s.hbViol = 0

theorem invE_init (c : Cfg) : InvE c (mkInit c) := by
  refine ⟨?wr, ?lk0, ?lkW, ?sgl, ?msg, ?rd, ?o1, ?o2, ?o3, ?hb⟩
  all_goals (intros; simp only [mkInit] at *)
  case wr | lk0 | lkW | sgl => assumption
  -- about a pc: every thread is at `start` or `done`
  all_goals (split at * <;> simp_all [inflight])

theorem InvE.pcs {c : Cfg} {s : St} {pc' : Nat → Pc}
    (hb : ∀ u, Back c (s.pc u) (pc' u)) (h : InvE c s) : InvE c { s with pc := pc' } :=
  ⟨h.wr, h.lk0, fun hl u hu => h.lkW hl u ((hb u).cls inW hu), h.sgl,
    fun u hu => h.msg u ((hb u).cls inflight hu),
    fun u hu => h.rd u ((hb u).eq hu), fun u v hu => h.o1 u v ((hb u).eq hu),
    fun u hu => h.o2 u (hu.imp (hb u).eq fun ⟨i, hi⟩ => ⟨i, (hb u).eq hi⟩),
    fun u m hu => h.o3 u m (hu.imp (hb u).eq (Or.imp (fun ⟨i, hi⟩ => ⟨i, (hb u).eq hi⟩) (hb u).eq)),
    h.hb⟩

/-- the read-once pcs proper under `read_mutex` (the futex pcs are shared with the other modes) -/
def onceIn : Pc → Bool
  | .oLdCur | .oRc1 _ | .oRc2 | .oSlot _ | .oRc3 _ | .oWrRc _ _ | .oUnlock _ => true
  | _ => false

/-- what the mode-specific layers provide to the happens-before layer -/
structure EHyp (c : Cfg) (s : St) (t : Nat) : Prop where
  exO  : ∀ u v, onceIn (s.pc u) = true → onceIn (s.pc v) = true → u = v
  dle  : s.pc t = .oLdCur → s.delivered.length ≤ s.written.length
  rcv  : ∀ v, s.pc t = .oRc1 v → s.readCursor = s.delivered.length % c.cap
  rdv  : s.pc t = .rSlot → rposOf c s t < c.cap ∧
           s.written[c.pre + s.rk t]? = some (s.blocks (rposOf c s t))
  rdlt : s.pc t = .rLdCur → s.cursor ≠ rposOf c s t → c.pre + s.rk t < s.written.length
  ov   : ∀ i, s.pc t = .oSlot i → i < c.cap ∧ s.written[s.delivered.length]? = some (s.blocks i)

theorem invE_step {c : Cfg} {e : Nat} (wf : WF c e) {s s' : St} {t : Nat}
    (a1 : InvA1 c s) (x : InvE c s) (y : EHyp c s t) (hs : Moves c s t s') : InvE c s' := by
  obtain rfl := hs.eq
  have hrk := post_rk c s t
  have hmono := @post_know_mono c s t
  have hw := post_written_cases c s t
  -- the thread that publishes knows every message published so far, and its own
  have hpub : ∀ i, s.pc t = .wStCur i → ∀ m, m ∈ (post c s t).written → m ∈ s.know t := by
    intro i hp m hm
    have hin : inW (s.pc t) = true := by rw [hp]; rfl
    rcases mem_post_written hm with h | ⟨_, rfl⟩
    · cases hwm : c.wm
      · exact x.lkW hwm t hin m h
      · exact x.sgl hwm t (a1.role t (isW_of_inW hin)) m h
    · exact x.msg t (by rw [hp]; rfl)
  have hget : ∀ (i m : Nat), i < s.written.length → (post c s t).written[i]? = some m →
      s.written[i]? = some m := fun i m hi h => post_written_getElem? c s t hi ▸ h
  have hlen := post_written_length_le c s t
  have hfr : ∀ u, u ≠ t → onceIn (s.pc u) = true → (post c s t).delivered = s.delivered := by
    intro u hut hu
    rcases post_delivered_cases c s t with h | ⟨m, i, hp, _⟩
    · exact h
    · exact absurd (y.exO u t hu (by rw [hp]; rfl)) hut
  refine ⟨?wr, ?lk0, ?lkW, ?sgl, ?msg, ?rd, ?o1, ?o2, ?o3, ?hb⟩
  case wr =>
    intro m hm
    by_cases hp : ∃ i, s.pc t = .wStCur i
    · obtain ⟨i, hp⟩ := hp
      simpa [post, hp] using hpub i hp m hm
    · have hp := not_exists.mp hp
      rw [post_written_of_ne hp] at hm
      have : (post c s t).relCursor = s.relCursor := by simp only [post]
      rw [this]
      exact x.wr m hm
  case lk0 =>
    -- unlocking passes on what the lock holder knows; nothing is published while the lock is free
    intro hl h0 m hm
    by_cases hp : s.pc t = .wUnlock
    · rw [post_written_of_ne (by simp [hp])] at hm
      simpa [post, hp] using x.lkW hl t (by rw [hp]; rfl) m hm
    · have h1 : (post c s t).relSpin = s.relSpin := by simp only [post]
      have h2 : s.spin = 0 := by
        simp only [post] at h0
        split at h0
        · split at h0 <;> omega
        · exact absurd ‹_› hp
        · exact h0
      have h3 : (post c s t).written = s.written := by
        rcases hw with h | ⟨i, hq, h⟩
        · exact h
        · have := a1.spin1 hl t (by rw [hq]; rfl)
          omega
      rw [h1]
      rw [h3] at hm
      exact x.lk0 hl h2 m hm
  case lkW =>
    intro hl u hu m hm
    rcases post_pc_cases (inW · = true) hu with ⟨rfl, hu⟩ | ⟨hut, hu⟩
    · rcases inW_next hu with ⟨h1, _⟩ | ⟨h1, h2⟩ | ⟨h1, _⟩
      · rcases mem_post_written hm with h | ⟨⟨i, hp⟩, _⟩
        · exact hmono (x.lkW hl u h1 m h)
        · exact hmono (hpub i hp m hm)
      · rw [post_written_of_ne (by simp [h1])] at hm
        exact post_know_spin h1 h2 (x.lk0 hl h2 m hm)
      · rw [hl] at h1; cases h1
    · rw [(a1.frame_of_inW hut hu).1] at hm
      rw [post_know_other c s hut]
      exact x.lkW hl u hu m hm
  case sgl =>
    intro hsg u hu m hm
    rcases mem_post_written hm with h | ⟨⟨i, hp⟩, _⟩
    · exact hmono (x.sgl hsg u hu m h)
    · have := a1.role t (by rw [hp]; rfl)
      have := wf.hsw hsg
      have : u = t := by omega
      subst this
      exact hmono (hpub i hp m hm)
  case msg =>
    intro u hu
    rcases post_pc_cases (inflight · = true) hu with ⟨rfl, hu⟩ | ⟨hut, hu⟩
    · rcases inflight_cases hu with ⟨h1, h2⟩ | h1
      · have := hmono (x.msg u h1)
        simpa [post, wkPost, h2] using this
      · simp [post, h1]
    · rw [post_know_other c s hut]
      rw [post_wk_other c s hut]
      exact x.msg u hu
  case rd =>
    intro u hu
    rcases post_pc_eq hu with ⟨rfl, hp, hne⟩ | ⟨hut, hu⟩
    · have h1 := y.rdlt hp hne
      have h2 : (post c s u).rk u = s.rk u := by simp [hrk, hp, retR]
      rw [h2, post_written_of_ne (by simp [hp])]
      exact ⟨h1, fun m hm => post_know_acq (.inl hp) (x.wr m (List.mem_of_getElem? hm))⟩
    · have h1 := x.rd u hu
      have h2 : (post c s t).rk u = s.rk u := by simp [hrk, hut]
      rw [h2, post_know_other c s hut]
      exact ⟨by omega, fun m hm => h1.2 m (hget _ _ h1.1 hm)⟩
  case o1 =>
    intro u v hu
    rcases post_pc_eq hu with ⟨rfl, hp, rfl⟩ | ⟨hut, hu⟩
    · have h1 := y.dle hp
      rw [post_delivered_of_ne (by simp [hp]), post_written_of_ne (by simp [hp]), a1.cur]
      by_cases h : s.delivered.length = s.written.length
      · rw [h]; exact Or.inl rfl
      · exact Or.inr ⟨by omega, fun m hm => post_know_acq (.inr hp) (x.wr m (List.mem_of_getElem? hm))⟩
    · rw [hfr u hut (by rw [hu]; rfl), post_know_other c s hut]
      rcases x.o1 u v hu with h | ⟨h1, h2⟩
      · exact Or.inl h
      · exact Or.inr ⟨by omega, fun m hm => h2 m (hget _ _ h1 hm)⟩
  case o2 =>
    intro u hu
    rcases post_pc_cases (fun p => p = .oRc2 ∨ ∃ i, p = .oSlot i) hu with ⟨rfl, hu⟩ | ⟨hut, hu⟩
    · have h1 : (s.delivered.length < s.written.length ∧
          ∀ m, s.written[s.delivered.length]? = some m → m ∈ s.know u) ∧
          (post c s u).delivered = s.delivered ∧ (post c s u).written = s.written := by
        rcases hu with hu | ⟨i, hu⟩
        · obtain ⟨v, hp, hne⟩ := nextPc_cameFrom hu
          refine ⟨?_, by simp [post, hp]⟩
          rcases x.o1 u v hp with h | h
          · rw [y.rcv v hp] at hne; exact absurd h.symm hne
          · exact h
        · have hp := (nextPc_cameFrom hu).1
          exact ⟨x.o2 u (Or.inl hp), by simp [post, hp]⟩
      rw [h1.2.1, h1.2.2]
      exact ⟨h1.1.1, fun m hm => hmono (h1.1.2 m hm)⟩
    · have hin : onceIn (s.pc u) = true := by
        rcases hu with hu | ⟨i, hu⟩ <;> rw [hu] <;> rfl
      obtain ⟨h1, h2⟩ := x.o2 u hu
      rw [hfr u hut hin, post_know_other c s hut]
      exact ⟨by omega, fun m hm => h2 m (hget _ _ h1 hm)⟩
  case o3 =>
    intro u m hu
    rcases post_pc_cases (fun p => p = .oRc3 m ∨ (∃ i, p = .oWrRc m i) ∨ p = .oUnlock m) hu with
      ⟨rfl, hu⟩ | ⟨hut, hu⟩
    · apply hmono
      rcases hu with hu | ⟨i, hu⟩ | hu
      · obtain ⟨i, hp, rfl⟩ := nextPc_cameFrom hu
        obtain ⟨h1, h2⟩ := y.ov i hp
        rw [if_pos h1]
        exact (x.o2 u (Or.inr ⟨i, hp⟩)).2 _ h2
      · exact x.o3 u m (Or.inl (nextPc_cameFrom hu).1)
      · obtain ⟨i, hp⟩ := nextPc_cameFrom hu
        exact x.o3 u m (Or.inr (Or.inl ⟨i, hp⟩))
    · rw [post_know_other c s hut]
      exact x.o3 u m hu
  case hb =>
    have h0 := x.hb
    simp only [post]
    split
    · rename_i hp
      obtain ⟨h1, h2⟩ := y.rdv hp
      have := (x.rd t hp).2 _ h2
      simp [slotMsg, h1, this, h0]
    · rename_i m hp
      have := x.o3 t m (Or.inr (Or.inr hp))
      simp [this, h0]
    · exact h0

end MgProof.C02
