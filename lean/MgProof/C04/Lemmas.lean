import MgModel.C04.Locks
import MgModel.C04.Once
import MgModel.C04.RefCnt
import MgProof.Conc
/-! The invariants of the three C04 models; for the locks also what each kind of step does to `LockInv`. -/
namespace MgProof.C04
open MgModel.Conc MgModel.C04

/-- thread `t` holds the lock: between a successful acquire and its release -/
def holds (s : St) (t : Nat) : Prop :=
  s.pc t = .csRead ∨ (∃ tmp, s.pc t = .csWrite tmp) ∨ s.pc t = .rel

/-- thread `t` is inside the harness's ghost critical-section window -/
def inCS (s : St) (t : Nat) : Prop :=
  s.pc t = .csRead ∨ (∃ tmp, s.pc t = .csWrite tmp)

/-- `hb`: the latest write of `data` is known to the holder, and published on the lock word while it is 0.
`cnt0`/`cnt1` make `viol = 0` inductive (`enterCs` counts a violation iff `inCs + 1 ≠ 1`). -/
structure LockInv (k : Kind) (s : St) : Prop where
  kind   : s.kind = k
  locked : ∀ t, holds s t → s.lock = 1
  excl   : ∀ t u, holds s t → holds s u → t = u
  cnt1   : s.inCs ≤ 1
  cnt0   : s.inCs ≠ 0 → ∃ t, inCS s t
  viol   : s.viol = 0
  hb     : s.dataW = 0 ∨ ((s.lock = 0 → s.dataW ∈ s.relSet) ∧ ∀ t, holds s t → s.dataW ∈ s.know t)
  stale  : s.staleReads = 0

/-- `holds s t` unfolds to `holding (s.pc t)` -/
def holding (p : Pc) : Prop :=
  p = .csRead ∨ (∃ tmp, p = .csWrite tmp) ∨ p = .rel

theorem holds_of_inCS {s : St} {t : Nat} : inCS s t → holds s t
  | .inl h => .inl h
  | .inr h => .inr (.inl h)

theorem holds_of_upd {s : St} {t u : Nat} {p : Pc} (hp : holding p → holds s t)
    (hu : holding (upd s.pc t p u)) : holds s u :=
  (upd_elim hu).elim (fun h => h.1 ▸ hp h.2) And.right

theorem lockInv_init (k : Kind) (n r : Nat) : LockInv k (mkInit k n r) := by
  have nobody : ∀ t, ¬ holds (mkInit k n r) t := by
    intro t h
    simp only [holds, mkInit] at h
    split at h <;> simp at h
  exact ⟨rfl, fun t h => absurd h (nobody t), fun t _ h => absurd h (nobody t), Nat.zero_le _,
    fun h => absurd rfl h, rfl, .inl rfl, rfl⟩

theorem firstBlocked_blocked {pc : Nat → Pc} {k i w : Nat} (h : firstBlocked pc k i = some w) :
    pc w = .blocked :=
  (first_some (P := fun i => pc i = .blocked) (fun _ => rfl) (fun _ _ => rfl) h).1

/-! The kinds of step. `round`, which `LockInv` does not read, is left arbitrary: one statement
serves the steps that count a round and those that do not. -/

theorem enterCs_inv {k : Kind} {s : St} {t : Nat} (inv : LockInv k s) (hfree : s.lock = 0) :
    LockInv k (enterCs { s with lock := 1 } t).1 := by
  have nobody : ∀ u, ¬ holds s u := fun u hu => by have := inv.locked u hu; omega
  have hc0 : s.inCs = 0 :=
    Decidable.byContradiction fun h => let ⟨u, hu⟩ := inv.cnt0 h; nobody u (holds_of_inCS hu)
  have sole : ∀ u, holding (upd s.pc t .csRead u) → u = t := fun u hu =>
    (upd_elim hu).elim And.left fun h => absurd h.2 (nobody u)
  unfold enterCs
  simp only [hc0, Nat.zero_add, ne_eq, not_true_eq_false, if_false]
  refine ⟨inv.kind, fun _ _ => rfl, fun a b ha hb => (sole a ha).trans (sole b hb).symm,
    Nat.le_refl 1, fun _ => ⟨t, .inl (upd_same ..)⟩, inv.viol, ?_, inv.stale⟩
  refine inv.hb.imp_right fun ⟨h1, _⟩ => ⟨fun h => absurd h (by simp), fun u hu => ?_⟩
  obtain rfl := sole u hu
  simp only [upd_same]
  exact mem_kmerge_right _ (h1 hfree)

theorem move_inv {k : Kind} {s : St} {t : Nat} {p : Pc} {r : Nat → Nat} (inv : LockInv k s)
    (hold : ¬ holds s t) (hp : ¬ holding p) :
    LockInv k { s with pc := upd s.pc t p, round := r } := by
  have key : ∀ u, holding (upd s.pc t p u) → holds s u := fun u =>
    holds_of_upd fun h => absurd h hp
  refine ⟨inv.kind, fun u hu => inv.locked u (key u hu),
    fun a b ha hb => inv.excl a b (key a ha) (key b hb), inv.cnt1, fun h => ?_, inv.viol,
    inv.hb.imp_right fun ⟨h1, h2⟩ => ⟨h1, fun u hu => h2 u (key u hu)⟩, inv.stale⟩
  obtain ⟨u, hu⟩ := inv.cnt0 h
  have hut : u ≠ t := fun e => hold (e ▸ holds_of_inCS hu)
  exact ⟨u, by simpa [inCS, hut] using hu⟩

theorem csRead_inv {k : Kind} {s : St} {t : Nat} (inv : LockInv k s) (hpc : s.pc t = .csRead) :
    LockInv k { s with pc := upd s.pc t (.csWrite s.data),
                       staleReads := s.staleReads +
                         (if s.dataW = 0 ∨ s.dataW ∈ s.know t then 0 else 1) } := by
  have ht : holds s t := .inl hpc
  have key : ∀ u, holding (upd s.pc t (.csWrite s.data) u) → holds s u := fun u =>
    holds_of_upd fun _ => ht
  have hseen : s.dataW = 0 ∨ s.dataW ∈ s.know t := inv.hb.imp_right fun h => h.2 t ht
  refine ⟨inv.kind, fun u hu => inv.locked u (key u hu),
    fun a b ha hb => inv.excl a b (key a ha) (key b hb), inv.cnt1,
    fun _ => ⟨t, .inr ⟨s.data, upd_same ..⟩⟩, inv.viol,
    inv.hb.imp_right fun ⟨h1, h2⟩ => ⟨h1, fun u hu => h2 u (key u hu)⟩, ?_⟩
  simp [hseen, inv.stale]

theorem csWrite_inv {k : Kind} {s : St} {t tmp : Nat} (inv : LockInv k s)
    (hpc : s.pc t = .csWrite tmp) :
    LockInv k { s with data := tmp + 1, pc := upd s.pc t .rel, inCs := s.inCs - 1,
                       dataW := s.nextW, nextW := s.nextW + 1,
                       know := upd s.know t (s.nextW :: s.know t) } := by
  have ht : holds s t := .inr (.inl ⟨tmp, hpc⟩)
  have key : ∀ u, holding (upd s.pc t .rel u) → holds s u := fun u =>
    holds_of_upd fun _ => ht
  have := inv.cnt1
  refine ⟨inv.kind, fun u hu => inv.locked u (key u hu),
    fun a b ha hb => inv.excl a b (key a ha) (key b hb), ?_, fun h => absurd ?_ h, inv.viol,
    .inr ⟨fun h0 => ?_, fun u hu => ?_⟩, inv.stale⟩
  · show s.inCs - 1 ≤ 1; omega
  · show s.inCs - 1 = 0; omega
  · have := inv.locked t ht
    simp at h0; omega
  · obtain rfl := inv.excl u t (key u hu) ht
    simp

theorem release_inv {k : Kind} {s : St} {t : Nat} {p : Pc} {r : Nat → Nat} (inv : LockInv k s)
    (hpc : s.pc t = .rel) (hp : ¬ holding p) :
    LockInv k { s with lock := 0, relSet := s.know t, round := r, pc := upd s.pc t p } := by
  have ht : holds s t := .inr (.inr hpc)
  have nobody : ∀ u, ¬ holding (upd s.pc t p u) := fun u hu =>
    (upd_elim hu).elim (fun h => hp h.2) fun h => h.1 (inv.excl u t h.2 ht)
  refine ⟨inv.kind, fun u hu => absurd hu (nobody u), fun a _ ha _ => absurd ha (nobody a),
    inv.cnt1, fun h => ?_, inv.viol,
    inv.hb.imp_right fun h => ⟨fun _ => h.2 t ht, fun u hu => absurd hu (nobody u)⟩, inv.stale⟩
  obtain ⟨u, hu⟩ := inv.cnt0 h
  obtain rfl := inv.excl u t (holds_of_inCS hu) ht
  rcases hu with hu | ⟨tmp, hu⟩ <;> rw [hpc] at hu <;> cases hu

namespace OnceP

def waiting (p : Once.Pc) : Prop := p = .cas ∨ p = .spin

/-- outside the body and its publication (`b1` … `pub`): a thread that is not `settled` is the one that won the CAS -/
def settled (p : Once.Pc) : Prop := waiting p ∨ p = .ret ∨ p = .done

/-- how far the body has got, read off the runner's pc -/
def atBody (s : Once.St) (r : Nat) : Prop :=
  match s.pc r with
  | .b1 => s.bodyRuns = 0 ∧ s.bodyDone = 0
  | .b2 tmp => tmp = 0 ∧ s.bodyRuns = 0 ∧ s.bodyDone = 0
  | .b3 => s.bodyRuns = 1 ∧ s.bodyDone = 0
  | .pub => s.bodyRuns = 1 ∧ s.bodyDone = 1 ∧ 1 ∈ s.know r
  | _ => False

/-- flag INIT -/
structure Init (s : Once.St) : Prop where
  flag : s.flag = 0
  runs : s.bodyRuns = 0
  done : s.bodyDone = 0
  pcs  : ∀ t, s.pc t = .cas

/-- flag WAIT: `r` won the compare-exchange and runs the body -/
structure Running (s : Once.St) (r : Nat) : Prop where
  flag   : s.flag = 1
  body   : atBody s r
  others : ∀ t, t ≠ r → waiting (s.pc t)

/-- flag READY -/
structure Ready (s : Once.St) : Prop where
  flag : s.flag = 2
  runs : s.bodyRuns = 1
  done : s.bodyDone = 1
  pub  : 1 ∈ s.relSet
  pcs  : ∀ t, settled (s.pc t)
  seen : ∀ t, s.pc t = .ret → 1 ∈ s.know t

structure Inv (s : Once.St) : Prop where
  early : s.early = 0
  stale : s.staleReads = 0
  phase : Init s ∨ (∃ r, Running s r) ∨ Ready s

end OnceP

namespace RefP
open MgModel.C04.RefCnt

/-- the sequential specification: a counter that saturates at zero -/
def specApply (c : Nat) : Op → Nat × Option Nat
  | .retain => if c = 0 then (0, none) else (c + 1, some (c + 1))
  | .release => if c = 0 then (0, none) else (c - 1, some (c - 1))

def specRun : Nat → List Op → Nat × List (Option Nat)
  | c, [] => (c, [])
  | c, op :: ops =>
    let (c1, r) := specApply c op
    let (c2, rs) := specRun c1 ops
    (c2, r :: rs)

theorem specRun_append (c : Nat) (a b : List Op) :
    specRun c (a ++ b) =
      ((specRun (specRun c a).1 b).1, (specRun c a).2 ++ (specRun (specRun c a).1 b).2) := by
  induction a generalizing c with
  | nil => simp [specRun]
  | cons op a ih => simp [specRun, ih]

theorem specRun_snoc (c : Nat) (ops : List Op) (op : Op) :
    specRun c (ops ++ [op]) =
      ((specApply (specRun c ops).1 op).1, (specRun c ops).2 ++ [(specApply (specRun c ops).1 op).2]) := by
  rw [specRun_append]
  simp [specRun]

theorem specRun_zero (ops : List Op) : specRun 0 ops = (0, ops.map (fun _ => none)) := by
  induction ops with
  | nil => rfl
  | cons op ops ih => cases op <;> simp [specRun, specApply, ih]

theorem specRun_count_zero (c : Nat) (ops : List Op) :
    (specRun c ops).2.count (some 0) = if c ≠ 0 ∧ (specRun c ops).1 = 0 then 1 else 0 := by
  induction ops generalizing c with
  | nil => simp [specRun]
  | cons op ops ih =>
    -- from 0 nothing returns a value; a release from 1 returns the only 0 and lands on 0
    by_cases hc : c = 0
    · simp [hc, specRun_zero, List.count_eq_zero]
    · by_cases h1 : c - 1 = 0 <;> cases op <;>
        simp [specRun, specApply, hc, h1, ih, specRun_zero, List.count_eq_zero]

theorem specRun_zero_is_release (c : Nat) (ops : List Op) (i : Nat)
    (h : (specRun c ops).2[i]? = some (some 0)) : ops[i]? = some .release := by
  induction ops generalizing c i with
  | nil => simp [specRun] at h
  | cons op ops ih =>
    cases i with
    | zero =>
      cases op
      · simp only [specRun, specApply] at h
        split at h <;> simp at h
      · rfl
    | succ i => exact ih _ i (by simpa [specRun] using h)

/-- `if (v == 0) return -1;` comes before the compare-exchange -/
def casNz (p : RefCnt.Pc) : Prop := ∀ v, p = .cas v → v ≠ 0

structure Inv (init : Nat) (s : RefCnt.St) : Prop where
  lin : specRun init (s.log.map Prod.fst) = (s.ref, s.log.map Prod.snd)
  casNz : ∀ t, casNz (s.pc t)

end RefP

end MgProof.C04
