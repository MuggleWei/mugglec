import MgProof.C04.Lemmas
/-! `lock_step_inv`: unfold `step`, settle interrupt and enabledness, `cases` on the pc; every leaf is one of the
five shape lemmas of `Lemmas.lean`. -/
namespace MgProof.C04
open MgModel.Conc MgModel.C04

theorem lock_step_inv {k : Kind} (hk : k ≠ .sync true) {s s' : St} {tok : Tok} {ev : List String}
    (inv : LockInv k s) (hs : step s tok = some (s', ev)) : LockInv k s' := by
  have hnext : ∀ r, ¬ holding (if r < s.rounds then Pc.acq else Pc.done) := by
    intro r; split <;> simp [holding]
  unfold step at hs
  simp only [] at hs  -- the `let`s
  by_cases hint : isInterrupt s tok = true
  · have hpc : s.pc tok.tid = .blocked := by
      simp only [isInterrupt, Bool.and_eq_true, beq_iff_eq] at hint
      exact hint.2
    rw [if_pos hint] at hs
    cases hs
    exact move_inv inv (by simp [holds, hpc]) (by simp [holding])
  by_cases hen : s.enabled tok.tid = true
  case neg => rw [if_neg hint, if_pos (by simp [hen])] at hs; cases hs
  rw [if_neg hint, if_neg (by simp [hen])] at hs
  cases hpc : s.pc tok.tid <;> simp only [hpc] at hs
  case acq =>
    have hnh : ¬ holds s tok.tid := by simp [holds, hpc]
    split at hs
    · split at hs
      · next h0 => cases hs; exact enterCs_inv inv h0
      · cases hs; exact move_inv inv hnh (by simp [holding])
    · -- `inv.kind` excludes the weak CAS, so the spurious failure cannot happen
      rename_i weak hkind
      obtain rfl : weak = false := by
        cases weak
        · rfl
        · exact absurd (inv.kind.symm.trans hkind) hk
      simp only [Bool.false_and, Bool.false_eq_true, if_false] at hs
      split at hs
      · next h0 => cases hs; exact enterCs_inv inv h0
      · cases hs; exact move_inv inv hnh (by simp [holding])
    · -- exclusion of the pthread mutex is assumed: `mtx-lock` is enabled only while the lock is free
      rename_i hkind
      have hl : tok.tid < s.n ∧ s.lock = 0 := by simpa [St.enabled, hpc, hkind] using hen
      cases hs
      exact enterCs_inv inv hl.2
  case yld | woken =>
    cases hs
    exact move_inv inv (by simp [holds, hpc]) (by simp [holding])
  case fwait e =>
    split at hs <;> cases hs <;>
      exact move_inv inv (by simp [holds, hpc]) (by simp [holding])
  case csRead => cases hs; exact csRead_inv inv hpc
  case csWrite tmp => cases hs; exact csWrite_inv inv hpc
  case rel =>
    split at hs <;> cases hs
    · exact release_inv inv hpc (hnext _)
    · exact release_inv inv hpc (by simp [holding])
    · exact release_inv inv hpc (hnext _)
  case wake =>
    have inv1 := move_inv (t := tok.tid) (r := upd s.round tok.tid (s.round tok.tid + 1)) inv
      (by simp [holds, hpc]) (hnext (s.round tok.tid + 1))
    split at hs <;> cases hs
    · rename_i w hw
      have hwb := firstBlocked_blocked hw
      have hwt : w ≠ tok.tid := fun e => by rw [e, hpc] at hwb; cases hwb
      exact move_inv inv1 (by simp [holds, hwt, hwb]) (by simp [holding])
    · exact inv1
  case blocked | done => cases hs

end MgProof.C04
