import MgProof.C04.Lemmas
/-! `OnceP.Inv` holds initially and is preserved; `running_of_inv` / `ready_of_inv` read the phase off one thread's pc. -/
namespace MgProof.C04.OnceP
open MgModel.Conc MgModel.C04

theorem inv_init (n : Nat) : Inv (Once.mkInit n) :=
  ⟨rfl, rfl, .inl ⟨rfl, rfl, rfl, fun _ => rfl⟩⟩

theorem not_settled_of_atBody {s : Once.St} {t : Nat} (h : atBody s t) : ¬ settled (s.pc t) := by
  unfold atBody at h
  split at h <;> simp_all [settled, waiting]

theorem runs_le_of_atBody {s : Once.St} {t : Nat} (h : atBody s t) : s.bodyRuns ≤ 1 := by
  unfold atBody at h
  split at h <;> simp_all

theorem running_of_inv {s : Once.St} (inv : Inv s) {t : Nat} (h : ¬ settled (s.pc t)) :
    Running s t := by
  rcases inv.phase with h0 | ⟨r, h1⟩ | h2
  · exact absurd (.inl (.inl (h0.pcs t))) h
  · by_cases e : t = r
    · exact e ▸ h1
    · exact absurd (.inl (h1.others t e)) h
  · exact absurd (h2.pcs t) h

theorem ready_of_inv {s : Once.St} (inv : Inv s) {t : Nat} (h : s.pc t = .ret ∨ s.pc t = .done) :
    Ready s := by
  have hw : ¬ waiting (s.pc t) := by rcases h with h | h <;> simp [waiting, h]
  rcases inv.phase with h0 | ⟨r, h1⟩ | h2
  · exact absurd (.inl (h0.pcs t)) hw
  · by_cases e : t = r
    · exact absurd (.inr h) (not_settled_of_atBody (e ▸ h1.body))
    · exact absurd (h1.others t e) hw
  · exact h2

theorem running_next {s s' : Once.St} {t : Nat} (h : Running s t) (hflag : s'.flag = s.flag)
    (hpc : ∀ u, u ≠ t → s'.pc u = s.pc u) (body : atBody s' t) : Running s' t :=
  ⟨hflag.trans h.flag, body, fun u hu => hpc u hu ▸ h.others u hu⟩

theorem step_inv {s s' : Once.St} {tok : Tok} {ev : List String}
    (inv : Inv s) (hs : Once.step s tok = some (s', ev)) : Inv s' := by
  have ⟨hearly, hstale, ph⟩ := inv
  unfold Once.step at hs
  simp only [] at hs  -- the `let`s
  by_cases hen : (!s.enabled tok.tid) = true
  · rw [if_pos hen] at hs; cases hs
  rw [if_neg hen] at hs
  cases hpc : s.pc tok.tid <;> simp only [hpc] at hs
  case cas =>
    rcases ph with h0 | ⟨r, h1⟩ | h2
    · rw [if_pos h0.flag] at hs; cases hs
      exact ⟨hearly, hstale, .inr (.inl ⟨tok.tid, rfl, by simp [atBody, h0.runs, h0.done],
        fun u hu => .inl (by simp [hu, h0.pcs u])⟩)⟩
    · rw [if_neg (by simp [h1.flag])] at hs; cases hs
      have hrt : r ≠ tok.tid := fun e =>
        not_settled_of_atBody h1.body (.inl (.inl (e ▸ hpc)))
      exact ⟨hearly, hstale, .inr (.inl ⟨r, h1.flag, by simpa [atBody, hrt] using h1.body,
        fun u hu => upd_intro (fun _ => .inr rfl) (fun _ => h1.others u hu)⟩)⟩
    · rw [if_neg (by simp [h2.flag])] at hs; cases hs
      exact ⟨hearly, hstale, .inr (.inr ⟨h2.flag, h2.runs, h2.done, h2.pub,
        fun u => upd_intro (fun _ => .inl (.inr rfl)) (fun _ => h2.pcs u),
        fun u hu => (upd_eq_cases hu).elim (fun h => nomatch h.2)
          (fun h => h2.seen u h.2)⟩)⟩
  case b1 | b2 | b3 =>
    cases hs
    have h1 := running_of_inv inv (t := tok.tid) (by simp [hpc, settled, waiting])
    have hb := h1.body
    simp only [atBody, hpc] at hb
    exact ⟨hearly, hstale, .inr (.inl ⟨_, running_next h1 rfl (fun u hu => upd_other _ _ _ _ hu)
      (by simp [atBody, hb])⟩)⟩
  case pub =>
    cases hs
    have h1 := running_of_inv inv (t := tok.tid) (by simp [hpc, settled, waiting])
    have hb := h1.body
    simp only [atBody, hpc] at hb
    exact ⟨hearly, hstale, .inr (.inr ⟨rfl, hb.1, hb.2.1, hb.2.2,
      fun u => upd_intro (fun _ => .inr (.inl rfl)) (fun hu => .inl (h1.others u hu)),
      fun u hu => (upd_eq_cases hu).elim (fun h => h.1 ▸ hb.2.2)
        (fun h => (h1.others u h.1).elim (fun e => nomatch e.symm.trans h.2) (fun e => nomatch e.symm.trans h.2))⟩)⟩
  case spin =>
    rcases ph with h0 | ⟨r, h1⟩ | h2
    · rw [if_neg (by simp [h0.flag])] at hs; cases hs; exact inv
    · rw [if_neg (by simp [h1.flag])] at hs; cases hs; exact inv
    · -- the acquire load joins what the runner published
      rw [if_pos h2.flag] at hs; cases hs
      exact ⟨hearly, hstale, .inr (.inr ⟨h2.flag, h2.runs, h2.done, h2.pub,
        fun u => upd_intro (fun _ => .inr (.inl rfl)) (fun _ => h2.pcs u),
        fun u hu => upd_intro (Q := (1 ∈ ·)) (fun _ => List.mem_append_right _ h2.pub)
          (fun hne => h2.seen u (by simpa [hne] using hu))⟩)⟩
  case ret =>
    cases hs
    have h2 := ready_of_inv inv (.inl hpc)
    have hk := h2.seen _ hpc
    exact ⟨by simp [h2.done, hearly], by simp [h2.done, hk, hstale],
      .inr (.inr ⟨h2.flag, h2.runs, h2.done, h2.pub,
        fun u => upd_intro (fun _ => .inr (.inr rfl)) (fun _ => h2.pcs u),
        fun u hu => (upd_eq_cases hu).elim (fun h => nomatch h.2)
          (fun h => h2.seen u h.2)⟩)⟩
  case done => cases hs

end MgProof.C04.OnceP
