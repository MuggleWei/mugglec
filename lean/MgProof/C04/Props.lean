import MgProof.C04.LockStep
import MgProof.C04.OnceStep
import MgProof.C04.RefStep
/-!
# C04 — property theorems

Property (properties.jsonl): spinlock, synclock and mutex admit at most one holder at a
time and what one holder wrote inside the critical section is visible to the next
holder; call_once runs the function exactly once however many threads race, and no
caller returns before that run has completed; a reference counter behaves as a
linearizable counter that can never be incremented or decremented again once it has
reached zero, so for any mix of concurrent retains and releases exactly one release
observes zero.

Quantifiers: every number of threads, every number of rounds / every program, every
schedule of every length (`Conc.Reach` = closure of the step relation under all tokens),
at the granularity of single shared-memory accesses of the compiled code.
-/
namespace MgProof.C04
open MgModel.Conc MgModel.C04

/-- **Mutual exclusion + visibility** for spinlock, synclock (strong CAS) and mutex (whose
exclusion is the model's: `mtx-lock` is enabled iff the lock is free): in every reachable state
at most one thread holds the lock, the harness's ghost check never fires, and no reader of the
protected data misses the latest write (`staleReads = 0`). -/
theorem lock_exclusion_and_visibility (k : Kind) (hk : k ≠ .sync true) (n rounds : Nat)
    (s : St) (hr : Reach step (mkInit k n rounds) s) :
    (∀ t u, holds s t → holds s u → t = u) ∧ s.viol = 0 ∧ s.staleReads = 0 ∧
    (∀ t, holds s t → s.lock = 1) := by
  have inv : LockInv k s :=
    Reach.inv (LockInv k) (lockInv_init k n rounds)
      (fun _ _ _ _ h hs => lock_step_inv hk h hs) s hr
  exact ⟨inv.excl, inv.viol, inv.stale, inv.locked⟩

/-- the ghost checks of it, for the run of any concrete schedule -/
theorem lock_exclusion_run (k : Kind) (hk : k ≠ .sync true) (n rounds : Nat) (sched : List Tok) :
    (runSched step (mkInit k n rounds) sched).1.viol = 0 ∧
    (runSched step (mkInit k n rounds) sched).1.staleReads = 0 := by
  have := lock_exclusion_and_visibility k hk n rounds _
    (reach_runSched step _ _ Reach.init sched)
  exact ⟨this.2.1, this.2.2.1⟩

/-- **Why `synclock.c` needs the strong compare-exchange** (/repo commit `fix: synclock lock must
use a strong compare-exchange`): with a weak one that fails spuriously the statement is false —
the schedule `1! 0 …` puts two threads inside the critical section, also on the real object code. -/
theorem synclock_weak_cas_fails :
    ∃ sched : List Tok, (runSched step (mkInit (.sync true) 2 1) sched).1.viol ≠ 0 := by
  refine ⟨[⟨1, .spur⟩, ⟨0, .none⟩], ?_⟩
  decide

-- the witness also loses an update
example : (runSched step (mkInit (.sync true) 2 1)
    [⟨1, .spur⟩, ⟨0, .none⟩, ⟨0, .none⟩, ⟨1, .none⟩, ⟨1, .none⟩, ⟨1, .none⟩, ⟨0, .none⟩,
     ⟨1, .none⟩, ⟨0, .none⟩, ⟨0, .none⟩]).1.data = 1 := by decide

-- a holder while another thread spins
example : holds (runSched step (mkInit .spin 2 1) [⟨1, .none⟩, ⟨0, .none⟩]).1 1 ∧
    (runSched step (mkInit .spin 2 1) [⟨1, .none⟩, ⟨0, .none⟩]).1.pc 0 = .yld := by
  constructor
  · left; decide
  · decide

/-- **call_once**: in every reachable state the harness's counter `body_runs` (a plain
read-then-write in the body) is at most 1, every caller that has returned did so after the body
completed (`early = 0`) and sees its writes (`staleReads = 0`), and then `body_runs = body_done = 1`.
That only one thread is ever inside the body is `OnceP.Running`, in the invariant. -/
theorem call_once_once (n : Nat) (s : Once.St) (hr : Reach Once.step (Once.mkInit n) s) :
    s.bodyRuns ≤ 1 ∧ s.early = 0 ∧ s.staleReads = 0 ∧
    (∀ t, s.pc t = .done → s.bodyRuns = 1 ∧ s.bodyDone = 1) := by
  have inv : OnceP.Inv s :=
    Reach.inv OnceP.Inv (OnceP.inv_init n) (fun _ _ _ _ h hs => OnceP.step_inv h hs) s hr
  refine ⟨?_, inv.early, inv.stale, fun t ht => ?_⟩
  · rcases inv.phase with h0 | ⟨r, h1⟩ | h2
    · exact h0.runs ▸ Nat.zero_le 1
    · exact OnceP.runs_le_of_atBody h1.body
    · exact h2.runs ▸ Nat.le_refl 1
  · have h2 := OnceP.ready_of_inv inv (.inr ht)
    exact ⟨h2.runs, h2.done⟩

-- a loser spins while the body runs and returns after it
example : (runSched Once.step (Once.mkInit 3)
    [⟨1, .none⟩, ⟨0, .none⟩, ⟨0, .none⟩, ⟨1, .none⟩, ⟨1, .none⟩, ⟨1, .none⟩, ⟨1, .none⟩,
     ⟨0, .none⟩, ⟨0, .none⟩]).1.pc 0 = .done := by decide

open RefP in
/-- **ref_cnt is linearizable to a counter saturating at zero**: in every reachable state the
completed operations, in completion order, with the results they returned, are a sequential run
of the specification counter from the initial value, ending at the current value. -/
theorem ref_cnt_linearizable (init : Nat) (progs : List (List RefCnt.Op)) (s : RefCnt.St)
    (hr : Reach RefCnt.step (RefCnt.mkInit init progs) s) :
    specRun init (s.log.map Prod.fst) = (s.ref, s.log.map Prod.snd) :=
  (Reach.inv (Inv init) (inv_init init progs) (fun _ _ _ _ h hs => step_inv h hs) s hr).lin

open RefP in
/-- **at most one operation observes zero, and it is a release; exactly one if the counter
started above zero and ended at zero**. -/
theorem ref_cnt_one_zero (init : Nat) (progs : List (List RefCnt.Op)) (s : RefCnt.St)
    (hr : Reach RefCnt.step (RefCnt.mkInit init progs) s) :
    (s.log.map Prod.snd).count (some 0) ≤ 1 ∧
    (init ≠ 0 → s.ref = 0 → (s.log.map Prod.snd).count (some 0) = 1) ∧
    (∀ i : Nat, (s.log.map Prod.snd)[i]? = some (some 0) → (s.log.map Prod.fst)[i]? = some RefCnt.Op.release) := by
  have lin := ref_cnt_linearizable init progs s hr
  have hcount := specRun_count_zero init (s.log.map Prod.fst)
  rw [lin] at hcount
  refine ⟨?_, fun hi hz => ?_, fun i hi => ?_⟩
  · rw [hcount]; split <;> omega
  · rw [hcount, if_pos ⟨hi, hz⟩]
  · exact specRun_zero_is_release init _ i (by rw [lin]; exact hi)

open RefP in
/-- zero is absorbing in the specification: from zero every retain and release fails and
the value stays zero. (About `specRun` alone; the implementation's log is a `specRun` history
by `ref_cnt_linearizable`.) -/
theorem ref_cnt_zero_absorbing (ops : List RefCnt.Op) :
    specRun 0 ops = (0, ops.map (fun _ => none)) := specRun_zero ops

-- `release` racing `retain; release` from 1
example : (runSched RefCnt.step (RefCnt.mkInit 1 [[.retain, .release], [.release]])
    [⟨1, .none⟩, ⟨0, .none⟩, ⟨0, .none⟩, ⟨1, .none⟩, ⟨0, .none⟩, ⟨0, .none⟩, ⟨1, .none⟩, ⟨1, .none⟩]).1.ref
    = 0 := by decide

end MgProof.C04
