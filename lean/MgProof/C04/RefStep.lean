import MgProof.C04.Lemmas
/-! `RefP.Inv` holds initially and is preserved; `lin_snoc` is the linearization step. -/
namespace MgProof.C04.RefP
open MgModel.Conc MgModel.C04 MgModel.C04.RefCnt

theorem inv_init (init : Nat) (progs : List (List Op)) : Inv init (RefCnt.mkInit init progs) :=
  ⟨rfl, fun _ _ h => nomatch h⟩

/-- the linearization point: an operation that does to `ref` what the specification does
extends the history -/
theorem lin_snoc {init : Nat} {s : RefCnt.St}
    (lin : specRun init (s.log.map Prod.fst) = (s.ref, s.log.map Prod.snd)) {op : Op} {c : Nat}
    {r : Option Nat} (h : specApply s.ref op = (c, r)) :
    specRun init ((s.log ++ [(op, r)]).map Prod.fst) = (c, (s.log ++ [(op, r)]).map Prod.snd) := by
  simp only [List.map_append, List.map_cons, List.map_nil]
  rw [specRun_snoc, lin, h]

theorem step_inv {init : Nat} {s s' : RefCnt.St} {tok : Tok} {ev : List String}
    (inv : Inv init s) (hs : RefCnt.step s tok = some (s', ev)) : Inv init s' := by
  obtain ⟨lin, hnz⟩ := inv
  have hread : casNz .read := fun _ h => nomatch h
  unfold RefCnt.step at hs
  simp only [] at hs  -- the `let`s
  by_cases hen : (!s.enabled tok.tid) = true
  · rw [if_pos hen] at hs; cases hs
  rw [if_neg hen] at hs
  cases hprog : s.prog tok.tid <;> simp only [hprog] at hs
  case nil => cases hs
  rename_i op rest
  cases hpc : s.pc tok.tid <;> simp only [hpc] at hs
  case read =>
    split at hs <;> cases hs
    · rename_i h0
      exact ⟨lin_snoc lin (by cases op <;> simp [specApply, h0]), hnz⟩
    · rename_i h0
      exact ⟨lin, fun u => upd_intro (fun _ v h => by cases h; exact h0) (fun _ => hnz u)⟩
  case cas v =>
    have hv : v ≠ 0 := hnz _ v hpc
    split at hs <;> cases hs
    · rename_i hr
      exact ⟨lin_snoc lin (by cases op <;> simp [specApply, hr, hv]),
        fun u => upd_intro (fun _ => hread) (fun _ => hnz u)⟩
    · exact ⟨lin, fun u => upd_intro (fun _ => hread) (fun _ => hnz u)⟩

end MgProof.C04.RefP
